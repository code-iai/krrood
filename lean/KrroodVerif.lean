import KrroodVerif.Sexp
import KrroodVerif.Model.Quantifier
import KrroodVerif.Props.C09
import KrroodVerif.Props.C09Lazy
import KrroodVerif.Model.QuantShape
import KrroodVerif.Props.C09Shape
import KrroodVerif.Props.C09Sched
import KrroodVerif.Model.Json
import KrroodVerif.Props.C18
import KrroodVerif.Props.C19
import KrroodVerif.Props.C18Tables
import KrroodVerif.Model.Predicate
import KrroodVerif.Props.C12
import KrroodVerif.Model.Eql
import KrroodVerif.Model.EqlFindings
import KrroodVerif.Model.EqlTrace
import KrroodVerif.Model.EqlTraceQ
import KrroodVerif.Model.EqlTraceN
import KrroodVerif.Model.EqlTraceSub
import KrroodVerif.Lemmas.EqlCover
import KrroodVerif.Lemmas.EqlAdds
import KrroodVerif.Lemmas.EqlCount
import KrroodVerif.Lemmas.EqlF1
import KrroodVerif.Props.C01
import KrroodVerif.Props.C02
import KrroodVerif.Lemmas.EqlTraceLemmas
import KrroodVerif.Props.C10
import KrroodVerif.Lemmas.EqlTraceQLemmas
import KrroodVerif.Props.C10Q
import KrroodVerif.Lemmas.EqlTraceNLemmas
import KrroodVerif.Props.C10N
import KrroodVerif.Lemmas.EqlTraceSubLemmas
import KrroodVerif.Props.C10Sub
import KrroodVerif.Model.Dom
import KrroodVerif.Model.DomIdx
import KrroodVerif.Lemmas.DomLemmas
import KrroodVerif.Props.C03
import KrroodVerif.Model.DomShape
import KrroodVerif.Lemmas.DomShapeLemmas
import KrroodVerif.Props.C03Shape
import KrroodVerif.Model.SqlTr
import KrroodVerif.Model.SqlTable
import KrroodVerif.Props.C07Frag
import KrroodVerif.Props.C07Table
import KrroodVerif.Props.C07
import KrroodVerif.Model.Dao
import KrroodVerif.Props.C04
import KrroodVerif.Props.C04Canon
import KrroodVerif.Props.C04Scalars
import KrroodVerif.Model.DaoProtocol
import KrroodVerif.Props.C04Protocol
import KrroodVerif.Props.C05
import KrroodVerif.Model.ClassDiagram
import KrroodVerif.Model.ClassDiagramPy
import KrroodVerif.Lemmas.KernelRfl
import KrroodVerif.Lemmas.ListBasics
import KrroodVerif.Props.C17
import KrroodVerif.Model.SymbolGraph
import KrroodVerif.Lemmas.SymbolGraphInv
import KrroodVerif.Lemmas.SymbolGraphAbs
import KrroodVerif.Props.C13
import KrroodVerif.Model.SymbolGraphTable
import KrroodVerif.Props.C13Table
import KrroodVerif.Model.SymbolGraphStep
import KrroodVerif.Props.C13Step
import KrroodVerif.Props.C13StepComplete
import KrroodVerif.Lemmas.HeapReach
import KrroodVerif.Lemmas.SpecOK
import KrroodVerif.Props.C14
import KrroodVerif.Props.C20
import KrroodVerif.Props.C20Run
import KrroodVerif.Model.OrmGen
import KrroodVerif.Lemmas.OrmGenLemmas
import KrroodVerif.Props.C06
import KrroodVerif.Model.OrmDispatch
import KrroodVerif.Props.C06T
import KrroodVerif.Model.Descriptor
import KrroodVerif.Props.C15
import KrroodVerif.Model.DescriptorRules
import KrroodVerif.Props.C15Rules
import KrroodVerif.Props.C16
import KrroodVerif.Model.MutatorTable
import KrroodVerif.Props.C16Table
import KrroodVerif.Model.DescriptorHalfBuilt
import KrroodVerif.Props.C16HalfBuilt
import KrroodVerif.Model.Match
import KrroodVerif.Props.C11
import KrroodVerif.Model.MatchTable
import KrroodVerif.Props.C11T
import KrroodVerif.Lemmas.EqlUnion
import KrroodVerif.Props.C01Union
import KrroodVerif.Model.Rule
import KrroodVerif.Props.C08
import KrroodVerif.Lemmas.RuleLayout
import KrroodVerif.Lemmas.RuleLayoutShape
import KrroodVerif.Lemmas.RuleBuild
import KrroodVerif.Props.C08Build
import KrroodVerif.Model.RuleTables
import KrroodVerif.Props.C08Tables
import KrroodVerif.Model.RuleHistory
import KrroodVerif.Props.C03Rules
import KrroodVerif.Lemmas.EqlTyping
import KrroodVerif.Props.C01Typed
import KrroodVerif.Model.EqlQuantFrag
import KrroodVerif.Lemmas.EqlQuant
import KrroodVerif.Props.C01Quant
import KrroodVerif.Model.EqlRewrites
import KrroodVerif.Model.EqlIR
import KrroodVerif.Model.EqlIRTable
import KrroodVerif.Model.EqlIRCheck
import KrroodVerif.Props.C01IR
import KrroodVerif.Props.C01IROr
import KrroodVerif.Props.C01IRVar
import KrroodVerif.Lemmas.EqlRewritesLemmas
import KrroodVerif.Props.C02Rewrites
