import KrroodVerif.Lemmas.EqlRewritesLemmas
import KrroodVerif.Lemmas.EqlAdds
/-!
Totality of true cells on `F2` and the counting argument behind `C02_multiplicity`: on `F2`, with duplicate-free
domains, the true result cells of `eval w (build c) []` are in bijection with the satisfying total assignments; what
`evalQuery` / `solutions` return (`evalQuery_inv`, `solutions_inv`). Core Lean only.
-/
namespace KrroodVerif.Eql

/-! ## Totality of true cells on `F2` -/

def Binds (env : Env) (vs : List VarId) : Prop := ∀ v ∈ vs, (env.lookup (.var v)).isSome = true

theorem sameSet_iff {a b : List VarId} (h : sameSet a b = true) : (∀ x ∈ a, x ∈ b) ∧ (∀ x ∈ b, x ∈ a) := by
  simpa [sameSet, List.all_eq_true] using h

theorem Expr.isAtom_bK {e : Expr} (h : e.isAtom = true) (pol : Bool) : Expr.bK pol e = e.nodes := by
  cases e with
  | cmp _ l r | contains l r | truth t | hasType t c => cases pol <;> rfl
  | _ => simp [Expr.isAtom] at h

/-- `sameSet` makes the filter in `Expr.bK true (.elseIf l r)` vacuous -/
theorem Expr.F2_vars_bK {e : Expr} (h : e.F2 = true) : ∀ v ∈ e.vars, Key.var v ∈ Expr.bK true e := by
  induction e with
  | and l r ihl ihr =>
    simp only [Expr.F2, Bool.and_eq_true] at h
    intro v hv
    simp only [Expr.bK, List.mem_append]
    exact (List.mem_append.mp hv).imp (ihl h.1 v) (ihr h.2 v)
  | elseIf l r ihl ihr =>
    simp only [Expr.F2, Bool.and_eq_true] at h
    obtain ⟨hlr, hrl⟩ := sameSet_iff h.2
    intro v hv
    have hl : v ∈ l.vars := (List.mem_append.mp hv).elim id (hrl v)
    simp only [Expr.bK, List.mem_filter, List.contains_iff_mem, List.mem_append]
    exact ⟨ihl h.1.1 v hl, Or.inr (ihr h.1.2 v (hlr v hl))⟩
  | not e _ =>
    intro v hv
    rw [Expr.bK, Expr.isAtom_bK h]
    exact Expr.mem_nodes_var.mpr hv
  | union l r _ _ | exists_ v e _ | forAll v e _ => simp [Expr.F2] at h
  | _ =>
    intro v hv
    rw [Expr.isAtom_bK (by simpa [Expr.isAtom, Expr.F2] using h)]
    exact Expr.mem_nodes_var.mpr hv

theorem eval_total (w : World) (e : Expr) :
    e.F2 = true → ∀ env rs, eval w e env = .ok rs → ∀ p ∈ rs, p.2 = true → Binds p.1 e.vars :=
  fun hF env rs h p hp hpt v hv => bK_sound w e env rs h p hp true hpt _ (Expr.F2_vars_bK hF v hv)

theorem topCell_facts {w : World} {e : Expr} (hq : e.hasQuant = false) {rs : List (Env × Bool)}
    (h : eval w e [] = .ok rs) {p : Env × Bool} (hp : p ∈ rs) :
    (keys p.1).Nodup ∧ ∀ v x, (Key.var v, x) ∈ p.1 → v ∈ e.vars ∧ x ∈ w.dom v := by
  obtain ⟨pre, hpre, hn, _, hprop⟩ := eval_grows w e hq [] rs h p hp
  rw [hpre, List.append_nil]
  exact ⟨hn, fun v x hm => (hprop _ hm).1 v rfl⟩

/-! ## Assignments -/

theorem mem_assignments {w : World} {vs : List VarId} :
    ∀ {σ : Asg}, σ ∈ assignments w vs ↔ σ.map (·.1) = vs ∧ ∀ p ∈ σ, p.2 ∈ w.dom p.1 := by
  induction vs with
  | nil =>
    intro σ
    simp only [assignments, List.mem_singleton, List.map_eq_nil_iff]
    constructor
    · rintro rfl
      simp
    · exact fun h => h.1
  | cons v rest ih =>
    intro σ
    simp only [assignments, List.mem_flatMap, List.mem_map, ih]
    constructor
    · rintro ⟨x, hx, σ', ⟨h1, h2⟩, rfl⟩
      exact ⟨by simp [h1], List.forall_mem_cons.mpr ⟨hx, h2⟩⟩
    · rintro ⟨h1, h2⟩
      match σ, h1, h2 with
      | (_, x) :: σ', e, hd =>
        simp only [List.map_cons, List.cons.injEq] at e
        obtain ⟨rfl, e⟩ := e
        obtain ⟨hx, hd⟩ := List.forall_mem_cons.mp hd
        exact ⟨x, hx, σ', ⟨e, hd⟩, rfl⟩

theorem assignments_nodup {w : World} (hnd : ∀ v, (w.dom v).Nodup) (vs : List VarId) :
    (assignments w vs).Nodup := by
  induction vs with
  | nil => simp [assignments]
  | cons v rest ih =>
    simp only [assignments, List.Nodup, List.pairwise_flatMap]
    constructor
    · intro x _
      exact List.Pairwise.map _ (fun a b hab h => hab (by simpa using h)) ih
    · exact List.Pairwise.imp (fun {x y} hxy a ha b hb hab => by
        simp only [List.mem_map] at ha hb
        obtain ⟨a', _, rfl⟩ := ha
        obtain ⟨b', _, rfl⟩ := hb
        simp only [List.cons.injEq, Prod.mk.injEq, true_and] at hab
        exact hxy hab.1) (hnd v)

theorem lookup_map_self {β} (f : VarId → β) (vs : List VarId) (v : VarId) :
    (vs.map fun u => (u, f u)).lookup v = if v ∈ vs then some (f v) else none := by
  induction vs with
  | nil => simp
  | cons u rest ih =>
    simp only [List.map_cons, List.lookup_cons, List.mem_cons]
    by_cases h : v = u
    · subst h
      simp
    · have : (v == u) = false := by simp [h]
      simp [this, ih, h]

theorem assignments_lookup {w : World} {vs : List VarId} {σ : Asg}
    (hσ : σ ∈ assignments w vs) {v : VarId} (hv : v ∈ vs) : ∃ x, σ.lookup v = some x ∧ x ∈ w.dom v := by
  obtain ⟨hm1, hm2⟩ := mem_assignments.mp hσ
  cases hl : σ.lookup v with
  | none => exact absurd (hm1 ▸ hv) (lookup_eq_none_iff_not_mem_keys.1 hl)
  | some x => exact ⟨x, rfl, hm2 _ (mem_of_lookup hl)⟩

theorem covers_of_assignments {w : World} {vs : List VarId} (hnd : ∀ v, (w.dom v).Nodup)
    {σ : Asg} (hσ : σ ∈ assignments w vs) {us : List VarId} (hus : ∀ u ∈ us, u ∈ vs) : Covers w σ us := by
  intro v hv
  obtain ⟨x, hx, hxd⟩ := assignments_lookup hσ (hus v hv)
  exact ⟨x, hx, by rw [(hnd v).count]; simp [hxd]⟩

theorem assignment_of_covers {w : World} {τ : Asg} {vs : List VarId} (h : Covers w τ vs) :
    ∃ σ ∈ assignments w vs, ∀ v ∈ vs, τ.lookup v = σ.lookup v := by
  refine ⟨vs.map fun v => (v, (τ.lookup v).getD .none), mem_assignments.mpr ⟨by simp [List.map_map, Function.comp_def], ?_⟩,
    fun v hv => ?_⟩
  · intro p hp
    obtain ⟨v, hv, rfl⟩ := List.mem_map.mp hp
    obtain ⟨x, hx, hc⟩ := h v hv
    rw [hx]
    apply List.count_pos_iff.mp
    show 0 < List.count x (w.dom v)
    rw [hc]
    decide
  · obtain ⟨x, hx, _⟩ := h v hv
    rw [lookup_map_self, if_pos hv, hx]
    rfl

/-- a cell read as an assignment of `vs` -/
def toAsg (vs : List VarId) (env : Env) : Asg := vs.map fun v => (v, (env.lookup (.var v)).getD .none)

/-- the row of the selected variables `svs`, from a cell and from an assignment -/
def projEnv (svs : List VarId) (env : Env) : List Val := svs.map fun v => (env.lookup (.var v)).getD .none
def projAsg (svs : List VarId) (σ : Asg) : List Val := svs.map fun v => (σ.lookup v).getD .none

theorem projAsg_toAsg {svs vs : List VarId} (hs : ∀ v ∈ svs, v ∈ vs) (env : Env) :
    projAsg svs (toAsg vs env) = projEnv svs env := by
  apply List.map_congr_left
  intro v hv
  simp [toAsg, lookup_map_self, hs v hv]

theorem toAsg_mem_assignments {w : World} {vs : List VarId} {env : Env} (hb : Binds env vs)
    (hd : ∀ v x, (Key.var v, x) ∈ env → x ∈ w.dom v) : toAsg vs env ∈ assignments w vs := by
  rw [mem_assignments]
  refine ⟨by simp [toAsg, List.map_map, Function.comp_def], ?_⟩
  intro p hp
  simp only [toAsg, List.mem_map] at hp
  obtain ⟨v, hv, rfl⟩ := hp
  obtain ⟨x, hl⟩ := Option.isSome_iff_exists.1 (hb v hv)
  rw [hl]
  exact hd v x (mem_of_lookup hl)

theorem agrees_eq_toAsg {vs : List VarId} {env : Env} {σ : Asg} (hk : (keys env).Nodup)
    (hv : ∀ v x, (Key.var v, x) ∈ env → v ∈ vs) (hb : Binds env vs) (hσ : σ.map (·.1) = vs)
    (hn : vs.Nodup) : agreesB σ env = (toAsg vs env == σ) := by
  rw [Bool.eq_iff_iff, agreesB_iff, beq_iff_eq]
  constructor
  · intro h
    subst hσ
    simp only [toAsg, List.map_map]
    -- each pair `p` of `σ` is rebuilt: the cell binds `p.1` to some `x`, agreement makes `σ.lookup p.1 = some x`, and `σ`, having
    -- distinct keys, looks `p.1` up as `p.2`
    refine (List.map_congr_left fun p hp => ?_).trans (List.map_id σ)
    obtain ⟨x, hl⟩ := Option.isSome_iff_exists.1 (hb p.1 (List.mem_map_of_mem hp))
    have := (lookup_of_mem_nodup hn hp).symm.trans (h p.1 x (mem_of_lookup hl))
    simp only [Function.comp, hl, Option.getD_some, ← Option.some.inj this]
    rfl
  · intro h v x hm
    rw [← h]
    simp [toAsg, lookup_map_self, hv v x hm, lookup_of_mem_nodup hk hm]

/-! ## `dedupNat` -/

theorem dedupNat_nodup (xs : List VarId) : (dedupNat xs).Nodup := nodup_foldl_dedup xs List.nodup_nil

theorem mem_dedupNat {xs : List VarId} {x : VarId} : x ∈ dedupNat xs ↔ x ∈ xs :=
  (mem_foldl_dedup xs [] x).trans (by simp)

/-! ## Queries -/

def Term.isVar : Term → Bool
  | .var _ => true
  | _ => false

/-- the selected expressions are plain variables that occur in the condition -/
def selOK (sel : List Term) (c : SExpr) : Bool :=
  sel.all Term.isVar && (sel.flatMap Term.vars).all (c.freeVars.contains ·)

theorem sel_plain {sel : List Term} (h : sel.all Term.isVar = true) :
    sel = (sel.flatMap Term.vars).map Term.var := by
  induction sel with
  | nil => rfl
  | cons t r ih =>
    simp only [List.all_cons, Bool.and_eq_true] at h
    cases t with
    | var v =>
      simp only [List.flatMap_cons, Term.vars, List.cons_append, List.nil_append, List.map_cons]
      rw [← ih h.2]
    | _ =>
      have h1 := h.1
      simp [Term.isVar] at h1

theorem flatMap_var (svs : List VarId) : (svs.map Term.var).flatMap Term.vars = svs := by
  induction svs with
  | nil => rfl
  | cons v r ih => simp [Term.vars, ih]

theorem product_singletons {α β} (f : α → β) (xs : List α) :
    product (xs.map fun x => [f x]) = [xs.map f] := by
  induction xs with
  | nil => rfl
  | cons x r ih => simp [product, ih]

/-- the values the descriptor computes for one selected expression from the bindings of a row -/
def selVals (w : World) (env : Env) (s : Term) : Except Err (List Val) := do
  let rs ← evalTerm w false s env
  pure (rs.map fun r => r.2.1)

theorem evalQuery_inv {w : World} {sel : List Term} {e : Expr} {rows : List (List Val)}
    (h : evalQuery w { sel := sel, cond := some e } = .ok rows) :
    ∃ (rs : List (Env × Bool)) (gF : Env → List (List Val)),
      eval w e [] = .ok rs ∧ rows = (rs.filter (·.2)).flatMap (fun p => gF p.1) ∧
      ∀ p ∈ rs, p.2 = true → ∃ per, sel.mapM (selVals w p.1) = .ok per ∧ gF p.1 = product per := by
  unfold evalQuery at h
  obtain ⟨rs, hrs, h⟩ := bind_ok h
  obtain ⟨T, hT, h⟩ := bind_ok h
  cases pure_ok hT
  obtain ⟨gF, hgF, rfl⟩ := flatMapM_ok h
  refine ⟨rs, gF, hrs, List.flatMap_map .., fun p hp hpt => ?_⟩
  obtain ⟨per, hper, hp⟩ := bind_ok (hgF p.1 (List.mem_map.mpr ⟨p, List.mem_filter.mpr ⟨hp, hpt⟩, rfl⟩))
  exact ⟨per, hper, (pure_ok hp).symm⟩

theorem solutions_inv {w : World} {sel : List Term} {c : SExpr} {rows' : List (List Val)}
    (h : solutions w { sel := sel, cond := some c } = .ok rows') :
    ∃ (pred : Asg → Bool) (g' : Asg → List Val),
      (∀ σ ∈ assignments w (SQuery.vars { sel := sel, cond := some c }), sat w c σ = .ok (pred σ)) ∧
      (∀ σ ∈ (assignments w (SQuery.vars { sel := sel, cond := some c })).filter pred,
        sel.mapM (tval w σ) = .ok (g' σ)) ∧
      rows' = ((assignments w (SQuery.vars { sel := sel, cond := some c })).filter pred).map g' := by
  unfold solutions at h
  obtain ⟨sols, hsols, h⟩ := bind_ok h
  obtain ⟨pred, hpred, rfl⟩ := filterM_ok hsols
  obtain ⟨g', hg', rfl⟩ := mapM_ok h
  exact ⟨pred, g', hpred, hg', rfl⟩

theorem mem_queryVars {sel : List Term} {c : SExpr} {v : VarId} :
    v ∈ SQuery.vars { sel := sel, cond := some c } ↔ v ∈ sel.flatMap Term.vars ∨ v ∈ c.freeVars := by
  rw [SQuery.vars, mem_dedupNat, List.mem_append]

theorem selRow (w : World) (env : Env) (svs : List VarId) (hb : Binds env svs) :
    (svs.map Term.var).mapM (selVals w env) =
      .ok (svs.map fun v => [(env.lookup (Key.var v)).getD .none]) := by
  induction svs with
  | nil => rfl
  | cons v r ih =>
    rw [List.map_cons, List.mapM_cons, ih (fun u hu => hb u (List.mem_cons_of_mem _ hu))]
    obtain ⟨x, hl⟩ := Option.isSome_iff_exists.1 (hb v List.mem_cons_self)
    simp only [selVals, evalTerm, evalVarAt, hl, List.map_cons, Option.getD_some]
    rfl

theorem selTval (w : World) (σ : Asg) (svs : List VarId) (hb : ∀ v ∈ svs, (σ.lookup v).isSome = true) :
    (svs.map Term.var).mapM (tval w σ) = .ok (projAsg svs σ) := by
  induction svs with
  | nil => rfl
  | cons v r ih =>
    rw [List.map_cons, List.mapM_cons, ih (fun u hu => hb u (List.mem_cons_of_mem _ hu))]
    obtain ⟨x, hl⟩ := Option.isSome_iff_exists.1 (hb v List.mem_cons_self)
    simp only [tval, hl, projAsg, List.map_cons, Option.getD_some]
    rfl

theorem count_true_cells {σ : Asg} {rs : List (Env × Bool)} {b : Bool}
    (h : (rs.filter fun p => agreesB σ p.1).map (·.2) = [b]) :
    ((rs.filter (·.2)).filter fun p => agreesB σ p.1).length = if b then 1 else 0 := by
  obtain ⟨a, ha, hab⟩ := List.map_eq_singleton_iff.1 h
  have : (rs.filter (·.2)).filter (fun p => agreesB σ p.1) =
      (rs.filter fun p => agreesB σ p.1).filter (·.2) := by
    rw [List.filter_filter, List.filter_filter]
    apply List.filter_congr
    intro p _
    exact Bool.and_comm _ _
  rw [this, ha]
  subst hab
  cases h2 : a.2 <;> simp [h2]

/-- Counting core of C02: with plain selected variables `svs` that occur in the `F2` condition `c`, evaluation and the
first-order specification agree as multisets of rows -/
theorem multiplicity_core (w : World) (svs : List VarId) (c : SExpr) (hF : c.F2 = true)
    (hocc : ∀ v ∈ svs, v ∈ c.freeVars)
    (hnd : ∀ v, (w.dom v).Nodup) (hlit : LitNodup (build c))
    {rows rows' : List (List Val)}
    (h1 : evalQuery w { sel := svs.map Term.var, cond := some (build c) } = .ok rows)
    (h2 : solutions w { sel := svs.map Term.var, cond := some c } = .ok rows') :
    rows.Perm rows' := by
  have heF := build_F2 hF
  have hev := build_vars_qf (Expr.Fc_noQuant (Expr.F2_Fc heF))
  obtain ⟨rs, gF, hrs, rfl, hgF⟩ := evalQuery_inv h1
  obtain ⟨pred, g', hpred, hg', rfl⟩ := solutions_inv h2
  generalize hvs : SQuery.vars { sel := svs.map Term.var, cond := some c } = vs at hpred hg' ⊢
  have hvsn : vs.Nodup := hvs ▸ dedupNat_nodup _
  have hvsm : ∀ v, v ∈ vs ↔ v ∈ (build c).vars := by
    intro v
    rw [← hvs, mem_queryVars, flatMap_var, hev]
    exact ⟨fun h => h.elim (hocc v) id, Or.inr⟩
  have hsv : ∀ v ∈ svs, v ∈ vs := fun v hv => (hvsm v).mpr (hev ▸ hocc v hv)
  -- a true cell binds exactly the variables of the query, to values of their domains
  have hcell : ∀ p ∈ rs, p.2 = true →
      (keys p.1).Nodup ∧ (∀ v x, (Key.var v, x) ∈ p.1 → v ∈ vs ∧ x ∈ w.dom v) ∧ Binds p.1 vs := by
    intro p hp hpt
    obtain ⟨f1, f2⟩ := topCell_facts (Expr.Fc_noQuant (Expr.F2_Fc heF)) hrs hp
    exact ⟨f1, fun v x hm => ⟨(hvsm v).mpr (f2 v x hm).1, (f2 v x hm).2⟩,
      fun v hv => eval_total w _ heF [] rs hrs p hp hpt v ((hvsm v).mp hv)⟩
  -- a true cell gives ONE row: every selected variable is bound in it, so each selected expression has one value and the product
  -- of the singletons is the row of the cell read as an assignment
  have hrows : (rs.filter (·.2)).flatMap (fun p => gF p.1) =
      ((rs.filter (·.2)).map fun p => toAsg vs p.1).map (projAsg svs) := by
    rw [List.map_map]
    refine (flatMap_congr' fun p hp => ?_).trans List.map_eq_flatMap.symm
    obtain ⟨hp, hpt⟩ := List.mem_filter.mp hp
    obtain ⟨per, hper, hgp⟩ := hgF p hp hpt
    rw [selRow w p.1 svs fun v hv => (hcell p hp hpt).2.2 v (hsv v hv)] at hper
    cases hper
    rw [hgp, product_singletons]
    show [projEnv svs p.1] = _
    rw [Function.comp, projAsg_toAsg hsv]
  have hrows' : ((assignments w vs).filter pred).map g' = ((assignments w vs).filter pred).map (projAsg svs) := by
    apply List.map_congr_left
    intro σ hσ
    have := hg' σ hσ
    rw [selTval w σ svs (fun v hv => by
      obtain ⟨x, hx, _⟩ := assignments_lookup (List.mem_filter.mp hσ).1 (hsv v hv)
      simp [hx])] at this
    exact (Except.ok.inj this).symm
  rw [hrows, hrows']
  apply List.Perm.map
  -- the bijection between true cells and satisfying assignments: count the occurrences of each `σ`
  rw [List.perm_iff_count]
  intro σ
  by_cases hσ : σ ∈ assignments w vs
  · obtain ⟨hm1, _⟩ := mem_assignments.mp hσ
    have hcover := C01_cover w σ (build c) (Expr.F2_Fc heF)
      (covers_of_assignments hnd hσ fun v hv => (hvsm v).mpr hv) hlit [] rs (pred σ)
      (fun _ _ => rfl) (agreesB_nil σ) hrs (satE_build w c σ ▸ hpred σ hσ)
    have hL : ((rs.filter (·.2)).map fun p => toAsg vs p.1).count σ = if pred σ then 1 else 0 := by
      rw [List.count_eq_countP, List.countP_map, List.countP_eq_length_filter, ← count_true_cells hcover]
      congr 1
      apply List.filter_congr
      intro p hp
      obtain ⟨hp, hpt⟩ := List.mem_filter.mp hp
      obtain ⟨f1, f2, f3⟩ := hcell p hp hpt
      simp only [Function.comp]
      rw [agrees_eq_toAsg f1 (fun v x hm => (f2 v x hm).1) f3 hm1 hvsn]
    have hR : ((assignments w vs).filter pred).count σ = if pred σ then 1 else 0 := by
      cases hp : pred σ with
      | true =>
        rw [List.count_filter (by simpa using hp), (assignments_nodup hnd vs).count]
        simp [hσ]
      | false =>
        simp only [Bool.false_eq_true, if_false]
        rw [List.count_eq_zero]
        intro hm
        rw [(List.mem_filter.mp hm).2] at hp
        cases hp
    rw [hL, hR]
  · have hL : ((rs.filter (·.2)).map fun p => toAsg vs p.1).count σ = 0 := by
      rw [List.count_eq_zero]
      intro hm
      obtain ⟨p, hp, rfl⟩ := List.mem_map.mp hm
      obtain ⟨hp, hpt⟩ := List.mem_filter.mp hp
      obtain ⟨_, f2, f3⟩ := hcell p hp hpt
      exact hσ (toAsg_mem_assignments f3 (fun v x hm => (f2 v x hm).2))
    have hR : ((assignments w vs).filter pred).count σ = 0 := by
      rw [List.count_eq_zero]
      exact fun hm => hσ (List.mem_filter.mp hm).1
    rw [hL, hR]

/-! ## Observations for the tests in `Props/C01*.lean`, `Props/C02.lean` -/

deriving instance DecidableEq for Except

/-- the two outcomes are the same *set* of rows (or the same error) -/
def sameAnswers (a b : Except Err (List (List Val))) : Bool :=
  match a, b with
  | .ok x, .ok y => x.all (y.contains ·) && y.all (x.contains ·)
  | .error e, .error f => e == f
  | _, _ => false

/-- object of the test class used by the recorded witnesses: `(o 0 <veq> (a _) (f _) (items _) (m_dbl _))` -/
def cexObj (veq : Bool) (a : Int) (f : Bool) (items : List Int) (m : Int) : Obj :=
  { cls := 0, veq := veq,
    fields := [("a", .int a), ("f", .bool f), ("items", .list items), ("m_dbl", .int m)] }

end KrroodVerif.Eql
