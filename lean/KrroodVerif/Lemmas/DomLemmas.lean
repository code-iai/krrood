import KrroodVerif.Model.Dom
import KrroodVerif.Lemmas.ListBasics
import KrroodVerif.Model.DomIdx
/-!
Lemmas for property C03 over M-DOM (`Model/Dom.lean`, `Model/DomIdx.lean`) that do not depend on how a cursor advances:
iterator tables, the specification, the schedule disciplines, and `run` on states that differ in an iterator nobody
advances (for `C03_abandon_irrelevant`).

An iterator agrees with the specification's counter `k` when the list `l` of what its cursor would still hand out
satisfies `l.filter sat = (isolated n sat).drop k`. One query `next()` pops `l` up to and including its first satisfying
element (`Outcome`) and the specification pops `(isolated n sat).drop k` once (`specRun_next`). That the machines do so is
proved once for the interpreted machine of every accepted shape in `Lemmas/DomShapeLemmas.lean`; `Rem`, `Good`, `NoInv`,
`FullInv` below say the same of the two hand-written machines and are what `C03_nonoverlap_partial_from` and
`C03_full_from` (`Props/C03.lean`) assume.
-/
namespace KrroodVerif.Dom

/-! ### lists and iterator tables

`(i, v) :: l.filter (·.1 != i)` sets key `i` of a table, `l.filter (·.1 != i)` erases it. -/

theorem drop_eq_cons {α : Type} {L : List α} {k : Nat} {x : α} {t : List α} (h : L.drop k = x :: t) :
    L[k]? = some x ∧ L.drop (k + 1) = t := by
  constructor
  · rw [← List.head?_drop, h]
    rfl
  · rw [← List.tail_drop, h]
    rfl

theorem lookup_set {β : Type} (l : List (Nat × β)) (i j : Nat) (v : β) :
    ((i, v) :: l.filter (·.1 != i)).lookup j = if j = i then some v else l.lookup j := by
  by_cases h : j = i
  · simp [h]
  · rw [lookup_cons_ne h, lookup_filter_fst_ne, if_neg h, if_neg h]

theorem mem_filter_ne {fresh : List Nat} {i c : Nat} : c ∈ fresh.filter (· != i) ↔ c ∈ fresh ∧ c ≠ i := by
  simp [List.mem_filter]

/-! ### the specification -/

/-- what one query `next()` does to the list `F` of satisfying elements an iterator has left (`F'`: left afterwards) -/
def Outcome (F : List Nat) (o : Out) (F' : List Nat) : Prop :=
  (F = [] ∧ o = .stop ∧ F' = []) ∨ ∃ x, F = x :: F' ∧ o = .val x

theorem Outcome.stop : Outcome [] .stop [] :=
  .inl ⟨rfl, rfl, rfl⟩

theorem Outcome.val (x : Nat) (F' : List Nat) : Outcome (x :: F') (.val x) F' :=
  .inr ⟨x, rfl, rfl⟩

theorem specRun_next_nil {n : Nat} {sats : Nat → List Nat} {st : List (Nat × Nat)} {i k : Nat}
    (hk : st.lookup i = some k) (h : (isolated n (sats i)).drop k = []) (ops : List Op) :
    specRun n sats st (.next i :: ops) = some .stop :: specRun n sats st ops := by
  simp only [specRun, hk, List.getElem?_eq_none (List.drop_eq_nil_iff.1 h)]

theorem specRun_next_cons {n : Nat} {sats : Nat → List Nat} {st : List (Nat × Nat)} {i k x : Nat} {t : List Nat}
    (hk : st.lookup i = some k) (h : (isolated n (sats i)).drop k = x :: t) (ops : List Op) :
    specRun n sats st (.next i :: ops) =
      some (.val x) :: specRun n sats ((i, k + 1) :: st.filter (·.1 != i)) ops := by
  simp only [specRun, hk, (drop_eq_cons h).1]

theorem specRun_next {n : Nat} {sats : Nat → List Nat} {st : List (Nat × Nat)} {i k : Nat} {o : Out} {F' : List Nat}
    (hk : st.lookup i = some k)
    (hres : Outcome ((isolated n (sats i)).drop k) o F') :
    ∃ st' k', (∀ c, st'.lookup c = if c = i then some k' else st.lookup c) ∧ F' = (isolated n (sats i)).drop k' ∧
      ∀ ops, specRun n sats st (.next i :: ops) = some o :: specRun n sats st' ops := by
  rcases hres with ⟨hnil, rfl, rfl⟩ | ⟨x, hx, rfl⟩
  · refine ⟨st, k, fun c => ?_, hnil.symm, specRun_next_nil hk hnil⟩
    by_cases hci : c = i
    · simp only [hci, if_true, hk]
    · simp only [hci, if_false]
  · exact ⟨_, k + 1, fun c => lookup_set .., (drop_eq_cons hx).2.symm, specRun_next_cons hk hx⟩

theorem specRun_replicate_next (n : Nat) (sats : Nat → List Nat) (i : Nat) : ∀ (m k : Nat) (st : List (Nat × Nat)),
    st.lookup i = some k → k + m = (isolated n (sats i)).length →
    specRun n sats st (List.replicate (m + 1) (.next i)) =
      ((isolated n (sats i)).drop k).map (fun x => some (.val x)) ++ [some .stop] := by
  intro m
  induction m with
  | zero =>
    intro k st hk hlen
    have h : (isolated n (sats i)).drop k = [] := List.drop_eq_nil_of_le (by omega)
    rw [List.replicate_one, specRun_next_nil hk h, h]
    rfl
  | succ m ih =>
    intro k st hk hlen
    have h := List.drop_eq_getElem_cons (show k < (isolated n (sats i)).length by omega)
    rw [List.replicate_succ, specRun_next_cons hk h, h, ih (k + 1) _ List.lookup_cons_self (by omega)]
    rfl

theorem specRun_alone (n : Nat) (sats : Nat → List Nat) (i : Nat) :
    specRun n sats [] (.start i :: List.replicate ((isolated n (sats i)).length + 1) (.next i)) =
      none :: (isolated n (sats i)).map (fun x => some (.val x)) ++ [some .stop] := by
  simp only [specRun]
  rw [specRun_replicate_next n sats i _ 0 _ (by simp) (by simp)]
  simp

theorem specRun_no_error (n : Nat) (sats : Nat → List Nat) (ops : List Op) (st : List (Nat × Nat)) :
    some Out.runtimeError ∉ specRun n sats st ops := by
  fun_induction specRun n sats st ops <;> simp_all

/-! ### the invariants of the hand-written machines -/

/-- `Rem d c l`: `l` is what the cursor `c` would still hand out over `d` if nobody else touched `d` -/
def Rem (d : Dom) : Cursor → List Nat → Prop
  | .fresh, l => l = d.cache ++ d.rest
  | .replay i size, l => size = d.cache.length ∧ l = d.cache.drop i ++ d.rest
  | .drain, l => l = d.rest
  | .done, l => l = []

/-- iterator `c` is in a state from which, if only it is advanced, it behaves like the specification with counter `k` -/
def Good (n : Nat) (sats : Nat → List Nat) (s : State) (st : List (Nat × Nat)) (c : Nat) : Prop :=
  ∃ q k l, s.get c = some q ∧ q.sat = sats c ∧ st.lookup c = some k ∧ Rem s.dom q.cur l ∧
    l.filter ((sats c).contains ·) = (isolated n (sats c)).drop k

/-- what `noOverlapAux act fresh` maintains -/
def NoInv (n : Nat) (sats : Nat → List Nat) (s : State) (st : List (Nat × Nat)) (act : Option Nat)
    (fresh : List Nat) : Prop :=
  s.dom.cache ++ s.dom.rest = List.range n ∧
  (∀ c, act = some c → Good n sats s st c ∧ c ∉ fresh) ∧
  (∀ c, c ∈ fresh → s.get c = some ⟨.fresh, sats c⟩ ∧ st.lookup c = some 0)

/-- what every schedule maintains for index cursors -/
def FullInv (n : Nat) (sats : Nat → List Nat) (s : StateIdx) (st : List (Nat × Nat)) : Prop :=
  s.dom.cache ++ s.dom.rest = List.range n ∧
  (∀ i, s.get i = none → st.lookup i = none) ∧
  ∀ i q, s.get i = some q → q.sat = sats i ∧ q.idx ≤ s.dom.cache.length ∧
    ∃ k, st.lookup i = some k ∧
      ((List.range n).drop q.idx).filter ((sats i).contains ·) = (isolated n (sats i)).drop k

/-! ### the schedule disciplines -/

theorem eq_some_of_close {act : Option Nat} {i c : Nat} (h : (if (act == some i) = true then none else act) = some c) :
    act = some c ∧ c ≠ i := by
  by_cases h' : act = some i
  · simp [h'] at h
  · have : (act == some i) = false := by simp [h']
    simp only [this] at h
    refine ⟨h, ?_⟩
    rintro rfl
    exact h' h

/-- the two disciplines run side by side: the iterator `sequentialAux` calls current is, for `noOverlapAux`, the open one
or a fresh one (it was started and `sequential` lets nobody else be advanced since) -/
theorem sequentialAux_noOverlapAux (ops : List Op) (cur : Option Nat) (dead : List Nat) (act : Option Nat)
    (fresh : List Nat) (hrel : ∀ c, cur = some c → act = some c ∨ c ∈ fresh) (hseq : sequentialAux cur dead ops = true) :
    noOverlapAux act fresh ops = true := by
  fun_induction sequentialAux cur dead ops generalizing act fresh with
  | case1 => rfl
  | case2 cur dead i ops ih =>
    -- `start i`
    refine ih _ _ (fun c hc => ?_) hseq
    cases hc
    exact .inr (List.mem_cons_self ..)
  | case3 cur dead i ops ih =>
    -- `abandon i`
    refine ih _ _ (fun c hc => ?_) hseq
    obtain ⟨hc1, hc2⟩ := eq_some_of_close hc
    rcases hrel c hc1 with h | h
    · left
      have : (act == some i) = false := by simp [h, hc2]
      simp only [this]
      exact h
    · right
      exact List.mem_filter.mpr ⟨h, by simpa using hc2⟩
  | case4 cur dead i ops hci ih =>
    -- `next i` on the current iterator
    have hci : cur = some i := eq_of_beq hci
    simp only [noOverlapAux]
    by_cases h : act = some i
    · subst h
      simp only [beq_self_eq_true, if_true]
      exact ih _ _ hrel hseq
    · have hb : (act == some i) = false := by simp [h]
      have hf : fresh.contains i = true := by simpa using (hrel i hci).resolve_left h
      simp only [hb, hf, if_true]
      exact ih _ _ (fun c hc => .inl (hci ▸ hc)) hseq
  | case5 => cases hseq

theorem sequential_noOverlap {ops : List Op} (h : sequential ops = true) : noOverlap ops = true :=
  sequentialAux_noOverlapAux ops none [] none [] (fun _ hc => nomatch hc) h

theorem sequentialAux_replicate (i : Nat) (dead : List Nat) : ∀ m,
    sequentialAux (some i) dead (List.replicate m (.next i)) = true := by
  intro m
  induction m with
  | zero => rfl
  | succ m ih => simp [List.replicate_succ, sequentialAux, ih]

/-! ### `run` on appended schedules and on states that differ in an iterator nobody advances -/

theorem run_length (sats : Nat → List Nat) : ∀ (ops : List Op) (s : State), (run sats s ops).length = ops.length := by
  intro ops
  induction ops with
  | nil =>
    intro s
    rfl
  | cons op ops ih =>
    intro s
    simp only [run, List.length_cons, ih]

theorem run_append (sats : Nat → List Nat) : ∀ (a b : List Op) (s : State),
    run sats s (a ++ b) = run sats s a ++ run sats (stateAfter sats s a) b := by
  intro a
  induction a with
  | nil =>
    intro b s
    rfl
  | cons op a ih =>
    intro b s
    simp only [List.cons_append, run, stateAfter, List.foldl_cons]
    rw [ih]
    rfl

/-- an iterator whose entries differ is never asked before it is started again, and `start` overwrites the entry -/
theorem run_agree (sats : Nat → List Nat) : ∀ (ops : List Op) (s1 s2 : State), s1.dom = s2.dom →
    (∀ j, s1.get j = s2.get j ∨ neverAdvanced j ops = true) → run sats s1 ops = run sats s2 ops := by
  intro ops
  induction ops with
  | nil =>
    intros
    rfl
  | cons op ops ih =>
    intro s1 s2 hd hag
    cases op with
    | start i =>
      simp only [run, run1]
      congr 1
      refine ih _ _ hd fun j => ?_
      simp only [State.get, State.set, lookup_set]
      by_cases hji : j = i
      · simp only [hji, if_true, true_or]
      · have hij : ¬ i = j := fun h => hji h.symm
        simpa only [State.get, hji, if_false, neverAdvanced, hij] using hag j
    | abandon i =>
      simp only [run, run1]
      congr 1
      refine ih _ _ hd fun j => ?_
      simp only [State.get, lookup_filter_fst_ne]
      by_cases hji : j = i
      · simp only [hji, if_true, true_or]
      · simpa only [State.get, hji, if_false, neverAdvanced] using hag j
    | next i =>
      have hget : s1.get i = s2.get i := (hag i).resolve_right (by simp [neverAdvanced])
      simp only [run, run1, ← hget, ← hd]
      have hrest : ∀ j, j ≠ i → s1.get j = s2.get j ∨ neverAdvanced j ops = true := fun j hji => by
        have hij : ¬ i = j := fun h => hji h.symm
        simpa only [neverAdvanced, hij, if_false] using hag j
      cases s1.get i with
      | none =>
        simp only
        congr 1
        refine ih _ _ hd fun j => ?_
        by_cases hji : j = i
        · exact .inl (hji ▸ hget)
        · exact hrest j hji
      | some q =>
        simp only
        congr 1
        refine ih _ _ rfl fun j => ?_
        simp only [State.get, lookup_set]
        by_cases hji : j = i
        · simp only [hji, if_true, true_or]
        · simpa only [State.get, hji, if_false] using hrest j hji

end KrroodVerif.Dom
