import KrroodVerif.Lemmas.SymbolGraphInv
/-!
`St.abs` reads a state of the model at the level of objects (labels), forgetting node indices, ids and the index structures.
What each primitive mutation of heap and registry does at that level, and `add_to_graph` piece by piece (`Sims`): ONE walk
through the inference that yields both that the registry stays consistent (`Keeps`, for wrappers alive or dead) and that
the model does what the index-free specification `specAddFact` does (for live ones).
-/
namespace KrroodVerif.SG

variable {σ : Type}

/-- nothing went wrong that the two C14 quirks can cause -/
def OK (q : Quirks) (st : St σ) : Prop :=
  (q.staleRelIndex = false ∨ st.staleHit = false) ∧ (q.deadEndpointRaises = false ∨ st.deadHit = false)

theorem Inv.not_err_of_OK {q : Quirks} {st : St σ} (hI : Inv q st) (hok : OK q st) : st.err = false := by
  rcases hok.2 with hq | hd
  · exact hI.err_false hq
  · cases h : st.err with
    | false => rfl
    | true =>
      rw [(hI.errFlag h).1] at hd
      cases hd

-- the two filters of `St.abs`
def liveW (h : Heap) (w : W) : Bool := h.isLive w.obj
def liveE (h : Heap) (e : Edge) : Bool := h.isLive e.src.obj && h.isLive e.tgt.obj

theorem abs_def (st : St σ) : st.abs =
    { h := st.h, reg := (st.g.nodes.filter (liveW st.h)).map W.toR,
      edges := (st.g.edges.filter (liveE st.h)).map Edge.toA } := rfl

@[simp] theorem abs_h (st : St σ) : st.abs.h = st.h := rfl
@[simp] theorem W.toR_obj (w : W) : w.toR.obj = w.obj := rfl
@[simp] theorem W.toR_cls (w : W) : w.toR.cls = w.cls := rfl

theorem Frame.isLive {st st' : St σ} (h : Frame st st') : st'.h.isLive = st.h.isLive := isLive_eq_of_live h.live

/-! ### the primitive mutations at the level of objects -/

theorem abs_heap (st : St σ) (h' : Heap) (hl : h'.live = st.h.live) :
    ({ st with h := h' } : St σ).abs = { st.abs with h := h' } := by
  simp only [St.abs, isLive_eq_of_live hl]

theorem abs_kill (st : St σ) (D : List Obj) :
    ({ st with h := st.h.kill D } : St σ).abs = ({ st.abs with h := st.h.kill D } : Spec).prune := by
  simp only [abs_def, Spec.prune, List.filter_map, List.filter_filter]
  congr 2
  · apply List.filter_congr
    intro w _
    simp only [liveW, Function.comp, W.toR, kill_isLive]
    cases st.h.isLive w.obj
    · simp
    · simp
  · apply List.filter_congr
    intro e _
    simp only [liveE, Function.comp, Edge.toA, W.toR, kill_isLive]
    cases st.h.isLive e.src.obj
    · simp
    · cases st.h.isLive e.tgt.obj
      · simp
      · simp

theorem abs_collect (q : Quirks) (st : St σ) (h' : Heap) (hl : h'.live = st.h.live) :
    ({ st with h := h'.collect q } : St σ).abs = ({ st.abs with h := h'.collect q } : Spec).prune := by
  have := abs_kill ({ st with h := h' } : St σ) (h'.garbage q)
  rwa [abs_heap st h' hl] at this

theorem foldl_removeNode_edges_eq (q : Quirks) (a : Alloc σ) : ∀ (l : List W) (g : SG σ),
    (l.foldl (SG.removeNode q a) g).edges =
      g.edges.filter (fun e => l.all (fun w => e.src.idx != w.idx && e.tgt.idx != w.idx))
  | [], g => by simpa using (List.filter_eq_self.2 fun _ _ => rfl).symm
  | x :: l, g => by
    simp only [List.foldl_cons]
    rw [foldl_removeNode_edges_eq q a l]
    simp only [SG.removeNode, List.filter_filter, List.all_cons]
    apply List.filter_congr
    intro e _
    rw [Bool.and_comm]

theorem abs_sweep {q : Quirks} {a : Alloc σ} {st : St σ} (hI : Inv q st) :
    ({ st with g := SG.sweep q a st.g st.h.isLive } : St σ).abs = st.abs := by
  have hdead : ∀ w, w ∈ sortByIdx (st.g.nodes.filter (fun w => !st.h.isLive w.obj)) ↔
      w ∈ st.g.nodes ∧ st.h.isLive w.obj = false := by
    intro w
    rw [mem_sortByIdx, List.mem_filter]
    simp
  simp only [abs_def, SG.sweep]
  rw [foldl_removeNode_nodes_eq q a _ _ hI.nodesNodup, foldl_removeNode_edges_eq, List.filter_filter,
    List.filter_filter]
  congr 2
  · apply List.filter_congr
    intro w hw
    cases hl : liveW st.h w with
    | false => simp
    | true =>
      simp only [Bool.true_and, Bool.not_eq_eq_eq_not, Bool.not_true]
      rw [← Bool.not_eq_true, List.contains_iff_mem, hdead]
      rintro ⟨_, h⟩
      simp [liveW, h] at hl
  · apply List.filter_congr
    intro e he
    cases hl : liveE st.h e with
    | false => simp
    | true =>
      -- a live edge shares no node index with a dead node: indices are injective on the nodes
      simp only [Bool.true_and, List.all_eq_true, Bool.and_eq_true, bne_iff_ne, ne_eq]
      intro w hw
      rw [hdead] at hw
      have hn := hI.edgeNodes e he
      simp only [liveE, Bool.and_eq_true] at hl
      constructor
      · intro hc
        rw [hI.idxInj _ hn.1 _ hw.1 hc, hw.2] at hl
        exact absurd hl.1 (by simp)
      · intro hc
        rw [hI.idxInj _ hn.2 _ hw.1 hc, hw.2] at hl
        exact absurd hl.2 (by simp)

theorem abs_addNode {q : Quirks} {a : Alloc σ} {st : St σ} (hI : Inv q st) (x : HObj) (h' : Heap)
    (hlive : ∀ o, h'.isLive o = (st.h.isLive o || x.obj == o))
    (hnone : ∀ w ∈ st.g.nodes, w.obj ≠ x.obj) :
    ({ st with g := (SG.addNode a st.g x.obj x.cls x.pid).1, h := h' } : St σ).abs =
      { st.abs with reg := st.abs.reg ++ [⟨x.obj, x.cls⟩], h := h' } := by
  have hne : ∀ w ∈ st.g.nodes, (x.obj == w.obj) = false := fun w hw =>
    beq_eq_false_iff_ne.2 fun h => hnone w hw h.symm
  simp only [abs_def, SG.addNode, List.filter_append, List.map_append]
  congr 1
  · congr 1
    · congr 1
      apply List.filter_congr
      intro w hw
      simp [liveW, hlive, hne w hw]
    · simp [liveW, hlive, W.toR]
  · congr 1
    apply List.filter_congr
    intro e he
    have hn := hI.edgeNodes e he
    simp [liveE, hlive, hne _ hn.1, hne _ hn.2]

theorem abs_new {q : Quirks} {a : Alloc σ} {st : St σ} (hI : Inv q st) (o : Obj) (c : Cls) (pid : Nat)
    (ho : o ∉ st.h.used) (h' : Heap) (hl : h'.live = st.h.live ++ [⟨o, c, pid⟩]) :
    ({ st with g := (SG.addNode a st.g o c pid).1, h := h' } : St σ).abs =
      { st.abs with reg := st.abs.reg ++ [⟨o, c⟩], h := h' } :=
  abs_addNode (a := a) hI ⟨o, c, pid⟩ h' (fun o' => by simp [Heap.isLive, hl, List.any_append])
    (fun w hw (h : w.obj = o) => ho (h ▸ hI.nodeUsed w hw))

theorem census_eq {q : Quirks} {S : Schema} {a : Alloc σ} {st : St σ} (hI : Inv q st) (T : Cls) :
    instancesOf q S (SG.sweep q a st.g st.h.isLive) T = st.abs.census q S T := by
  have hI' : Inv q { st with g := SG.sweep q a st.g st.h.isLive } := hI.sweep
  have hall : (SG.sweep q a st.g st.h.isLive).nodes.filter (liveW st.h) = (SG.sweep q a st.g st.h.isLive).nodes :=
    List.filter_eq_self.2 fun w hw => ((mem_sweep_nodes hI w).1 hw).2
  have hreg : st.abs.reg = (SG.sweep q a st.g st.h.isLive).nodes.map W.toR := by
    rw [← abs_sweep (a := a) hI, abs_def, hall]
  unfold instancesOf Spec.census
  rw [hI'.byClassEq, hreg]
  congr 1
  funext c
  rw [List.filter_map, List.map_map]
  rfl

theorem abs_addEdge (st : St σ) (f : Fld) (ws wt : W) (inf : Bool) (hls : st.h.isLive ws.obj = true)
    (hlt : st.h.isLive wt.obj = true) :
    ({ st with g := addEdge st.g f ws wt inf } : St σ).abs =
      { st.abs with edges := st.abs.edges ++ [⟨f, ws.toR, wt.toR, inf⟩] } := by
  have hl : liveE st.h ⟨f, ws, wt, inf⟩ = true := by simp [liveE, hls, hlt]
  simp only [abs_def, addEdge]
  simp [hl, Edge.toA]

theorem init_abs (a : Alloc σ) : (St.init a).abs = Spec.init := by
  simp [abs_def, St.init, SG.empty, Spec.init]

/-! ### the existence check -/

/-- a wrapper of the graph whose instance is alive, as far as `L` is concerned: `L := True` for the simulation, `L := False`
where only the registry matters -/
def LiveNode (L : Prop) (st : St σ) (w : W) : Prop := w ∈ st.g.nodes ∧ (L → st.h.isLive w.obj = true)

theorem LiveNode.mono {L : Prop} {st st' : St σ} {w : W} (hw : LiveNode L st w) (h : Frame st st') : LiveNode L st' w :=
  ⟨h.nodes w hw.1, fun hL => (congrFun h.isLive w.obj).trans (hw.2 hL)⟩

theorem LiveNode.of {L : Prop} {st : St σ} {w : W} (hw : LiveNode L st w) (hL : L) : LiveNode True st w :=
  ⟨hw.1, fun _ => hw.2 hL⟩

theorem toR_inj {q : Quirks} {st : St σ} (hI : Inv q st) {w1 w2 : W} (h1 : w1 ∈ st.g.nodes) (h2 : w2 ∈ st.g.nodes)
    (h : w1.toR = w2.toR) : w1 = w2 :=
  hI.objInj w1 h1 w2 h2 (congrArg R.obj h)

theorem toR_beq {q : Quirks} {st : St σ} (hI : Inv q st) {w1 w2 : W} (h1 : w1 ∈ st.g.nodes) (h2 : w2 ∈ st.g.nodes) :
    (w1.toR == w2.toR) = (w1.idx == w2.idx) := by
  rw [Bool.eq_iff_iff, beq_iff_eq, beq_iff_eq]
  constructor
  · intro h
    rw [toR_inj hI h1 h2 h]
  · intro h
    rw [hI.idxInj w1 h1 w2 h2 h]

theorem abs_exists {q : Quirks} {L : Prop} {st : St σ} (hI : Inv q st) (f : Fld) {ws wt : W} (hs : LiveNode L st ws)
    (ht : LiveNode L st wt) :
    (st.abs.exists_ f ws.toR wt.toR = true → edgeExists st.g f ws wt = true) ∧
    (L → edgeExists st.g f ws wt = true → st.abs.exists_ f ws.toR wt.toR = true) := by
  simp only [Spec.exists_, edgeExists, abs_def, List.any_eq_true, List.mem_map, List.mem_filter,
    Bool.and_eq_true, beq_iff_eq]
  constructor
  · rintro ⟨e', ⟨e, ⟨he, _⟩, rfl⟩, ⟨hf, hsrc⟩, htgt⟩
    have hn := hI.edgeNodes e he
    exact ⟨e, he, ⟨hf, toR_inj hI hn.1 hs.1 hsrc⟩, toR_inj hI hn.2 ht.1 htgt⟩
  · rintro hL ⟨e, he, ⟨hf, rfl⟩, rfl⟩
    exact ⟨e.toA, ⟨e, ⟨he, by simp [liveE, hs.2 hL, ht.2 hL]⟩, rfl⟩, ⟨hf, rfl⟩, rfl⟩

theorem edgeExists_imp_relationExists {q : Quirks} {st : St σ} (hI : Inv q st) (f : Fld) (ws wt : W)
    (h : edgeExists st.g f ws wt = true) : relationExists st.g f ws wt = true := by
  simp only [edgeExists, List.any_eq_true, Bool.and_eq_true, beq_iff_eq] at h
  obtain ⟨e, he, ⟨rfl, rfl⟩, rfl⟩ := h
  simpa [relationExists] using hI.relOfEdge e he

theorem abs_exists_false {q : Quirks} {L : Prop} {st : St σ} (hI : Inv q st) (f : Fld) {ws wt : W}
    (hs : LiveNode L st ws) (ht : LiveNode L st wt) (hre : ¬ relationExists st.g f ws wt = true) :
    st.abs.exists_ f ws.toR wt.toR = false := by
  cases hx : st.abs.exists_ f ws.toR wt.toR with
  | false => rfl
  | true => exact absurd (edgeExists_imp_relationExists hI f ws wt ((abs_exists hI f hs ht).1 hx)) hre

/-! ### `add_to_graph` piece by piece -/

/-- `st'` comes from `st` by a piece of `add_to_graph`: the registry stays consistent, no node goes and the live
instances stay (`Keeps`), and — under `L`, the liveness of the instances the piece works on — unless something stale or
dead was hit on the way, `st'` shows `b` -/
structure Sims (q : Quirks) (L : Prop) (st st' : St σ) (b : Spec) : Prop where
  keeps : Keeps q st st'
  abs : L → OK q st' → OK q st ∧ st'.abs = b

theorem Sims.refl {q : Quirks} {L : Prop} {st : St σ} (hI : Inv q st) : Sims q L st st st.abs :=
  ⟨Keeps.refl hI, fun _ hok => ⟨hok, rfl⟩⟩

/-- `G` is what the specification does in the second piece -/
theorem Sims.trans {q : Quirks} {L : Prop} {s1 s2 s3 : St σ} {b : Spec} (h1 : Sims q L s1 s2 b) (G : Spec → Spec)
    (h2 : Sims q L s2 s3 (G s2.abs)) : Sims q L s1 s3 (G b) := by
  refine ⟨h1.keeps.trans h2.keeps, fun hL hok => ?_⟩
  have r2 := h2.abs hL hok
  have r1 := h1.abs hL r2.1
  exact ⟨r1.1, by rw [r2.2, r1.2]⟩

theorem Sims.congr {q : Quirks} {L : Prop} {s1 s2 : St σ} {b b' : Spec} (h : Sims q L s1 s2 b') (hb : L → b = b') :
    Sims q L s1 s2 b :=
  ⟨h.keeps, fun hL hok => hb hL ▸ h.abs hL hok⟩

/-- a state in which an operation raised is not `OK` -/
theorem Sims.of_err {q : Quirks} {L : Prop} {st : St σ} (hI : Inv q st) (herr : st.err = true) (b : Spec) :
    Sims q L st st b :=
  ⟨Keeps.refl hI, fun _ hok => absurd (hI.not_err_of_OK hok) (by simp [herr])⟩

theorem Sims.foldl {α : Type} {q : Quirks} {L : Prop} {fm : St σ → α → St σ} {fs : Spec → α → Spec} {s : St σ}
    (hI : Inv q s) (l : List α) (hstep : ∀ x ∈ l, ∀ s', Keeps q s s' → Sims q L s' (fm s' x) (fs s'.abs x)) :
    Sims q L s (l.foldl fm s) (l.foldl fs s.abs) :=
  List.foldl_rel (r := Sims q L s) (Sims.refl hI) fun x hx s' _ h => h.trans (fun b => fs b x) (hstep x hx s' h.keeps)

/-- `rec` (the model's `add_to_graph` of an inferred relation) is simulated by `srec` -/
def SimRec (q : Quirks) (L : Prop) (rec : St σ → Fld → W → W → St σ) (srec : Spec → Fld → R → R → Spec) : Prop :=
  ∀ s f ws wt, Inv q s → LiveNode L s ws → LiveNode L s wt → Sims q L s (rec s f ws wt) (srec s.abs f ws.toR wt.toR)

theorem sims_addEdge {q : Quirks} {L : Prop} {st : St σ} (hI : Inv q st) (f : Fld) {ws wt : W} (inf : Bool)
    (hs : LiveNode L st ws) (ht : LiveNode L st wt) :
    Sims q L st { st with g := addEdge st.g f ws wt inf }
      { st.abs with edges := st.abs.edges ++ [⟨f, ws.toR, wt.toR, inf⟩] } :=
  ⟨⟨hI.addEdge f ws wt inf hs.1 ht.1, Frame.of_eq rfl rfl⟩,
    fun hL hok => ⟨hok, abs_addEdge st f ws wt inf (hs.2 hL) (ht.2 hL)⟩⟩

theorem sims_record {q : Quirks} {L : Prop} {S : Schema} {st : St σ} (hI : Inv q st) (f : Fld) {ws wt : W} (inf : Bool)
    (hs : LiveNode L st ws) (ht : LiveNode L st wt) :
    Sims q L st (record S st f ws wt inf) (st.abs.record S f ws.toR wt.toR inf) := by
  have h1 := sims_addEdge hI f inf hs ht
  unfold record Spec.record
  cases inf with
  | true =>
    refine ⟨⟨h1.keeps.inv.heap_irrelevant _ rfl rfl rfl, Frame.of_eq rfl rfl⟩, fun hL hok => ⟨hok, ?_⟩⟩
    simp only [if_true]
    -- a heap update on top of the new edge: `abs` reads the heap for liveness only, which `updateValue` keeps
    show ({ ({ st with g := addEdge st.g f ws wt true } : St σ) with
      h := st.h.updateValue S f ws.obj wt.obj } : St σ).abs = _
    rw [abs_heap _ _ (by rfl), abs_addEdge st f ws wt true (hs.2 hL) (ht.2 hL)]
    rfl
  | false => exact h1

/-- `X`: what the specification would do with a relation it does not know -/
theorem sims_known {q : Quirks} {L : Prop} {st : St σ} (hI : Inv q st) (f : Fld) {ws wt : W} (hs : LiveNode L st ws)
    (ht : LiveNode L st wt) (hre : relationExists st.g f ws wt = true) (X : Spec) :
    Sims q L st (known st f ws wt) (if st.abs.exists_ f ws.toR wt.toR then st.abs else X) := by
  refine ⟨⟨hI.flags _ _ _ hI.errFlag fun hr => ?_, Frame.of_eq rfl rfl⟩, fun hL hok => ?_⟩
  · -- `noHit` for `known`: while no node index was handed out twice the entry has its edge, the ghost flag stays down
    rw [hI.noHit hr, hI.exists_exact (Or.inr hr) f ws wt hs.1 ht.1 hre]
    rfl
  · -- the entry has its edge: because the index is exact, or because the ghost flag of `known` stayed down
    have hx := (abs_exists hI f hs ht).2 hL
    rcases hok.1 with hq | hq
    · rw [hx (hI.exists_exact (Or.inl hq) f ws wt hs.1 ht.1 hre)]
      exact ⟨⟨Or.inl hq, hok.2⟩, rfl⟩
    · simp only [known, Bool.or_eq_false_iff, Bool.not_eq_eq_eq_not, Bool.not_false] at hq
      rw [hx hq.2]
      exact ⟨⟨Or.inr hq.1, hok.2⟩, rfl⟩

theorem sims_deadEnd {q : Quirks} {L : Prop} {s : St σ} (hI : Inv q s) (f : Fld) (ws wt : W) :
    Sims q L s (deadEnd q s f ws wt) s.abs := by
  unfold deadEnd
  split
  · rename_i hq
    refine ⟨⟨hI.flags _ _ _ (fun _ => ⟨rfl, hq⟩) hI.noHit, Frame.of_eq rfl rfl⟩, fun _ hok => ?_⟩
    rcases hok.2 with h | h
    · rw [hq] at h
      cases h
    · cases h
  · rename_i hq
    exact ⟨⟨hI.flags _ _ _ (fun h => ⟨rfl, (hI.errFlag h).2⟩) hI.noHit, Frame.of_eq rfl rfl⟩,
      fun _ hok => ⟨⟨hok.1, Or.inl (by simpa using hq)⟩, rfl⟩⟩

theorem register_isLive (h : Heap) (o : Obj) : (h.register o).isLive = h.isLive := isLive_eq_of_live rfl

/-- `ensure_wrapped_instance(x)` for a live `x`; one statement, since all three parts come from the same case analysis of
the index lookup -/
theorem sims_ensureSt {q : Quirks} {L : Prop} {a : Alloc σ} (ha : a.Valid) {s : St σ} (hI : Inv q s) (x : HObj)
    (hx : x ∈ s.h.live) :
    Sims q L s (ensureSt a s x).1 (s.abs.ensure x) ∧ LiveNode L (ensureSt a s x).1 (ensureSt a s x).2 ∧
    (ensureSt a s x).2.toR = ⟨x.obj, x.cls⟩ := by
  have hlive : (s.h.register x.obj).isLive x.obj = true := isLive_of_mem hx
  have hep : ∀ o ∈ s.h.epoch, o ∈ (s.h.register x.obj).epoch := fun o ho => (mem_register _ _ _).2 (Or.inl ho)
  unfold ensureSt SG.ensure Spec.ensure
  cases hl : lookup s.g x.pid with
  | some w =>
    -- the index knows `x`: its entry is the wrapper of `x`, a node; nothing changes
    obtain ⟨hn, ho⟩ := hI.lookup_some hx hl
    have hany : s.abs.reg.any (fun r => r.obj == x.obj) = true := by
      simp only [abs_def, List.any_eq_true, List.mem_map, List.mem_filter, beq_iff_eq]
      exact ⟨w.toR, ⟨w, ⟨hn, by simp [liveW, ho, isLive_of_mem hx]⟩, rfl⟩, ho⟩
    -- in order: `Keeps` (the invariant; the frame: nodes, heap, epoch), `abs`, `w` is a live node, `w` shows as `x`
    refine ⟨⟨⟨hI.heap_irrelevant _ rfl rfl ?_, fun _ h => h, rfl, hep⟩, fun _ hok => ⟨hok, ?_⟩⟩,
      ⟨hn, fun _ => ho ▸ hlive⟩, ?_⟩
    · -- a live instance with a node is registered already
      simp [Heap.register, (hI.epochNodes x hx).2 ⟨w, hn, ho⟩]
    · -- `abs`: the specification finds `x` in its registry and only registers the label
      simp only [hany, if_true]
      exact abs_heap s _ rfl
    · -- the wrapper found under the id of `x` carries the label and the class of `x`
      simp only [W.toR, ho, (hI.nodeLive w hn x hx ho.symm).1]
  | none =>
    -- no entry under the id of `x`: no node wraps `x`, `add_node` makes one
    have hnone := hI.lookup_none hx hl
    have hany : s.abs.reg.any (fun r => r.obj == x.obj) = false := by
      rw [List.any_eq_false]
      simp only [abs_def, List.mem_map, List.mem_filter, beq_iff_eq]
      rintro r ⟨w, ⟨hw, _⟩, rfl⟩
      exact hnone w hw
    refine ⟨⟨⟨?_, fun w hw => mem_addNode_nodes.2 (Or.inl hw), rfl, hep⟩, fun _ hok => ⟨hok, ?_⟩⟩,
      ⟨mem_addNode_nodes.2 (Or.inr rfl), fun _ => hlive⟩, rfl⟩
    · -- `x` is alive already: the heap gains no instance, label or id, only the registration, and `hent` holds outright
      exact hI.addNode ha x (s.h.register x.obj) (fun y hy => Or.inl hy) (fun y hy => hI.liveObjInj y hy x hx)
        (fun y hy => hI.livePidInj y hy x hx)
        (fun o => ⟨Or.inl, fun h => h.elim id fun e => e ▸ hI.liveUsed x hx⟩) (mem_register _ _) hnone fun _ _ _ => hx
    · -- `abs`: the new node shows as the entry the specification appends to its registry
      simp only [hany]
      rw [abs_addNode hI x _ _ hnone]
      · rfl
      · intro o
        rw [register_isLive]
        cases h1 : s.h.isLive o with
        | true => rfl
        | false =>
          rw [Bool.false_or, eq_comm, beq_eq_false_iff_ne]
          intro he
          rw [← he, isLive_of_mem hx] at h1
          cases h1

theorem sims_foldFields {q : Quirks} {L : Prop} {rec srec} (hsim : SimRec q L rec srec) {s : St σ} (hI : Inv q s)
    (fs : List Fld) {ws wt : W} (hs : LiveNode L s ws) (ht : LiveNode L s wt) :
    Sims q L s (fs.foldl (fun st f' => rec st f' ws wt) s) (fs.foldl (fun b f' => srec b f' ws.toR wt.toR) s.abs) :=
  Sims.foldl hI fs fun f' _ s' hk => hsim s' f' ws wt hk.inv (hs.mono hk.frame) (ht.mono hk.frame)

theorem sims_inferTakerSupers {q : Quirks} {L : Prop} {S : Schema} {a : Alloc σ} (ha : a.Valid) {rec srec}
    (hsim : SimRec q L rec srec) {s : St σ} (hI : Inv q s) (f : Fld) (ws : W) {wt : W} (ht : LiveNode L s wt) :
    Sims q L s (inferTakerSupers S a rec s f ws wt) (Spec.inferTakerSupers S srec s.abs f ws.toR wt.toR) := by
  unfold inferTakerSupers Spec.inferTakerSupers
  dsimp only [abs_h, W.toR_obj, W.toR_cls]
  cases herr : s.err with
  | true => exact Sims.of_err hI herr _
  | false =>
    rw [Bool.false_or]
    by_cases hemp : (S.takerSupers f ws.cls).isEmpty = true
    · simp only [hemp, ↓reduceIte]
      exact Sims.refl hI
    · simp only [hemp]
      cases hx : s.h.takerOf S ws.obj ws.cls with
      | none => exact Sims.refl hI
      | some x =>
        obtain ⟨e, hl, hr⟩ := sims_ensureSt (L := L) ha hI x (takerOf_live hx)
        have r := sims_foldFields hsim e.keeps.inv (S.takerSupers f ws.cls) hl (ht.mono e.keeps.frame)
        rw [hr] at r
        exact e.trans (fun b => (S.takerSupers f ws.cls).foldl (fun b f' => srec b f' ⟨x.obj, x.cls⟩ wt.toR) b) r

theorem sims_inferSupers {q : Quirks} {L : Prop} {S : Schema} {a : Alloc σ} (ha : a.Valid) {rec srec}
    (hsim : SimRec q L rec srec) {s : St σ} (hI : Inv q s) (f : Fld) {ws wt : W} (hs : LiveNode L s ws)
    (ht : LiveNode L s wt) :
    Sims q L s (inferSupers S a rec s f ws wt) (Spec.inferSupers S srec s.abs f ws.toR wt.toR) := by
  have h1 := sims_foldFields hsim hI (S.supers f ws.cls) hs ht
  exact h1.trans (fun b => Spec.inferTakerSupers S srec b f ws.toR wt.toR)
    (sims_inferTakerSupers ha hsim h1.keeps.inv f ws (ht.mono h1.keeps.frame))

theorem sims_inferInverse {q : Quirks} {L : Prop} {S : Schema} {a : Alloc σ} (ha : a.Valid) {rec srec}
    (hsim : SimRec q L rec srec) {s : St σ} (hI : Inv q s) (f : Fld) {ws wt : W} (hs : LiveNode L s ws)
    (ht : LiveNode L s wt) :
    Sims q L s (inferInverse S a rec s f ws wt) (Spec.inferInverse S srec s.abs f ws.toR wt.toR) := by
  unfold inferInverse Spec.inferInverse
  dsimp only [abs_h, W.toR_obj, W.toR_cls]
  cases hi : S.inverse f wt.cls with
  | some f' => exact hsim _ _ _ _ hI ht hs
  | none =>
    cases hti : S.takerInverse f wt.cls with
    | none => exact Sims.refl hI
    | some f' =>
      cases herr : s.err with
      | true => exact Sims.of_err hI herr _
      | false =>
        cases hx : s.h.takerOf S wt.obj wt.cls with
        | none => exact Sims.refl hI
        | some x =>
          obtain ⟨e, hl, hr⟩ := sims_ensureSt (L := L) ha hI x (takerOf_live hx)
          have r := hsim _ f' _ _ e.keeps.inv hl (hs.mono e.keeps.frame)
          rw [hr] at r
          exact e.trans (fun b => srec b f' ⟨x.obj, x.cls⟩ ws.toR) r

/-- the shape of both transitive inferences, over any list of edges: for each edge a relation between `u e` and `v e`
is inferred if the instance at `far e` is alive, a dead end recorded if not; the specification walks the live ones -/
theorem sims_edgeFold {q : Quirks} {L : Prop} {rec srec} (hsim : SimRec q L rec srec) {s : St σ} (hI : Inv q s)
    (u v far : Edge → W) (l : List Edge)
    (hl : ∀ e ∈ l, u e ∈ s.g.nodes ∧ v e ∈ s.g.nodes ∧
      (L → s.h.isLive (far e).obj = true → s.h.isLive (u e).obj = true ∧ s.h.isLive (v e).obj = true)) :
    Sims q L s
      (l.foldl
        (fun st e => if st.h.isLive (far e).obj then rec st e.fld (u e) (v e) else deadEnd q st e.fld (u e) (v e)) s)
      ((l.filter fun e => s.h.isLive (far e).obj).foldl (fun t e => srec t e.fld (u e).toR (v e).toR) s.abs) := by
  rw [List.foldl_filter]
  refine Sims.foldl hI l fun e he s' hk => ?_
  have he := hl e he
  rw [hk.frame.isLive]
  cases hc : s.h.isLive (far e).obj with
  | true =>
    exact hsim s' e.fld _ _ hk.inv (LiveNode.mono ⟨he.1, fun hL => (he.2.2 hL hc).1⟩ hk.frame)
      (LiveNode.mono ⟨he.2.1, fun hL => (he.2.2 hL hc).2⟩ hk.frame)
  | false => exact sims_deadEnd hk.inv _ _ _

/-- `pA`, `p`: the selection at the two levels; `g`: the liveness test the model makes as it walks the selected edges -/
theorem abs_edges_filter (s : St σ) (pA : AEdge → Bool) (p g : Edge → Bool)
    (h : ∀ e ∈ s.g.edges, (pA e.toA && liveE s.h e) = (g e && p e)) :
    (s.abs.edges.filter pA).reverse = (((s.g.edges.filter p).reverse).filter g).map Edge.toA := by
  show (((s.g.edges.filter (liveE s.h)).map Edge.toA).filter pA).reverse = _
  rw [List.filter_map, List.filter_filter, List.filter_reverse, List.filter_filter, List.map_reverse]
  congr 2
  exact List.filter_congr h

/-- the pointwise fact behind `abs_edges_filter` for the edges at a live wrapper `w`: an edge end `x` is `w` by label
iff by node index, and then the edge is live iff its other end is (`otherLive`); `sameDesc` rides along -/
theorem edge_at_liveNode {q : Quirks} {s : St σ} (hI : Inv q s) {x w : W} (hx : x ∈ s.g.nodes)
    (hw : LiveNode True s w) (sameDesc otherLive : Bool) :
    ((x.toR == w.toR && sameDesc) && (s.h.isLive x.obj && otherLive)) =
      (otherLive && (x.idx == w.idx && sameDesc)) := by
  rw [toR_beq hI hx hw.1]
  cases hc : x.idx == w.idx with
  | false => simp
  | true =>
    rw [hI.idxInj x hx w hw.1 (beq_iff_eq.1 hc), hw.2 trivial, Bool.true_and, Bool.true_and, Bool.and_comm]

theorem sims_inferOut {q : Quirks} {L : Prop} {S : Schema} {rec srec} (hsim : SimRec q L rec srec) {s : St σ}
    (hI : Inv q s) (f : Fld) {ws wt : W} (hs : LiveNode L s ws) (ht : LiveNode L s wt) :
    Sims q L s (inferOut q S rec s f ws wt) (Spec.inferOut S srec s.abs f ws.toR wt.toR) := by
  unfold inferOut Spec.inferOut
  -- the edges of `abs` out of `wt`, which the specification walks, are those the model selects by node index, less the
  -- ones whose target is dead: the walk of `sims_edgeFold` with `far` the target
  refine Sims.congr ?_ fun hL => by
    rw [abs_edges_filter s _ (fun e => e.src.idx == wt.idx && S.desc e.fld == S.desc f)
      (fun e => s.h.isLive e.tgt.obj) (fun e he => edge_at_liveNode hI (hI.edgeNodes e he).1 (ht.of hL) _ _),
      List.foldl_map]
  refine sims_edgeFold hsim hI (fun _ => ws) Edge.tgt Edge.tgt _ fun e he => ?_
  exact ⟨hs.1, (hI.edgeNodes e (List.mem_filter.1 (List.mem_reverse.1 he)).1).2, fun hL h => ⟨hs.2 hL, h⟩⟩

theorem sims_inferIn {q : Quirks} {L : Prop} {S : Schema} {rec srec} (hsim : SimRec q L rec srec) {s : St σ}
    (hI : Inv q s) (f : Fld) {ws wt : W} (hs : LiveNode L s ws) (ht : LiveNode L s wt) :
    Sims q L s (inferIn q S rec s f ws wt) (Spec.inferIn S srec s.abs f ws.toR wt.toR) := by
  unfold inferIn Spec.inferIn
  -- as in `sims_inferOut`, for the edges into `ws`, with `far` the source
  refine Sims.congr ?_ fun hL => by
    rw [abs_edges_filter s _ (fun e => e.tgt.idx == ws.idx && S.desc e.fld == S.desc f)
      (fun e => s.h.isLive e.src.obj)
      (fun e he => (congrArg _ (Bool.and_comm _ _)).trans (edge_at_liveNode hI (hI.edgeNodes e he).2 (hs.of hL) _ _)),
      List.foldl_map]
  refine sims_edgeFold hsim hI Edge.src (fun _ => wt) Edge.src _ fun e he => ?_
  exact ⟨(hI.edgeNodes e (List.mem_filter.1 (List.mem_reverse.1 he)).1).1, ht.1, fun hL h => ⟨h, ht.2 hL⟩⟩

theorem sims_inferTransitive {q : Quirks} {L : Prop} {S : Schema} {rec srec} (hsim : SimRec q L rec srec) {s : St σ}
    (hI : Inv q s) (f : Fld) {ws wt : W} (hs : LiveNode L s ws) (ht : LiveNode L s wt) :
    Sims q L s (inferTransitive q S rec s f ws wt) (Spec.inferTransitive S srec s.abs f ws.toR wt.toR) := by
  unfold inferTransitive Spec.inferTransitive
  cases S.transitive f with
  | true =>
    have h1 := sims_inferOut (S := S) hsim hI f hs ht
    exact h1.trans (fun b => Spec.inferIn S srec b f ws.toR wt.toR)
      (sims_inferIn hsim h1.keeps.inv f (hs.mono h1.keeps.frame) (ht.mono h1.keeps.frame))
  | false => exact Sims.refl hI

theorem sims_addFact {q : Quirks} {L : Prop} (S : Schema) {a : Alloc σ} (ha : a.Valid) :
    ∀ (fuel : Nat) (st : St σ) (f : Fld) (ws wt : W) (inf : Bool), Inv q st → LiveNode L st ws → LiveNode L st wt →
    Sims q L st (SG.addFact q S a fuel st f ws wt inf) (specAddFact S fuel st.abs f ws.toR wt.toR inf)
  | 0, _, _, _, _, _, hI, _, _ => Sims.refl hI
  | fuel + 1, st, f, ws, wt, inf, hI, hs, ht => by
    unfold SG.addFact specAddFact
    cases herr : st.err with
    | true => exact Sims.of_err hI herr _
    | false =>
      rw [if_neg Bool.false_ne_true]
      split
      · rename_i hre
        exact sims_known hI f hs ht hre _
      · rename_i hre
        rw [abs_exists_false hI f hs ht hre, if_neg Bool.false_ne_true]
        have hsim : SimRec q L (fun st f ws wt => SG.addFact q S a fuel st f ws wt true)
            (fun b f x y => specAddFact S fuel b f x y true) :=
          fun s f' x y hI' hx hy => sims_addFact S ha fuel s f' x y true hI' hx hy
        have h0 := sims_record (S := S) hI f inf hs ht
        have h1 := h0.trans (fun b => Spec.inferSupers S _ b f ws.toR wt.toR)
          (sims_inferSupers ha hsim h0.keeps.inv f (hs.mono h0.keeps.frame) (ht.mono h0.keeps.frame))
        have h2 := h1.trans (fun b => Spec.inferInverse S _ b f ws.toR wt.toR)
          (sims_inferInverse ha hsim h1.keeps.inv f (hs.mono h1.keeps.frame) (ht.mono h1.keeps.frame))
        exact h2.trans (fun b => Spec.inferTransitive S _ b f ws.toR wt.toR)
          (sims_inferTransitive hsim h2.keeps.inv f (hs.mono h2.keeps.frame) (ht.mono h2.keeps.frame))

/-! ### both ends of a relation wrapped, then the relation -/

theorem sims_ensure2 {q : Quirks} {L : Prop} {a : Alloc σ} (ha : a.Valid) {st : St σ} (hI : Inv q st) (xs xt : HObj)
    (hs : xs ∈ st.h.live) (ht : xt ∈ st.h.live) :
    Sims q L st (SG.ensure2 a st xs xt).1 ((st.abs.ensure xs).ensure xt) ∧
    LiveNode L (SG.ensure2 a st xs xt).1 (SG.ensure2 a st xs xt).2.1 ∧
    LiveNode L (SG.ensure2 a st xs xt).1 (SG.ensure2 a st xs xt).2.2 ∧
    (SG.ensure2 a st xs xt).2.1.toR = ⟨xs.obj, xs.cls⟩ ∧ (SG.ensure2 a st xs xt).2.2.toR = ⟨xt.obj, xt.cls⟩ := by
  obtain ⟨e1, l1, r1⟩ := sims_ensureSt (L := L) ha hI xs hs
  obtain ⟨e2, l2, r2⟩ := sims_ensureSt (L := L) ha e1.keeps.inv xt (e1.keeps.frame.live.symm ▸ ht)
  exact ⟨e1.trans (fun b => b.ensure xt) e2, l1.mono e2.keeps.frame, l2, r1, r2⟩

/-- the direct assertion (`PredicateClassRelation.add_to_graph`) on a plain field -/
theorem sims_rel {q : Quirks} {L : Prop} {a : Alloc σ} (ha : a.Valid) {st : St σ} (hI : Inv q st) (f : Fld) (xs xt : HObj)
    (hs : xs ∈ st.h.live) (ht : xt ∈ st.h.live) :
    let p := SG.ensure2 a st xs xt
    let b := (st.abs.ensure xs).ensure xt
    Sims q L st (if relationExists p.1.g f p.2.1 p.2.2 then known p.1 f p.2.1 p.2.2
               else { p.1 with g := addEdge p.1.g f p.2.1 p.2.2 false })
      (if b.exists_ f ⟨xs.obj, xs.cls⟩ ⟨xt.obj, xt.cls⟩ then b
       else { b with edges := b.edges ++ [⟨f, ⟨xs.obj, xs.cls⟩, ⟨xt.obj, xt.cls⟩, false⟩] }) := by
  intro p b
  obtain ⟨e, ls, lt, rs, rt⟩ := sims_ensure2 (L := L) ha hI xs xt hs ht
  rw [← rs, ← rt]
  refine e.trans (fun b => if b.exists_ f p.2.1.toR p.2.2.toR then b
    else { b with edges := b.edges ++ [⟨f, p.2.1.toR, p.2.2.toR, false⟩] }) ?_
  split
  · rename_i hre
    exact sims_known e.keeps.inv f ls lt hre _
  · rename_i hre
    rw [abs_exists_false e.keeps.inv f ls lt hre, if_neg Bool.false_ne_true]
    exact sims_addEdge e.keeps.inv f false ls lt

/-- both ends wrapped, then `add_to_graph` with its inferences: the model's part of a descriptor-managed assignment -/
theorem sims_wrapAssert {q : Quirks} {L : Prop} (S : Schema) {a : Alloc σ} (ha : a.Valid) {st : St σ} (hI : Inv q st)
    (f : Fld) {xs xt : HObj} (hs : xs ∈ st.h.live) (ht : xt ∈ st.h.live) :
    Sims q L st (SG.addFact q S a S.fuel (SG.ensure2 a st xs xt).1 f (SG.ensure2 a st xs xt).2.1
      (SG.ensure2 a st xs xt).2.2 false)
      (((st.abs.ensure xs).ensure xt).assert S f ⟨xs.obj, xs.cls⟩ ⟨xt.obj, xt.cls⟩) := by
  obtain ⟨e, ls, lt, rs, rt⟩ := sims_ensure2 (L := L) ha hI xs xt hs ht
  have r := e.trans (fun b => b.assert S f (SG.ensure2 a st xs xt).2.1.toR (SG.ensure2 a st xs xt).2.2.toR)
    (sims_addFact S ha S.fuel _ f _ _ false e.keeps.inv ls lt)
  rw [rs, rt] at r
  exact r

end KrroodVerif.SG
