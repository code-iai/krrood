import KrroodVerif.Model.EqlTraceN
import KrroodVerif.Lemmas.EqlTraceLemmas
/-!
Lemmas about `traceN` of `Model/EqlTraceN.lean` (quantifiers in arbitrary position), used by all of C10, C10Q, C10N and
C10Sub: the trace hands its continuation exactly the list model's cells (`traceN_sim`); the events of an expression do
not depend on its consumer (`traceN_flatMap`, `traceN_eq_substCells`); an `EvInv` holds of every event (`traceN_inv`).
The quantifier-free `traceE` is `traceN` restricted (`traceN_eq_traceE`), whence `traceE_vis`.
Core Lean only.
-/
namespace KrroodVerif.Eql

/-! ### results as events -/

theorem decEnv_encEnv (e : Env) : decEnv (encEnv e) = e := by
  induction e with
  | nil => rfl
  | cons p r ih =>
    obtain ⟨k, x⟩ := p
    cases k <;> simp [encEnv, encKey, decEnv, ih]

@[simp] theorem decCell_encCell (e : Env) (t : Bool) : decCell (encCell e t) = (e, t) := by
  simp [decCell, encCell, decEnv_encEnv]

/-- the event by which `cell` hands a result over -/
def cellRow (p : Env × Bool) : Ev := Ev.row (encCell p.1 p.2)

theorem cell_eq (e : Env) (t : Bool) : cell e t = [cellRow (e, t)] := rfl

@[simp] theorem vis_cell (e : Env) (t : Bool) : vis (cell e t) = [cellRow (e, t)] := rfl

theorem flatMap_vis_cell (rs : List (Env × Bool)) :
    (rs.flatMap fun p => vis (cell p.1 p.2)) = rs.map cellRow :=
  List.map_eq_flatMap.symm

@[simp] theorem dropRows_nil : dropRows [] = [] := rfl
@[simp] theorem dropRows_append (a b : List Ev) : dropRows (a ++ b) = dropRows a ++ dropRows b := by
  simp [dropRows]
@[simp] theorem dropRows_cons_pull (v i) (evs : List Ev) : dropRows (Ev.pull v i :: evs) = Ev.pull v i :: dropRows evs := rfl
@[simp] theorem dropRows_cons_read (o n) (evs : List Ev) : dropRows (Ev.read o n :: evs) = Ev.read o n :: dropRows evs := rfl
@[simp] theorem dropRows_cons_err (e) (evs : List Ev) : dropRows (Ev.err e :: evs) = Ev.err e :: dropRows evs := rfl
@[simp] theorem dropRows_cons_row (r) (evs : List Ev) : dropRows (Ev.row r :: evs) = dropRows evs := rfl

theorem dropRows_cons_of_not_row {e : Ev} (he : e.isRow = false) (evs : List Ev) :
    dropRows (e :: evs) = e :: dropRows evs :=
  List.filter_cons_of_pos (by simp [he])

theorem dropRows_eq_nonRow (evs : List Ev) : dropRows evs = nonRow evs := rfl

theorem cellsOf_cons_row (r) (evs : List Ev) : cellsOf (Ev.row r :: evs) = decCell r :: cellsOf evs := rfl
theorem cellsOf_cons_pull (v i) (evs : List Ev) : cellsOf (Ev.pull v i :: evs) = cellsOf evs := rfl
theorem cellsOf_cons_read (o n) (evs : List Ev) : cellsOf (Ev.read o n :: evs) = cellsOf evs := rfl
theorem cellsOf_cons_err (e) (evs : List Ev) : cellsOf (Ev.err e :: evs) = cellsOf evs := rfl
theorem cellsOf_cons_of_not_row {e : Ev} (he : e.isRow = false) (evs : List Ev) :
    cellsOf (e :: evs) = cellsOf evs := by
  unfold cellsOf
  rw [rowsOf_cons_of_not_row he]

theorem isRow_cellRow (p : Env × Bool) : (cellRow p).isRow = true := rfl

theorem cellsOf_of_vis (evs : List Ev) (rs : List (Env × Bool)) (h : vis evs = rs.map cellRow) :
    cellsOf evs = rs := by
  rw [cellsOf, (rows_of_vis (h.trans List.map_map.symm)).1, List.map_map]
  simp [Function.comp_def]

theorem vis_dropRows_of_vis (evs : List Ev) (rs : List (Env × Bool)) (h : vis evs = rs.map cellRow) :
    vis (dropRows evs) = [] := by
  -- the two filters commute: drop the rows from `vis evs`, which holds nothing but rows
  rw [vis, dropRows, List.filter_filter]
  simp only [Bool.and_comm]
  rw [← List.filter_filter, ← vis, h, List.filter_eq_nil_iff]
  intro e he
  obtain ⟨p, _, rfl⟩ := List.mem_map.1 he
  simp [isRow_cellRow]

/-! ### one result of a stream: `uptoCell` -/

theorem uptoCell_snd (evs : List Ev) : (uptoCell evs).2 = (cellsOf evs).head? := by
  induction evs using stream_induction with
  | nil => rfl
  | row r evs ih => rfl
  | other e evs he ih =>
    rw [cellsOf_cons_of_not_row he, ← ih]
    cases e <;> first | rfl | cases he

theorem uptoCell_fst_subset (evs : List Ev) : ∀ x ∈ (uptoCell evs).1, x ∈ dropRows evs := by
  induction evs using stream_induction with
  | nil =>
    intro x hx
    cases hx
  | row r evs ih =>
    intro x hx
    cases hx
  | other e evs he ih =>
    have h1 : (uptoCell (e :: evs)).1 = e :: (uptoCell evs).1 := by
      cases e <;> first | rfl | cases he
    rw [h1, dropRows_cons_of_not_row he]
    exact List.cons_subset_cons e ih

theorem uptoCell_of_vis (evs : List Ev) (rs : List (Env × Bool)) (h : vis evs = rs.map cellRow) :
    (uptoCell evs).2 = rs.head? ∧ vis (uptoCell evs).1 = [] := by
  refine ⟨by rw [uptoCell_snd, cellsOf_of_vis evs rs h], List.filter_eq_nil_iff.2 fun e he => ?_⟩
  exact List.filter_eq_nil_iff.1 (vis_dropRows_of_vis evs rs h) e (uptoCell_fst_subset evs e he)

/-! ### `existsWalkN`: unfolding; against `existsFilter` -/

@[simp] theorem existsWalkN_nil (w : World) (u : VarId) (k : Env → Bool → List Ev) (seen : List Val) :
    existsWalkN w u k [] seen = [] := rfl
theorem existsWalkN_row (w : World) (u : VarId) (k : Env → Bool → List Ev) (r) (evs : List Ev) (seen : List Val) :
    existsWalkN w u k (Ev.row r :: evs) seen =
      (match (decCell r).1.lookup (.var u) with
      | none => Ev.err .keyError :: existsWalkN w u k evs seen
      | some x =>
        if (decCell r).2 && !valIn w x seen then k (decCell r).1 true ++ existsWalkN w u k evs (seen ++ [x])
        else existsWalkN w u k evs seen) := rfl

theorem existsWalkN_cons_of_not_row (w : World) (u : VarId) (k : Env → Bool → List Ev) {e : Ev}
    (he : e.isRow = false) (evs : List Ev) (seen : List Val) :
    existsWalkN w u k (e :: evs) seen = e :: existsWalkN w u k evs seen := by
  cases e <;> first | rfl | cases he

theorem existsWalkN_vis (w : World) (u : VarId) (k : Env → Bool → List Ev) (evs : List Ev)
    (rs0 : List (Env × Bool)) (seen : List Val) (rs : List (Env × Bool))
    (hv : vis evs = rs0.map cellRow) (h : existsFilter w u rs0 seen = .ok rs) :
    vis (existsWalkN w u k evs seen) = rs.flatMap fun p => vis (k p.1 p.2) := by
  induction evs generalizing rs0 seen rs with
  | nil =>
    cases rs0 with
    | nil =>
      cases h
      rfl
    | cons p rs0 => simp at hv
  | cons e evs ih =>
    cases e with
    | pull v i | read o n =>
      rw [existsWalkN_cons_of_not_row w u k rfl]
      simpa using ih rs0 seen rs (by simpa using hv) h
    | err e => cases rs0 <;> simp [cellRow] at hv
    | row r =>
      cases rs0 with
      | nil => simp at hv
      | cons p rs0 =>
        obtain ⟨env1, t⟩ := p
        simp only [vis_cons_row, List.map_cons, List.cons.injEq, cellRow, Ev.row.injEq] at hv
        obtain ⟨hr, hv⟩ := hv
        obtain ⟨x, hl, h⟩ := existsFilter_cons_ok h
        rw [existsWalkN_row, hr, decCell_encCell]
        simp only [hl]
        split at h
        · rename_i hc
          obtain ⟨r', hr', rfl⟩ := h
          simp only [hc, if_true, vis_append, List.flatMap_cons]
          rw [ih rs0 _ r' hv hr']
        · rename_i hc
          simp only [hc]
          exact ih rs0 seen rs hv h

/-! ### `ForAll`: `recheck` / `forAllLoopN` against the list model's `filterM` / `foldlM` -/

/-- what `recheck_spec`, `forAllLoopN_spec` and `traceForAllN_vis` assume of the child's stream: `traceN_sim` for the child
under the continuation `cell`, which is the induction hypothesis where `traceN_sim` uses them -/
def StreamOk (w : World) (c : Expr) (stream : Env → List Ev) : Prop :=
  ∀ env' rs, eval w c env' = .ok rs → vis (stream env') = rs.map cellRow

theorem recheck_spec (w : World) (c : Expr) (stream : Env → List Ev) (hs : StreamOk w c stream)
    (qv : Env × Val × Bool) (sols sols' : List Env) (h : forAllStep w c sols qv = .ok sols') :
    (recheck stream qv.1 sols).2 = sols' ∧ vis (recheck stream qv.1 sols).1 = [] := by
  obtain ⟨g, hg, rfl⟩ := filterM_ok h
  clear h
  induction sols with
  | nil => exact ⟨rfl, rfl⟩
  | cons sol rest ih =>
    have h1 := hg sol (List.mem_cons_self ..)
    simp only [bind_eq_ok, pure_eq_ok] at h1
    obtain ⟨rs, hrs, hm⟩ := h1
    obtain ⟨hu2, hu1⟩ := uptoCell_of_vis _ rs (hs _ rs hrs)
    obtain ⟨ih2, ih1⟩ := ih fun x hx => hg x (List.mem_cons_of_mem _ hx)
    -- the candidate is kept iff the first cell of the child's stream is true; by `hs` that cell is the first of the list
    -- model's results `rs`, whose flag is `g sol`
    have hkeep : firstTrue (uptoCell (stream (merge sol qv.1))).2 = g sol := by
      rw [hu2, ← hm]
      cases rs <;> rfl
    simp only [recheck, hkeep, vis_append, hu1, ih1, List.append_nil, List.filter_cons]
    refine ⟨?_, trivial⟩
    cases g sol <;> simp [ih2]

theorem forAllLoopN_nil_sols (stream : Env → List Ev) (qs : List (List Ev × Env)) :
    forAllLoopN stream qs [] = ([], []) := by
  cases qs with
  | nil => rfl
  | cons q qs =>
    obtain ⟨pre, envq⟩ := q
    rfl

theorem forAllLoopN_spec (w : World) (c : Expr) (stream : Env → List Ev) (hs : StreamOk w c stream)
    (qs : List (List Ev × Env)) (hpre : ∀ q ∈ qs, vis q.1 = []) (qvs : List (Env × Val × Bool))
    (hq : qvs.map (·.1) = qs.map (·.2)) (sols final : List Env)
    (h : qvs.foldlM (forAllStep w c) sols = .ok final) :
    (forAllLoopN stream qs sols).2 = final ∧ vis (forAllLoopN stream qs sols).1 = [] := by
  induction qs generalizing qvs sols with
  | nil =>
    cases qvs with
    | nil =>
      simp only [List.foldlM_nil, pure_eq_ok] at h
      subst h
      exact ⟨rfl, rfl⟩
    | cons qv qvs => simp at hq
  | cons q qs ih =>
    obtain ⟨pre, envq⟩ := q
    cases qvs with
    | nil => simp at hq
    | cons qv qvs =>
      simp only [List.map_cons, List.cons.injEq] at hq
      obtain ⟨hq1, hq2⟩ := hq
      by_cases hsols : sols = []
      · subst hsols
        rw [forAllLoopN_nil_sols]
        exact ⟨(foldlM_forAllStep_nil w c _ final h).symm, rfl⟩
      · rw [List.foldlM_cons] at h
        obtain ⟨s', h1, h2⟩ := bind_ok h
        obtain ⟨r2, r1⟩ := recheck_spec w c stream hs qv sols s' h1
        rw [hq1] at r2 r1
        obtain ⟨i2, i1⟩ := ih (fun q hq => hpre q (List.mem_cons_of_mem _ hq)) qvs hq2 s' h2
        have hpre1 : vis pre = [] := hpre (pre, envq) (List.mem_cons_self ..)
        have he : sols.isEmpty = false := by simpa using hsols
        simp only [forAllLoopN, he, Bool.false_eq_true, if_false, vis_append, hpre1, r1, r2, i1, i2,
          List.append_nil, and_self]

theorem enumFrom_map_snd {α β} (l : List α) (s : Nat) (f : α → β) :
    (enumFrom s l).map (fun p => f p.2) = l.map f := by
  induction l generalizing s with
  | nil => rfl
  | cons x l ih => simp [enumFrom, ih]

theorem evalVar_uvals (w : World) (u : VarId) (env : Env) :
    (evalVar w u env).map (·.1) = (uvals w u env).map (·.2) ∧ ∀ q ∈ uvals w u env, vis q.1 = [] := by
  unfold evalVar uvals
  cases env.lookup (.var u) with
  | some x => simp
  | none =>
    simp only [List.map_map, Function.comp_def]
    refine ⟨(enumFrom_map_snd (w.dom u) 0 fun x => ((Key.var u, x) :: env)).symm, ?_⟩
    intro q hq
    simp only [List.mem_map] at hq
    obtain ⟨p, _, rfl⟩ := hq
    rfl

theorem traceForAllN_vis (w : World) (u : VarId) (c : Expr) (stream : Env → List Ev) (hs : StreamOk w c stream)
    (env : Env) (k : Env → Bool → List Ev) (res : List (Env × Bool)) (h : eval w (.forAll u c) env = .ok res) :
    vis (traceForAllN w u (c.nodes.filter (· != .var u)) stream env k) = res.flatMap fun p => vis (k p.1 p.2) := by
  obtain ⟨first, rest, c0, final, hE, hc0, hfinal, rfl⟩ := eval_forAll_inv h
  obtain ⟨hmap, hpre⟩ := evalVar_uvals w u env
  unfold traceForAllN
  cases hU : uvals w u env with
  | nil => simp [hE, hU] at hmap
  | cons q qs =>
    obtain ⟨pre, env1⟩ := q
    simp only [hE, hU, List.map_cons, List.cons.injEq] at hmap
    obtain ⟨hm1, hm2⟩ := hmap
    rw [hm1] at hc0
    have hv := hs _ c0 hc0
    have hpre' : ∀ q ∈ qs, vis q.1 = [] := fun q hq => hpre q (by rw [hU]; exact List.mem_cons_of_mem _ hq)
    have hpre1 : vis pre = [] := hpre (pre, env1) (by rw [hU]; exact List.mem_cons_self ..)
    obtain ⟨l2, l1⟩ := forAllLoopN_spec w c stream hs qs hpre' rest hm2 _ final hfinal
    -- `pre`, the first pass without its results and the loop's events are invisible; the loop's survivors are `final`
    simp only [vis_append, hpre1, vis_dropRows_of_vis _ c0 hv, cellsOf_of_vis _ c0 hv, List.nil_append]
    rw [l1, l2, List.flatMap_map, List.nil_append, vis_flatMap]

/-! ### `Sim` for `traceN` -/

theorem traceN_sim (w : World) (e : Expr) : Sim (traceN w e) (eval w e) := by
  induction e with
  | cmp op l r => exact fun env rs h k => traceCmp_vis w l r _ env k rs h
  | contains c i => exact fun env rs h k => traceCmp_vis w c i _ env k rs h
  | truth t | hasType t c =>
    intro env rs h k
    simp only [eval, bind_eq_ok, pure_eq_ok] at h
    obtain ⟨r0, h0, rfl⟩ := h
    simp only [traceN]
    rw [traceTerm_vis _ _ _ _ _ _ h0, List.flatMap_map]
  | and l r ihl ihr => exact Sim.and ihl ihr
  | elseIf l r ihl ihr => exact Sim.elseIf ihl ihr
  | union l r ihl ihr => exact Sim.union ihl ihr
  | not e ih => exact Sim.map ih (!·)
  | exists_ u c ih =>
    intro env rs h k
    obtain ⟨rs0, h0, h1⟩ := eval_exists_inv h
    simp only [traceN]
    exact existsWalkN_vis w u k _ rs0 [] rs (by rw [ih _ _ h0, flatMap_vis_cell]) h1
  | forAll u c ih =>
    intro env rs h k
    simp only [traceN]
    exact traceForAllN_vis w u c _ (fun env' rs' h' => by rw [ih _ _ h', flatMap_vis_cell]) env k rs h

/-! ### `substCells`: the consumer's events spliced into a stream -/

def substEv (k : Env → Bool → List Ev) : Ev → List Ev
  | .row r => k (decCell r).1 (decCell r).2
  | e => [e]

/-- a stream with the consumer's events spliced in at every result -/
def substCells (k : Env → Bool → List Ev) (evs : List Ev) : List Ev := evs.flatMap (substEv k)

/-- the event-wise rewritings `g` that commute with evaluation (`traceN_flatMap`); `substEv k` is one -/
def KeepsNonRows (g : Ev → List Ev) : Prop := ∀ e, e.isRow = false → g e = [e]

theorem substEv_keeps (k : Env → Bool → List Ev) : KeepsNonRows (substEv k) := by
  intro e he
  cases e <;> first | rfl | cases he

theorem substEv_cell (k : Env → Bool → List Ev) (e : Env) (b : Bool) : (cell e b).flatMap (substEv k) = k e b := by
  simp [cell, substEv]

theorem substCells_nil (k : Env → Bool → List Ev) : substCells k [] = [] := rfl
theorem substCells_cons_row (k : Env → Bool → List Ev) (r) (evs : List Ev) :
    substCells k (Ev.row r :: evs) = k (decCell r).1 (decCell r).2 ++ substCells k evs := rfl
theorem substCells_cons_of_not_row (k : Env → Bool → List Ev) {e : Ev} (he : e.isRow = false) (evs : List Ev) :
    substCells k (e :: evs) = e :: substCells k evs := by
  cases e <;> first | rfl | cases he

theorem NoRow.append {a b : List Ev} (ha : NoRow a) (hb : NoRow b) : NoRow (a ++ b) :=
  fun e h => (List.mem_append.1 h).elim (ha e) (hb e)
theorem NoRow.dropRows (evs : List Ev) : NoRow (dropRows evs) := by
  intro e he
  have := (List.mem_filter.1 he).2
  simpa using this

theorem KeepsNonRows.flatMap_cons {g : Ev → List Ev} (hg : KeepsNonRows g) {e : Ev} (he : e.isRow = false)
    (l : List Ev) : (e :: l).flatMap g = e :: l.flatMap g := by
  rw [List.flatMap_cons, hg e he]
  rfl

theorem flatMap_noRow {g : Ev → List Ev} (hg : KeepsNonRows g) (l : List Ev) (hl : NoRow l) : l.flatMap g = l := by
  induction l with
  | nil => rfl
  | cons e l ih =>
    rw [hg.flatMap_cons (hl e (List.mem_cons_self ..)), ih fun x hx => hl x (List.mem_cons_of_mem _ hx)]

theorem substCells_append (k : Env → Bool → List Ev) (a b : List Ev) :
    substCells k (a ++ b) = substCells k a ++ substCells k b :=
  List.flatMap_append

theorem substCells_noRow (k : Env → Bool → List Ev) (a : List Ev) (ha : NoRow a) : substCells k a = a :=
  flatMap_noRow (substEv_keeps k) a ha

theorem substCells_silent (evs : List Ev) : substCells (fun _ _ => []) evs = dropRows evs := by
  induction evs using stream_induction with
  | nil => rfl
  | row r evs ih =>
    rw [substCells_cons_row, ih]
    rfl
  | other e evs he ih =>
    rw [substCells_cons_of_not_row _ he, ih, dropRows_cons_of_not_row he]

theorem filter_substCells (keep : Ev → Bool) (hrow : ∀ r, keep (.row r) = false) (k : Env → Bool → List Ev)
    (evs : List Ev) (hk : ∀ p ∈ cellsOf evs, (k p.1 p.2).filter keep = []) :
    (substCells k evs).filter keep = evs.filter keep := by
  induction evs using stream_induction with
  | nil => rfl
  | other e evs he ih =>
    rw [cellsOf_cons_of_not_row he] at hk
    rw [substCells_cons_of_not_row k he, List.filter_cons, List.filter_cons, ih hk]
  | row r evs ih =>
    rw [cellsOf_cons_row] at hk
    rw [substCells_cons_row, List.filter_append, hk _ (List.mem_cons_self ..),
      ih (fun p hp => hk p (List.mem_cons_of_mem _ hp)), List.filter_cons, hrow]
    rfl

/-! ### the events of a quantifier: its child's, its consumer's, its own exception -/

theorem existsWalkN_allEv {P : Ev → Prop} (herr : P (.err .keyError)) (w : World) (u : VarId)
    (k : Env → Bool → List Ev) (evs : List Ev) (seen : List Val)
    (h : AllEv P (substCells (fun e _ => k e true) evs)) : AllEv P (existsWalkN w u k evs seen) := by
  induction evs using stream_induction generalizing seen with
  | nil => exact AllEv.nil P
  | other e evs he ih =>
    rw [substCells_cons_of_not_row _ he] at h
    rw [existsWalkN_cons_of_not_row w u k he]
    exact allEv_cons.2 ⟨(allEv_cons.1 h).1, ih _ (allEv_cons.1 h).2⟩
  | row r evs ih =>
    rw [substCells_cons_row] at h
    rw [existsWalkN_row]
    split
    · exact allEv_cons.2 ⟨herr, ih _ (allEv_append.1 h).2⟩
    · split
      · exact AllEv.append (allEv_append.1 h).1 (ih _ (allEv_append.1 h).2)
      · exact ih _ (allEv_append.1 h).2

theorem recheck_allEv {P : Ev → Prop} (stream : Env → List Ev) (envq : Env) (sols : List Env)
    (h : ∀ sol, AllEv P (dropRows (stream (merge sol envq)))) : AllEv P (recheck stream envq sols).1 := by
  induction sols with
  | nil => exact AllEv.nil P
  | cons sol rest ih =>
    exact AllEv.append (fun x hx => h sol x (uptoCell_fst_subset _ x hx)) ih

theorem forAllLoopN_allEv {P : Ev → Prop} (stream : Env → List Ev) (qs : List (List Ev × Env))
    (hq : ∀ q ∈ qs, AllEv P q.1 ∧ ∀ sol, AllEv P (dropRows (stream (merge sol q.2)))) (sols : List Env) :
    AllEv P (forAllLoopN stream qs sols).1 := by
  induction qs generalizing sols with
  | nil => exact AllEv.nil P
  | cons q qs ih =>
    obtain ⟨pre, envq⟩ := q
    simp only [forAllLoopN]
    split
    · exact AllEv.nil P
    · have h0 := hq _ (List.mem_cons_self ..)
      exact AllEv.append (AllEv.append h0.1 (recheck_allEv stream envq sols h0.2))
        (ih (fun q h => hq q (List.mem_cons_of_mem _ h)) _)

/-- `hq`: obtaining a universal value, and the condition's stream from bindings that extend a universal binding;
`herr`: the `TypeError` of an empty universal domain -/
theorem traceForAllN_allEv {P : Ev → Prop} (herr : P (.err .typeError)) (w : World) (u : VarId) (others : List Key)
    (stream : Env → List Ev) (env : Env) (k : Env → Bool → List Ev)
    (hq : ∀ q ∈ uvals w u env, AllEv P q.1 ∧ AllEv P (dropRows (stream q.2)) ∧
      ∀ sol, AllEv P (dropRows (stream (merge sol q.2))))
    (hk : ∀ sol, AllEv P (k (merge env sol) true)) : AllEv P (traceForAllN w u others stream env k) := by
  unfold traceForAllN
  cases hU : uvals w u env with
  | nil => exact AllEv.single herr
  | cons q qs =>
    obtain ⟨pre, env1⟩ := q
    rw [hU] at hq
    have h0 := hq _ (List.mem_cons_self ..)
    refine AllEv.append (AllEv.append (AllEv.append h0.1 h0.2.1) ?_) (AllEv.flatMap _ _ fun sol _ => hk sol)
    exact forAllLoopN_allEv stream qs (fun q h => ⟨(hq q (List.mem_cons_of_mem _ h)).1,
      (hq q (List.mem_cons_of_mem _ h)).2.2⟩) _

theorem uvals_inv {w : World} {I : Env → Prop} {P : Ev → Prop} (h : EvInv w I P) (u : VarId) (env : Env)
    (hI : I env) : ∀ q ∈ uvals w u env, AllEv P q.1 ∧ I q.2 := by
  unfold uvals
  cases hl : env.lookup (.var u) with
  | some x =>
    intro q hq
    simp only [List.mem_singleton] at hq
    subst hq
    exact ⟨AllEv.nil P, hI⟩
  | none =>
    intro q hq
    simp only [List.mem_map] at hq
    obtain ⟨p, hp, rfl⟩ := hq
    have := mem_enumFrom _ _ _ hp
    exact ⟨AllEv.single (h.pull env u p.1 trivial hI hl (by omega)), h.cons _ _ hI⟩

theorem traceForAllN_block_noRow (w : World) (u : VarId) (stream : Env → List Ev) (env : Env)
    (pre : List Ev) (env1 : Env) (qs : List (List Ev × Env)) (hU : uvals w u env = (pre, env1) :: qs)
    (sols : List Env) : NoRow (pre ++ dropRows (stream env1) ++ (forAllLoopN stream qs sols).1) := by
  have hu := fun q hq => (uvals_inv (evInv_notRow w) u env trivial q hq).1
  rw [hU] at hu
  exact NoRow.append (NoRow.append (hu _ (List.mem_cons_self ..)) (NoRow.dropRows _))
    (forAllLoopN_allEv stream qs (fun q h => ⟨hu q (List.mem_cons_of_mem _ h), fun _ => NoRow.dropRows _⟩) _)

/-! ### naturality in the continuation -/

theorem readEvent_flatMap {g : Ev → List Ev} (hg : KeepsNonRows g) (x : Val) (n : AttrName) :
    (readEvent x n).flatMap g = readEvent x n := by
  cases x <;> simp [readEvent, hg _ (rfl : (Ev.read _ n).isRow = false)]

theorem traceVar_flatMap {g : Ev → List Ev} (hg : KeepsNonRows g) (w : World) (cp : Bool) (v : VarId) (env : Env)
    (k : Kont) : (traceVar w cp v env k).flatMap g = traceVar w cp v env fun e x b => (k e x b).flatMap g := by
  unfold traceVar
  split
  · rfl
  · rw [List.flatMap_assoc]
    exact flatMap_congr' fun p _ => hg.flatMap_cons rfl _

theorem traceTerm_flatMap {g : Ev → List Ev} (hg : KeepsNonRows g) (w : World) (c : Bool) (t : Term) (env : Env)
    (k : Kont) : (traceTerm w c t env k).flatMap g = traceTerm w c t env fun e x b => (k e x b).flatMap g := by
  induction t generalizing c env k with
  | var v => exact traceVar_flatMap hg w c v env k
  | lit id x =>
    simp only [traceTerm]
    split <;> rfl
  | attr t n ih =>
    simp only [traceTerm]
    rw [ih]
    congr 1
    funext e x b
    rw [List.flatMap_append, readEvent_flatMap hg]
    congr 1
    split
    · rfl
    · exact hg.flatMap_cons rfl []
  | index t i ih =>
    simp only [traceTerm]
    rw [ih]
    congr 1
    funext e x b
    split
    · rfl
    · exact hg.flatMap_cons rfl []
  | flatten t ih =>
    simp only [traceTerm]
    rw [ih]
    congr 1
    funext e x b
    split
    · rw [List.flatMap_assoc]
    · exact hg.flatMap_cons rfl []

theorem traceCmp_flatMap {g : Ev → List Ev} (hg : KeepsNonRows g) (w : World) (l r : Term)
    (op : Val → Val → Except Err Bool) (env : Env) (k : Env → Bool → List Ev) :
    (traceCmp w l r op env k).flatMap g = traceCmp w l r op env fun e b => (k e b).flatMap g := by
  simp only [traceCmp]
  rw [traceTerm_flatMap hg]
  congr 1
  funext e1 v1 t1
  split
  · rw [traceTerm_flatMap hg]
    congr 1
    funext e2 v2 t2
    split
    · split
      · rfl
      · exact hg.flatMap_cons rfl []
    · rfl
  · rfl

theorem existsWalkN_flatMap {g : Ev → List Ev} (hg : KeepsNonRows g) (w : World) (u : VarId)
    (k : Env → Bool → List Ev) (evs : List Ev) (seen : List Val) :
    (existsWalkN w u k evs seen).flatMap g = existsWalkN w u (fun e b => (k e b).flatMap g) evs seen := by
  induction evs using stream_induction generalizing seen with
  | nil => rfl
  | other e evs he ih =>
    rw [existsWalkN_cons_of_not_row w u _ he, existsWalkN_cons_of_not_row w u _ he, hg.flatMap_cons he, ih]
  | row r evs ih =>
    rw [existsWalkN_row, existsWalkN_row]
    split
    · rw [hg.flatMap_cons (e := .err _) rfl, ih]
    · split
      · rw [List.flatMap_append, ih]
      · exact ih _

theorem traceForAllN_flatMap {g : Ev → List Ev} (hg : KeepsNonRows g) (w : World) (u : VarId) (others : List Key)
    (stream : Env → List Ev) (env : Env) (k : Env → Bool → List Ev) :
    (traceForAllN w u others stream env k).flatMap g = traceForAllN w u others stream env fun e b => (k e b).flatMap g := by
  unfold traceForAllN
  cases hU : uvals w u env with
  | nil => exact hg.flatMap_cons rfl []
  | cons q qs =>
    obtain ⟨pre, env1⟩ := q
    simp only
    -- everything in front of the survivors' part holds no row, so `g` leaves it as it is
    rw [List.flatMap_append, flatMap_noRow hg _ (traceForAllN_block_noRow w u stream env pre env1 qs hU _),
      List.flatMap_assoc]

/-- An expression emits no row of its own, so rewriting the rows event-wise rewrites the continuation's events only: the
expression's own events are the same whatever the consumer does. -/
theorem traceN_flatMap {g : Ev → List Ev} (hg : KeepsNonRows g) (w : World) (e : Expr) (env : Env)
    (k : Env → Bool → List Ev) :
    (traceN w e env k).flatMap g = traceN w e env fun e1 b => (k e1 b).flatMap g := by
  induction e generalizing env k with
  | cmp op l r => exact traceCmp_flatMap hg w l r _ env k
  | contains c i => exact traceCmp_flatMap hg w c i _ env k
  | truth t =>
    simp only [traceN]
    exact traceTerm_flatMap hg w true t env _
  | hasType t c =>
    simp only [traceN]
    exact traceTerm_flatMap hg w false t env _
  | and l r ihl ihr =>
    simp only [traceN]
    rw [ihl]
    congr 1
    funext e1 t
    split
    · exact ihr _ _
    · rfl
  | elseIf l r ihl ihr =>
    simp only [traceN]
    rw [ihl]
    congr 1
    funext e1 t
    split
    · rfl
    · exact ihr _ _
  | union l r ihl ihr =>
    simp only [traceN, List.flatMap_append]
    rw [ihl, ihr]
    congr 2
    funext e1 t
    split
    · rfl
    · exact ihr _ _
  | not e ih =>
    simp only [traceN]
    exact ih _ _
  | exists_ u c _ =>
    simp only [traceN]
    exact existsWalkN_flatMap hg w u k _ _
  | forAll u c _ =>
    simp only [traceN]
    exact traceForAllN_flatMap hg w u _ _ env k

theorem traceN_eq_substCells (w : World) (e : Expr) (env : Env) (k : Env → Bool → List Ev) :
    traceN w e env k = substCells k (streamN w e env) := by
  unfold substCells streamN
  rw [traceN_flatMap (substEv_keeps k)]
  simp only [substEv_cell]

theorem dropRows_streamN (w : World) (e : Expr) (env : Env) :
    dropRows (streamN w e env) = traceN w e env fun _ _ => [] := by
  rw [traceN_eq_substCells w e env fun _ _ => [], substCells_silent]

/-! ### `EvInv` for `traceN` -/

theorem traceN_inv {w : World} {I : Env → Prop} {P : Ev → Prop} (h : EvInv w I P) (e : Expr) (env : Env)
    (hI : I env) : Keeps I P (traceN w e env) := by
  induction e generalizing env with
  | cmp op l r => exact traceCmp_inv h l r _ env hI
  | contains c i => exact traceCmp_inv h c i _ env hI
  | truth t | hasType t c =>
    exact fun k hk => traceTerm_inv h _ _ _ _ (fun _ _ => trivial) hI fun _ _ _ he => hk _ _ he
  | and l r ihl ihr => exact Keeps.and (ihl env hI) fun e he => ihr e he
  | elseIf l r ihl ihr => exact Keeps.elseIf (ihl env hI) fun e he => ihr e he
  | union l r ihl ihr => exact Keeps.union (ihl env hI) (fun e he => ihr e he) (ihr env hI)
  | not e ih => exact Keeps.map (ih env hI) (!·)
  | exists_ q c ih =>
    -- the walk's events are those of the child under the consumer that is handed every result as true
    intro k hk
    simp only [traceN]
    refine existsWalkN_allEv (h.err _) w q k _ [] ?_
    rw [← streamN, ← traceN_eq_substCells]
    exact ih env hI _ fun e _ he => hk e true he
  | forAll q c ih =>
    -- all the condition's streams start from bindings that extend the incoming ones
    intro k hk
    simp only [traceN]
    have hs : ∀ e', I e' → AllEv P (dropRows (traceN w c e' cell)) := fun e' he' => by
      rw [← streamN, dropRows_streamN]
      exact ih e' he' _ fun _ _ _ => AllEv.nil P
    refine traceForAllN_allEv (h.err _) w q _ _ env k (fun p hp => ?_) fun sol => hk _ _ (h.prepend sol hI)
    obtain ⟨h1, h2⟩ := uvals_inv h q env hI p hp
    exact ⟨h1, hs _ h2, fun sol => hs _ (h.append _ sol h2)⟩

/-! ### `existsWalkN` over a prefix of the child's stream; its non-row events -/

theorem existsWalkN_append (w : World) (u : VarId) (k : Env → Bool → List Ev) (a b : List Ev) (seen : List Val) :
    ∃ seen', existsWalkN w u k (a ++ b) seen = existsWalkN w u k a seen ++ existsWalkN w u k b seen' := by
  induction a using stream_induction generalizing seen with
  | nil => exact ⟨seen, rfl⟩
  | other e a he ih =>
    obtain ⟨s', h⟩ := ih seen
    exact ⟨s', by rw [List.cons_append, existsWalkN_cons_of_not_row w u k he, existsWalkN_cons_of_not_row w u k he, h,
      List.cons_append]⟩
  | row r a ih =>
    simp only [List.cons_append, existsWalkN_row]
    split
    · obtain ⟨s', h⟩ := ih seen
      exact ⟨s', by simp [h]⟩
    · split
      · obtain ⟨s', h⟩ := ih (seen ++ [_])
        exact ⟨s', by rw [h, List.append_assoc]⟩
      · exact ih seen

theorem existsWalkN_nonRow_cell (w : World) (u : VarId) (evs : List Ev) (seen : List Val)
    (hb : ∀ p ∈ cellsOf evs, Bnd u p.1) : nonRow (existsWalkN w u cell evs seen) = nonRow evs := by
  simp only [← dropRows_eq_nonRow]
  induction evs using stream_induction generalizing seen with
  | nil => rfl
  | other e evs he ih =>
    rw [cellsOf_cons_of_not_row he] at hb
    rw [existsWalkN_cons_of_not_row w u cell he, dropRows_cons_of_not_row he, dropRows_cons_of_not_row he, ih seen hb]
  | row r evs ih =>
    rw [cellsOf_cons_row] at hb
    have hr := hb _ (List.mem_cons_self ..)
    have hrest : ∀ p ∈ cellsOf evs, Bnd u p.1 := fun p hp => hb p (List.mem_cons_of_mem _ hp)
    rw [existsWalkN_row, dropRows_cons_row]
    cases hl : (decCell r).1.lookup (.var u) with
    | none => simp [Bnd, hl] at hr
    | some x =>
      simp only
      -- a new witness is handed to `cell`, which performs one row and nothing else; any other result the walk drops
      split
      · rw [dropRows_append, ih _ hrest]
        rfl
      · exact ih _ hrest

/-! ### `traceE` as `traceN` restricted -/

theorem traceN_eq_traceE (w : World) (e : Expr) (hq : e.QF = true) : traceN w e = traceE w e := by
  induction e with
  | and l r ihl ihr | elseIf l r ihl ihr | union l r ihl ihr =>
    simp only [Expr.QF, Bool.and_eq_true] at hq
    funext env k
    simp only [traceN, traceE, ihl hq.1, ihr hq.2]
  | not e ih =>
    funext env k
    simp only [traceN, traceE, ih hq]
  | exists_ v e | forAll v e => simp [Expr.QF] at hq
  | _ => rfl

theorem traceE_vis (w : World) (e : Expr) (hq : e.QF = true) (env : Env) (rs : List (Env × Bool))
    (h : eval w e env = .ok rs) : Hands (traceE w e env) rs :=
  traceN_eq_traceE w e hq ▸ traceN_sim w e env rs h

end KrroodVerif.Eql
