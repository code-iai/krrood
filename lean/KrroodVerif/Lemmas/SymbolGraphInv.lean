import KrroodVerif.Model.SymbolGraph
import KrroodVerif.Lemmas.ListBasics
/-!
The invariant `SG.Inv` of the SymbolGraph registry and its preservation by each primitive mutation of heap and registry,
for EVERY valid node-index allocator, every `id()` assignment and every setting of the quirk flags;
`Frame` / `Keeps`: what a piece of `add_to_graph` leaves untouched.
-/
namespace KrroodVerif.SG

variable {σ : Type}

/-- graph nodes, `_instance_index`, `_class_to_wrapped_instances`, `_relation_index` and the heap describe the same set
of wrappers -/
structure Inv (q : Quirks) (st : St σ) : Prop where
  nodesNodup : st.g.nodes.Nodup
  objInj : ∀ w1 ∈ st.g.nodes, ∀ w2 ∈ st.g.nodes, w1.obj = w2.obj → w1 = w2
  idxInj : ∀ w1 ∈ st.g.nodes, ∀ w2 ∈ st.g.nodes, w1.idx = w2.idx → w1 = w2
  /-- the class lists hold exactly the wrappers of the graph (they partition the nodes by `instance_type`) -/
  byClassEq : st.g.byClass = st.g.nodes
  nodeUsed : ∀ w ∈ st.g.nodes, w.obj ∈ st.h.used
  liveUsed : ∀ x ∈ st.h.live, x.obj ∈ st.h.used
  liveObjInj : ∀ x1 ∈ st.h.live, ∀ x2 ∈ st.h.live, x1.obj = x2.obj → x1 = x2
  livePidInj : ∀ x1 ∈ st.h.live, ∀ x2 ∈ st.h.live, x1.pid = x2.pid → x1 = x2
  nodeLive : ∀ w ∈ st.g.nodes, ∀ x ∈ st.h.live, x.obj = w.obj → x.cls = w.cls ∧ x.pid = w.pid
  /-- a live instance has a wrapper iff it was handed to the registry since the last `clear` -/
  epochNodes : ∀ x ∈ st.h.live, (x.obj ∈ st.h.epoch ↔ ∃ w ∈ st.g.nodes, w.obj = x.obj)
  instNodup : st.g.instIdx.Nodup
  instKeys : ∀ kw1 ∈ st.g.instIdx, ∀ kw2 ∈ st.g.instIdx, kw1.1 = kw2.1 → kw1 = kw2
  instLive : ∀ w ∈ st.g.nodes, ∀ x ∈ st.h.live, x.obj = w.obj → (w.pid, w) ∈ st.g.instIdx
  /-- the entry under the `id()` of a live instance is about that instance (an `id()` recycled from a dead one
  was overwritten by `add_node`) -/
  instOwner : ∀ kw ∈ st.g.instIdx, ∀ x ∈ st.h.live, x.pid = kw.1 → kw.2.obj = x.obj
  /-- an entry is the entry of a node — unless `remove_node` left it behind (`keepDeadIndex`), and then its instance
  is dead -/
  instNode : ∀ kw ∈ st.g.instIdx, (q.keepDeadIndex = false ∨ ∃ x ∈ st.h.live, x.obj = kw.2.obj) →
    kw.2 ∈ st.g.nodes ∧ kw.1 = kw.2.pid
  edgeNodes : ∀ e ∈ st.g.edges, e.src ∈ st.g.nodes ∧ e.tgt ∈ st.g.nodes
  relOfEdge : ∀ e ∈ st.g.edges, (e.fld, e.src.idx, e.tgt.idx) ∈ st.g.relIdx
  relExact : q.staleRelIndex = false → ∀ r ∈ st.g.relIdx, ∃ e ∈ st.g.edges, r = (e.fld, e.src.idx, e.tgt.idx)
  errFlag : st.err = true → st.deadHit = true ∧ q.deadEndpointRaises = true
  epochUsed : ∀ o ∈ st.h.epoch, o ∈ st.h.used
  instUsed : ∀ kw ∈ st.g.instIdx, kw.2.obj ∈ st.h.used
  everNodes : ∀ w ∈ st.g.nodes, w.idx ∈ st.g.ever
  everRel : ∀ r ∈ st.g.relIdx, r.2.1 ∈ st.g.ever ∧ r.2.2 ∈ st.g.ever
  /-- as long as no node index was handed out twice, an index entry without an edge behind it mentions an index that
  no node of the graph has any more -/
  staleOut : st.g.reused = false → ∀ r ∈ st.g.relIdx, (∃ e ∈ st.g.edges, r = (e.fld, e.src.idx, e.tgt.idx)) ∨
    (∀ w ∈ st.g.nodes, w.idx ≠ r.2.1) ∨ (∀ w ∈ st.g.nodes, w.idx ≠ r.2.2)
  noHit : st.g.reused = false → st.staleHit = false

theorem Inv.empty {q : Quirks} (a : Alloc σ) (h : Heap) (r e s d : Bool) (he : h.epoch = [])
    (hlu : ∀ x ∈ h.live, x.obj ∈ h.used) (hlo : ∀ x1 ∈ h.live, ∀ x2 ∈ h.live, x1.obj = x2.obj → x1 = x2)
    (hlp : ∀ x1 ∈ h.live, ∀ x2 ∈ h.live, x1.pid = x2.pid → x1 = x2)
    (herr : e = true → d = true ∧ q.deadEndpointRaises = true) (hs : r = false → s = false) :
    Inv q ⟨h, { SG.empty a with reused := r }, e, s, d⟩ where
  nodesNodup := List.nodup_nil
  objInj := nofun
  idxInj := nofun
  byClassEq := rfl
  nodeUsed := nofun
  liveUsed := hlu
  liveObjInj := hlo
  livePidInj := hlp
  nodeLive := nofun
  epochNodes := fun x _ => by simp [he, SG.empty]
  instNodup := List.nodup_nil
  instKeys := nofun
  instLive := nofun
  instOwner := nofun
  instNode := nofun
  edgeNodes := nofun
  relOfEdge := nofun
  relExact := fun _ => nofun
  errFlag := herr
  epochUsed := by simp [he]
  instUsed := nofun
  everNodes := nofun
  everRel := nofun
  staleOut := fun _ => nofun
  noHit := hs

theorem Inv.err_false {q : Quirks} {st : St σ} (hI : Inv q st) (hq : q.deadEndpointRaises = false) :
    st.err = false := by
  cases h : st.err with
  | false => rfl
  | true =>
    have := (hI.errFlag h).2
    simp [hq] at this

/-! ### the model functions on the heap and on the lists of the registry -/

theorem isLive_iff (h : Heap) (o : Obj) : h.isLive o = true ↔ ∃ x ∈ h.live, x.obj = o := by
  simp [Heap.isLive, List.any_eq_true]

theorem find_some {h : Heap} {o : Obj} {x : HObj} (hx : h.find o = some x) : x ∈ h.live ∧ x.obj = o := by
  unfold Heap.find at hx
  exact ⟨List.mem_of_find?_eq_some hx, by simpa using List.find?_some hx⟩

theorem mem_register (h : Heap) (o o' : Obj) : o' ∈ (h.register o).epoch ↔ o' ∈ h.epoch ∨ o' = o :=
  mem_insert_if_absent List.contains_iff_mem (fun _ => mem_append_singleton) o'

theorem write_eq (S : Schema) (h : Heap) (f : Fld) (s t : Obj) :
    h.write S f s t = { h with fields := (h.write S f s t).fields } := by
  unfold Heap.write
  split
  · rfl
  · split
    · rfl
    · rfl
  · rfl

@[simp] theorem write_live (S : Schema) (h : Heap) (f : Fld) (s t : Obj) : (h.write S f s t).live = h.live := by
  rw [write_eq]

@[simp] theorem write_used (S : Schema) (h : Heap) (f : Fld) (s t : Obj) : (h.write S f s t).used = h.used := by
  rw [write_eq]

@[simp] theorem write_epoch (S : Schema) (h : Heap) (f : Fld) (s t : Obj) : (h.write S f s t).epoch = h.epoch := by
  rw [write_eq]

theorem dropQuery_eq (q : Quirks) (h : Heap) (k : Nat) :
    h.dropQuery q k = { h with qvars := (h.dropQuery q k).qvars, exprs := (h.dropQuery q k).exprs } := by
  unfold Heap.dropQuery
  split
  · rfl
  · rfl

theorem mem_collect_live {q : Quirks} {h : Heap} {x : HObj} (hx : x ∈ (h.collect q).live) : x ∈ h.live :=
  (List.mem_filter.1 hx).1

theorem takerOf_live {S : Schema} {h : Heap} {o : Obj} {c : Cls} {x : HObj} (hx : h.takerOf S o c = some x) :
    x ∈ h.live := by
  unfold Heap.takerOf at hx
  split at hx
  · cases hx
  · split at hx
    · cases hx
    · exact (find_some hx).1

theorem isLive_eq_of_live {h h' : Heap} (hl : h'.live = h.live) : h'.isLive = h.isLive := by
  funext o
  simp [Heap.isLive, hl]

theorem isLive_of_mem {h : Heap} {x : HObj} (hx : x ∈ h.live) : h.isLive x.obj = true :=
  (isLive_iff _ _).2 ⟨x, hx, rfl⟩

theorem kill_isLive (h : Heap) (D : List Obj) (o : Obj) :
    (h.kill D).isLive o = (h.isLive o && !D.contains o) := by
  simp only [Heap.isLive, Heap.kill, List.any_filter]
  rw [Bool.eq_iff_iff]
  simp only [List.any_eq_true, Bool.and_eq_true, beq_iff_eq, Bool.not_eq_eq_eq_not, Bool.not_true]
  constructor
  · rintro ⟨x, hx, h1, rfl⟩
    exact ⟨⟨x, hx, rfl⟩, h1⟩
  · rintro ⟨⟨x, hx, rfl⟩, h1⟩
    exact ⟨x, hx, h1, rfl⟩

theorem isLive_mono {h h' : Heap} (hsub : ∀ x ∈ h.live, x ∈ h'.live) (o : Obj) (ho : h.isLive o = true) :
    h'.isLive o = true := by
  rw [isLive_iff] at ho ⊢
  obtain ⟨x, hx, rfl⟩ := ho
  exact ⟨x, hsub x hx, rfl⟩

theorem mem_removeNode_instIdx {q : Quirks} {a : Alloc σ} {g : SG σ} {w : W} {kw : Nat × W} :
    kw ∈ (removeNode q a g w).instIdx ↔
      kw ∈ g.instIdx ∧ (q.keepDeadIndex = true ∨ ¬(kw.1 = w.pid ∧ kw.2 = w)) := by
  unfold removeNode
  cases q.keepDeadIndex <;> simp [Decidable.imp_iff_not_or]

theorem mem_removeNode_relIdx {q : Quirks} {a : Alloc σ} {g : SG σ} {w : W} {r : Fld × Nat × Nat} :
    r ∈ (removeNode q a g w).relIdx ↔
      r ∈ g.relIdx ∧ (q.staleRelIndex = true ∨ r.2.1 ≠ w.idx ∧ r.2.2 ≠ w.idx) := by
  unfold removeNode
  cases q.staleRelIndex <;> simp

theorem mem_removeNode_edges {q : Quirks} {a : Alloc σ} {g : SG σ} {w : W} {e : Edge} :
    e ∈ (removeNode q a g w).edges ↔ e ∈ g.edges ∧ e.src.idx ≠ w.idx ∧ e.tgt.idx ≠ w.idx := by
  simp [removeNode]

theorem foldl_removeNode_nodes_eq (q : Quirks) (a : Alloc σ) : ∀ (l : List W) (g : SG σ), g.nodes.Nodup →
    (l.foldl (SG.removeNode q a) g).nodes = g.nodes.filter (fun w => !l.contains w)
  | [], g, _ => by simpa using (List.filter_eq_self.2 fun _ _ => rfl).symm
  | x :: l, g, hn => by
    simp only [List.foldl_cons]
    rw [foldl_removeNode_nodes_eq q a l _ (by exact hn.erase x)]
    simp only [SG.removeNode]
    rw [hn.erase_eq_filter, List.filter_filter]
    apply List.filter_congr
    intro w _
    simp only [List.contains_cons, Bool.not_or, Bool.and_comm]
    simp [bne]

theorem perm_insertByIdx (w : W) : ∀ l : List W, (insertByIdx w l).Perm (w :: l)
  | [] => .refl _
  | x :: xs => by
    simp only [insertByIdx]
    split
    · exact .refl _
    · exact ((perm_insertByIdx w xs).cons x).trans (.swap w x xs)

theorem perm_sortByIdx : ∀ l : List W, (sortByIdx l).Perm l
  | [] => .refl _
  | y :: ys => (perm_insertByIdx y (sortByIdx ys)).trans ((perm_sortByIdx ys).cons y)

theorem mem_sortByIdx (x : W) (l : List W) : x ∈ sortByIdx l ↔ x ∈ l := (perm_sortByIdx l).mem_iff

theorem mem_addNode_nodes {a : Alloc σ} {g : SG σ} {o : Obj} {c : Cls} {pid : Nat} {w : W} :
    w ∈ (addNode a g o c pid).1.nodes ↔ w ∈ g.nodes ∨ w = (addNode a g o c pid).2 := by
  simp [addNode]

theorem mem_addNode_instIdx {a : Alloc σ} {g : SG σ} {o : Obj} {c : Cls} {pid : Nat} {kw : Nat × W} :
    kw ∈ (addNode a g o c pid).1.instIdx ↔
      (kw ∈ g.instIdx ∧ kw.1 ≠ pid) ∨ kw = (pid, (addNode a g o c pid).2) := by
  simp [addNode]

theorem lookup_some_instIdx {g : SG σ} {pid : Nat} {w : W} (h : lookup g pid = some w) : (pid, w) ∈ g.instIdx := by
  obtain ⟨kw, hf, rfl⟩ := Option.map_eq_some_iff.1 h
  have hk : kw.1 = pid := by simpa using List.find?_some hf
  exact hk ▸ List.mem_of_find?_eq_some hf

theorem lookup_none_instIdx {g : SG σ} {pid : Nat} (h : lookup g pid = none) : ∀ kw ∈ g.instIdx, kw.1 ≠ pid := by
  simpa [lookup] using h

/-! ### `Inv` under changes of the heap -/

/-- `Inv` reads `live` in hypotheses only: any set of instances may die -/
theorem Inv.heap_sub {q : Quirks} {st : St σ} (hI : Inv q st) (h' : Heap) (hl : ∀ x ∈ h'.live, x ∈ st.h.live)
    (hu : h'.used = st.h.used) (he : h'.epoch = st.h.epoch) : Inv q { st with h := h' } :=
  { hI with
    nodeUsed := fun w hw => hu ▸ hI.nodeUsed w hw
    liveUsed := fun x hx => hu ▸ hI.liveUsed x (hl x hx)
    liveObjInj := fun x1 h1 x2 h2 => hI.liveObjInj x1 (hl x1 h1) x2 (hl x2 h2)
    livePidInj := fun x1 h1 x2 h2 => hI.livePidInj x1 (hl x1 h1) x2 (hl x2 h2)
    nodeLive := fun w hw x hx => hI.nodeLive w hw x (hl x hx)
    epochNodes := fun x hx => he ▸ hI.epochNodes x (hl x hx)
    instLive := fun w hw x hx => hI.instLive w hw x (hl x hx)
    instOwner := fun kw hkw x hx => hI.instOwner kw hkw x (hl x hx)
    instNode := fun kw hkw hc => hI.instNode kw hkw (hc.imp_right fun ⟨x, hx, hxo⟩ => ⟨x, hl x hx, hxo⟩)
    epochUsed := fun o ho => hu ▸ hI.epochUsed o (he ▸ ho)
    instUsed := fun kw hkw => hu ▸ hI.instUsed kw hkw }

theorem Inv.heap_irrelevant {q : Quirks} {st : St σ} (hI : Inv q st) (h' : Heap)
    (h1 : h'.live = st.h.live) (h2 : h'.used = st.h.used) (h3 : h'.epoch = st.h.epoch) :
    Inv q { st with h := h' } :=
  hI.heap_sub h' (fun _ hx => h1 ▸ hx) h2 h3

/-! ### `Inv` under the mutations of the registry -/

theorem Inv.removeNode {q : Quirks} {a : Alloc σ} {st : St σ} (hI : Inv q st) (w : W) (hw : w ∈ st.g.nodes)
    (hdead : ∀ x ∈ st.h.live, x.obj ≠ w.obj) : Inv q { st with g := removeNode q a st.g w } := by
  have hmem : ∀ {x}, x ∈ st.g.nodes.erase w ↔ x ≠ w ∧ x ∈ st.g.nodes := hI.nodesNodup.mem_erase_iff
  have hsub : ∀ {x}, x ∈ st.g.nodes.erase w → x ∈ st.g.nodes := List.mem_of_mem_erase
  have hidx : ∀ w' ∈ st.g.nodes.erase w, w'.idx ≠ w.idx := fun w' hw' he =>
    (hmem.1 hw').1 (hI.idxInj w' (hsub hw') w hw he)
  exact { hI with
    nodesNodup := hI.nodesNodup.erase w
    objInj := fun w1 h1 w2 h2 => hI.objInj w1 (hsub h1) w2 (hsub h2)
    idxInj := fun w1 h1 w2 h2 => hI.idxInj w1 (hsub h1) w2 (hsub h2)
    byClassEq := congrArg (·.erase w) hI.byClassEq
    nodeUsed := fun w1 h1 => hI.nodeUsed w1 (hsub h1)
    nodeLive := fun w1 h1 => hI.nodeLive w1 (hsub h1)
    epochNodes := fun x hx => (hI.epochNodes x hx).trans
      ⟨fun ⟨w1, h1, e1⟩ => ⟨w1, hmem.2 ⟨fun hw1 => hdead x hx (hw1 ▸ e1.symm), h1⟩, e1⟩,
        fun ⟨w1, h1, e1⟩ => ⟨w1, hsub h1, e1⟩⟩
    instNodup := hI.instNodup.sublist (by
      unfold SG.removeNode
      split <;> simp)
    instKeys := fun k1 h1 k2 h2 =>
      hI.instKeys k1 (mem_removeNode_instIdx.1 h1).1 k2 (mem_removeNode_instIdx.1 h2).1
    instLive := fun w1 h1 x hx hxo =>
      mem_removeNode_instIdx.2 ⟨hI.instLive w1 (hsub h1) x hx hxo, Or.inr fun h => (hmem.1 h1).1 h.2⟩
    instOwner := fun kw hkw => hI.instOwner kw (mem_removeNode_instIdx.1 hkw).1
    instNode := fun kw hkw hc => by
      obtain ⟨hkw, hkeep⟩ := mem_removeNode_instIdx.1 hkw
      obtain ⟨hn, hp⟩ := hI.instNode kw hkw hc
      refine ⟨hmem.2 ⟨fun heq => ?_, hn⟩, hp⟩
      -- the entry of the removed wrapper went with it, unless `pop(id(None))` kept it: then its instance is alive
      rcases hc with hc | ⟨x, hx, hxo⟩
      · exact hkeep.elim (by simp [hc]) fun h => h ⟨heq ▸ hp, heq⟩
      · exact hdead x hx (heq ▸ hxo)
    edgeNodes := fun e he => by
      obtain ⟨he, hs, ht⟩ := mem_removeNode_edges.1 he
      exact ⟨hmem.2 ⟨fun h => hs (h ▸ rfl), (hI.edgeNodes e he).1⟩,
        hmem.2 ⟨fun h => ht (h ▸ rfl), (hI.edgeNodes e he).2⟩⟩
    relOfEdge := fun e he =>
      mem_removeNode_relIdx.2 ⟨hI.relOfEdge e (mem_removeNode_edges.1 he).1, Or.inr (mem_removeNode_edges.1 he).2⟩
    relExact := fun hq r hr => by
      obtain ⟨hr, hkeep⟩ := mem_removeNode_relIdx.1 hr
      obtain ⟨e, he, rfl⟩ := hI.relExact hq r hr
      exact ⟨e, mem_removeNode_edges.2 ⟨he, hkeep.resolve_left (by simp [hq])⟩, rfl⟩
    instUsed := fun kw hkw => hI.instUsed kw (mem_removeNode_instIdx.1 hkw).1
    everNodes := fun w1 h1 => hI.everNodes w1 (hsub h1)
    everRel := fun r hr => hI.everRel r (mem_removeNode_relIdx.1 hr).1
    staleOut := fun hre r hr => by
      rcases hI.staleOut hre r (mem_removeNode_relIdx.1 hr).1 with ⟨e, he, rfl⟩ | h | h
      · -- an entry whose edge goes with the node mentions the index of the node
        by_cases hs : e.src.idx = w.idx
        · exact Or.inr (Or.inl fun w' hw' => hs ▸ hidx w' hw')
        by_cases ht : e.tgt.idx = w.idx
        · exact Or.inr (Or.inr fun w' hw' => ht ▸ hidx w' hw')
        · exact Or.inl ⟨e, mem_removeNode_edges.2 ⟨he, hs, ht⟩, rfl⟩
      · exact Or.inr (Or.inl fun w' hw' => h w' (hsub hw'))
      · exact Or.inr (Or.inr fun w' hw' => h w' (hsub hw')) }

theorem Inv.removeNodes {q : Quirks} {a : Alloc σ} : ∀ (l : List W) (st : St σ), Inv q st → l.Nodup →
    (∀ w ∈ l, w ∈ st.g.nodes ∧ ∀ x ∈ st.h.live, x.obj ≠ w.obj) →
    Inv q { st with g := l.foldl (SG.removeNode q a) st.g }
  | [], _, hI, _, _ => hI
  | w :: l, st, hI, hn, hl => by
    have hn' := List.nodup_cons.1 hn
    have hw := hl w List.mem_cons_self
    exact Inv.removeNodes l { st with g := SG.removeNode q a st.g w } (hI.removeNode w hw.1 hw.2) hn'.2
      fun w' hw' => ⟨hI.nodesNodup.mem_erase_iff.2 ⟨fun h => hn'.1 (h ▸ hw'), (hl w' (.tail _ hw')).1⟩,
        (hl w' (.tail _ hw')).2⟩

theorem Inv.sweep {q : Quirks} {a : Alloc σ} {st : St σ} (hI : Inv q st) :
    Inv q { st with g := SG.sweep q a st.g st.h.isLive } := by
  refine hI.removeNodes _ _ ((perm_sortByIdx _).nodup_iff.2 (hI.nodesNodup.filter _)) fun w hw => ?_
  rw [mem_sortByIdx, List.mem_filter] at hw
  refine ⟨hw.1, fun x hx hxo => ?_⟩
  simp [(isLive_iff _ _).2 ⟨x, hx, hxo⟩] at hw

theorem mem_sweep_nodes {q : Quirks} {a : Alloc σ} {st : St σ} (hI : Inv q st) (w : W) :
    w ∈ (SG.sweep q a st.g st.h.isLive).nodes ↔ w ∈ st.g.nodes ∧ st.h.isLive w.obj = true := by
  unfold SG.sweep
  rw [foldl_removeNode_nodes_eq q a _ _ hI.nodesNodup, List.mem_filter, Bool.not_eq_true', ← Bool.not_eq_true,
    List.contains_iff_mem, mem_sortByIdx, List.mem_filter]
  cases st.h.isLive w.obj <;> simp

theorem injOn_insert {α β : Type} {f : α → β} {P : α → Prop} {n : α}
    (hinj : ∀ a, P a → ∀ b, P b → f a = f b → a = b) (hn : ∀ a, P a → f a = f n → a = n) :
    ∀ a, P a ∨ a = n → ∀ b, P b ∨ b = n → f a = f b → a = b := by
  rintro a (ha | rfl) b (hb | rfl) he
  · exact hinj a ha b hb he
  · exact hn a ha he
  · exact (hn b hb he.symm).symm
  · rfl

/-- `add_node` for the instance `x`: just created (`h'` is the heap with `x` in it) or alive and not yet known to this
registry (`h'` registers it). `hent`: an index entry that speaks of `x`'s label exists only if `x` is alive (a stale
entry of a dead `x` cannot be there when `x` is being created). -/
theorem Inv.addNode {q : Quirks} {a : Alloc σ} (ha : a.Valid) {st : St σ} (hI : Inv q st) (x : HObj) (h' : Heap)
    (hsub : ∀ y ∈ h'.live, y ∈ st.h.live ∨ y = x)
    (hobj : ∀ y ∈ st.h.live, y.obj = x.obj → y = x) (hpid : ∀ y ∈ st.h.live, y.pid = x.pid → y = x)
    (hused : ∀ o, o ∈ h'.used ↔ o ∈ st.h.used ∨ o = x.obj)
    (hepoch : ∀ o, o ∈ h'.epoch ↔ o ∈ st.h.epoch ∨ o = x.obj)
    (hnone : ∀ w ∈ st.g.nodes, w.obj ≠ x.obj)
    (hent : ∀ kw ∈ st.g.instIdx, kw.2.obj = x.obj → x ∈ st.h.live) :
    Inv q { st with g := (SG.addNode a st.g x.obj x.cls x.pid).1, h := h' } := by
  have hfresh : ∀ w ∈ st.g.nodes, w.idx ≠ (a.pick st.g.al (st.g.nodes.map (·.idx))).1 := fun w hw heq =>
    ha st.g.al (st.g.nodes.map (·.idx)) (heq ▸ List.mem_map_of_mem hw)
  -- an index that was handed out before is not the index of the new node, unless the allocator hands it out again
  have hstale : ∀ {i : Nat}, (a.pick st.g.al (st.g.nodes.map (·.idx))).1 ∉ st.g.ever → i ∈ st.g.ever →
      (∀ w ∈ st.g.nodes, w.idx ≠ i) → ∀ w ∈ (SG.addNode a st.g x.obj x.cls x.pid).1.nodes, w.idx ≠ i := by
    intro i hni hi h w hw
    rcases mem_addNode_nodes.1 hw with hw | rfl
    · exact h w hw
    · exact fun he => hni (show (SG.addNode a st.g x.obj x.cls x.pid).2.idx ∈ st.g.ever from he ▸ hi)
  exact { hI with
    nodesNodup := List.nodup_append.2 ⟨hI.nodesNodup, List.pairwise_singleton _ _, fun w hw _ hw' e =>
      hnone w hw (e ▸ List.mem_singleton.1 hw' ▸ rfl)⟩
    objInj := fun w1 h1 w2 h2 => injOn_insert hI.objInj (fun w hw he => absurd he (hnone w hw))
      w1 (mem_addNode_nodes.1 h1) w2 (mem_addNode_nodes.1 h2)
    idxInj := fun w1 h1 w2 h2 => injOn_insert hI.idxInj (fun w hw he => absurd he (hfresh w hw))
      w1 (mem_addNode_nodes.1 h1) w2 (mem_addNode_nodes.1 h2)
    byClassEq := congrArg (· ++ [_]) hI.byClassEq
    nodeUsed := fun w hw => (hused _).2 ((mem_addNode_nodes.1 hw).imp (hI.nodeUsed w) (congrArg W.obj))
    liveUsed := fun y hy => (hused _).2 ((hsub y hy).imp (hI.liveUsed y) (congrArg HObj.obj))
    liveObjInj := fun y1 h1 y2 h2 => injOn_insert hI.liveObjInj hobj y1 (hsub y1 h1) y2 (hsub y2 h2)
    livePidInj := fun y1 h1 y2 h2 => injOn_insert hI.livePidInj hpid y1 (hsub y1 h1) y2 (hsub y2 h2)
    nodeLive := fun w hw y hy hyo => by
      rcases mem_addNode_nodes.1 hw with hn | rfl
      · rcases hsub y hy with h | rfl
        · exact hI.nodeLive w hn y h hyo
        · exact absurd hyo.symm (hnone w hn)
      · rcases hsub y hy with h | rfl
        · exact hobj y h hyo ▸ ⟨rfl, rfl⟩
        · exact ⟨rfl, rfl⟩
    epochNodes := fun y hy => by
      simp only [hepoch, mem_addNode_nodes, or_and_right, exists_or, exists_eq_left]
      rcases hsub y hy with h | rfl
      · exact or_congr (hI.epochNodes y h) eq_comm
      · exact iff_of_true (Or.inr rfl) (Or.inr rfl)
    instNodup := List.nodup_append.2 ⟨hI.instNodup.filter _, List.pairwise_singleton _ _, fun kw hkw _ hkw' e => by
      simpa [e, List.mem_singleton.1 hkw'] using (List.mem_filter.1 hkw).2⟩
    instKeys := fun k1 h1 k2 h2 => injOn_insert (P := fun kw => kw ∈ st.g.instIdx ∧ kw.1 ≠ x.pid)
      (fun k1 h1 k2 h2 => hI.instKeys k1 h1.1 k2 h2.1) (fun kw hkw he => absurd he hkw.2)
      k1 (mem_addNode_instIdx.1 h1) k2 (mem_addNode_instIdx.1 h2)
    instLive := fun w hw y hy hyo => by
      rcases mem_addNode_nodes.1 hw with hn | rfl
      · rcases hsub y hy with h | rfl
        · -- the entry of another live instance is not overwritten: its id is not the id of `x`
          refine mem_addNode_instIdx.2 (Or.inl ⟨hI.instLive w hn y h hyo, fun hp => ?_⟩)
          have := hpid y h ((hI.nodeLive w hn y h hyo).2.trans hp)
          exact hnone w hn (this ▸ hyo).symm
        · exact absurd hyo.symm (hnone w hn)
      · exact mem_addNode_instIdx.2 (Or.inr rfl)
    instOwner := fun kw hkw y hy hyp => by
      rcases mem_addNode_instIdx.1 hkw with ⟨hkw, hn⟩ | rfl
      · rcases hsub y hy with h | rfl
        · exact hI.instOwner kw hkw y h hyp
        · exact absurd hyp.symm hn
      · rcases hsub y hy with h | rfl
        · exact hpid y h hyp ▸ rfl
        · rfl
    instNode := fun kw hkw hc => by
      rcases mem_addNode_instIdx.1 hkw with ⟨hkw, _⟩ | rfl
      · have := hI.instNode kw hkw (hc.imp_right fun ⟨y, hy, hyo⟩ =>
          ⟨y, (hsub y hy).elim id fun h => h ▸ hent kw hkw (h ▸ hyo).symm, hyo⟩)
        exact ⟨mem_addNode_nodes.2 (Or.inl this.1), this.2⟩
      · exact ⟨mem_addNode_nodes.2 (Or.inr rfl), rfl⟩
    edgeNodes := fun e he =>
      ⟨mem_addNode_nodes.2 (Or.inl (hI.edgeNodes e he).1), mem_addNode_nodes.2 (Or.inl (hI.edgeNodes e he).2)⟩
    epochUsed := fun o ho => (hused _).2 (((hepoch o).1 ho).imp_left (hI.epochUsed o))
    instUsed := fun kw hkw => (hused _).2 ((mem_addNode_instIdx.1 hkw).imp (fun h => hI.instUsed kw h.1)
      fun (e : kw = _) => e ▸ rfl)
    everNodes := fun w hw => by
      rcases mem_addNode_nodes.1 hw with hw | rfl
      · exact List.mem_append_left _ (hI.everNodes w hw)
      · exact List.mem_append_right _ (List.mem_singleton.2 rfl)
    everRel := fun r hr =>
      ⟨List.mem_append_left _ (hI.everRel r hr).1, List.mem_append_left _ (hI.everRel r hr).2⟩
    staleOut := fun hre r hr => by
      -- `reused` is down after `add_node`: it was before, and the new index was never handed out; the indices of an entry
      -- were (`everRel`), so an entry that was stale is (`hstale`)
      obtain ⟨hre, hni⟩ := Bool.or_eq_false_iff.1 hre
      have hni := fun h => Bool.false_ne_true (hni ▸ List.contains_iff_mem.2 h)
      exact (hI.staleOut hre r hr).imp_right
        (Or.imp (hstale hni (hI.everRel r hr).1) (hstale hni (hI.everRel r hr).2))
    noHit := fun hre => hI.noHit (Bool.or_eq_false_iff.1 hre).1 }

theorem Inv.lookup_some {q : Quirks} {st : St σ} (hI : Inv q st) {x : HObj} {w : W} (hx : x ∈ st.h.live)
    (hl : lookup st.g x.pid = some w) : w ∈ st.g.nodes ∧ w.obj = x.obj := by
  have hent := lookup_some_instIdx hl
  have ho : w.obj = x.obj := hI.instOwner _ hent x hx rfl
  exact ⟨(hI.instNode _ hent (Or.inr ⟨x, hx, ho.symm⟩)).1, ho⟩

theorem Inv.lookup_none {q : Quirks} {st : St σ} (hI : Inv q st) {x : HObj} (hx : x ∈ st.h.live)
    (hl : lookup st.g x.pid = none) : ∀ w ∈ st.g.nodes, w.obj ≠ x.obj :=
  fun w hw ho => lookup_none_instIdx hl _ (hI.instLive w hw x hx ho.symm) (hI.nodeLive w hw x hx ho.symm).2.symm

theorem Inv.addEdge {q : Quirks} {st : St σ} (hI : Inv q st) (f : Fld) (ws wt : W) (inf : Bool)
    (hs : ws ∈ st.g.nodes) (ht : wt ∈ st.g.nodes) : Inv q { st with g := SG.addEdge st.g f ws wt inf } := by
  have hmem : ∀ {e}, e ∈ (SG.addEdge st.g f ws wt inf).edges ↔ e ∈ st.g.edges ∨ e = ⟨f, ws, wt, inf⟩ := by
    simp [SG.addEdge]
  have hrel : ∀ {r}, r ∈ (SG.addEdge st.g f ws wt inf).relIdx ↔ r ∈ st.g.relIdx ∨ r = (f, ws.idx, wt.idx) := by
    simp [SG.addEdge]
  have hnew : ∃ e ∈ (SG.addEdge st.g f ws wt inf).edges, (f, ws.idx, wt.idx) = (e.fld, e.src.idx, e.tgt.idx) :=
    ⟨_, hmem.2 (Or.inr rfl), rfl⟩
  have hold : ∀ {r}, (∃ e ∈ st.g.edges, r = (e.fld, e.src.idx, e.tgt.idx)) →
      ∃ e ∈ (SG.addEdge st.g f ws wt inf).edges, r = (e.fld, e.src.idx, e.tgt.idx) :=
    fun ⟨e, he, hr⟩ => ⟨e, hmem.2 (Or.inl he), hr⟩
  exact { hI with
    edgeNodes := fun e he => by
      rcases hmem.1 he with he | rfl
      · exact hI.edgeNodes e he
      · exact ⟨hs, ht⟩
    relOfEdge := fun e he => by
      rcases hmem.1 he with he | rfl
      · exact hrel.2 (Or.inl (hI.relOfEdge e he))
      · exact hrel.2 (Or.inr rfl)
    relExact := fun hq r hr => by
      rcases hrel.1 hr with hr | rfl
      · exact hold (hI.relExact hq r hr)
      · exact hnew
    everRel := fun r hr => by
      rcases hrel.1 hr with hr | rfl
      · exact hI.everRel r hr
      · exact ⟨hI.everNodes ws hs, hI.everNodes wt ht⟩
    staleOut := fun hre r hr => by
      rcases hrel.1 hr with hr | rfl
      · exact (hI.staleOut hre r hr).imp_left hold
      · exact Or.inl hnew }

theorem Inv.flags {q : Quirks} {st : St σ} (hI : Inv q st) (e s d : Bool)
    (he : e = true → d = true ∧ q.deadEndpointRaises = true) (hs : st.g.reused = false → s = false) :
    Inv q { st with err := e, staleHit := s, deadHit := d } :=
  { hI with errFlag := he, noHit := hs }

/-- `relation_exists` says "already known" of two nodes only if the edge is there — as long as `remove_node` purges the
relation index, or no node index was handed out twice -/
theorem Inv.exists_exact {q : Quirks} {st : St σ} (hI : Inv q st) (h0 : q.staleRelIndex = false ∨ st.g.reused = false)
    (f : Fld) (ws wt : W) (hs : ws ∈ st.g.nodes) (ht : wt ∈ st.g.nodes) (h : relationExists st.g f ws wt = true) :
    edgeExists st.g f ws wt = true := by
  simp only [relationExists, List.contains_iff_mem] at h
  obtain ⟨e, he, heq⟩ : ∃ e ∈ st.g.edges, (f, ws.idx, wt.idx) = (e.fld, e.src.idx, e.tgt.idx) := by
    rcases h0 with hq | hre
    · exact hI.relExact hq _ h
    · -- an entry without an edge mentions an index that no node has
      rcases hI.staleOut hre _ h with he | hn | hn
      · exact he
      · exact absurd rfl (hn ws hs)
      · exact absurd rfl (hn wt ht)
  -- node indices are injective: the edge is between these two wrappers
  simp only [Prod.mk.injEq] at heq
  have hn := hI.edgeNodes e he
  have h1 := hI.idxInj ws hs e.src hn.1 heq.2.1
  have h2 := hI.idxInj wt ht e.tgt hn.2 heq.2.2
  simp only [edgeExists, List.any_eq_true, Bool.and_eq_true, beq_iff_eq]
  exact ⟨e, he, ⟨heq.1.symm, h1.symm⟩, h2.symm⟩

theorem Inv.clear {q : Quirks} {a : Alloc σ} {st : St σ} (hI : Inv q st) :
    Inv q { st with g := { SG.empty a with reused := st.g.reused }, h := { st.h with epoch := [] } } :=
  Inv.empty a _ _ _ _ _ rfl hI.liveUsed hI.liveObjInj hI.livePidInj hI.errFlag hI.noHit

theorem fresh_of_guard {h : Heap} {o : Obj} {pid : Nat}
    (hg : (h.used.contains o || h.live.any (fun x => x.pid == pid)) = false) :
    o ∉ h.used ∧ ∀ x ∈ h.live, x.pid ≠ pid := by
  simpa using hg

theorem Inv.create {q : Quirks} {a : Alloc σ} (ha : a.Valid) {st : St σ} (hI : Inv q st) {o : Obj} {c : Cls}
    {pid : Nat} (hg : (st.h.used.contains o || st.h.live.any (fun x => x.pid == pid)) = false) (h' : Heap)
    (hl : h'.live = st.h.live ++ [⟨o, c, pid⟩]) (hu : h'.used = st.h.used ++ [o])
    (he : h'.epoch = st.h.epoch ++ [o]) : Inv q { st with g := (SG.addNode a st.g o c pid).1, h := h' } := by
  obtain ⟨ho, hp⟩ := fresh_of_guard hg
  exact hI.addNode ha ⟨o, c, pid⟩ h' (by simp [hl]) (fun y hy (e : y.obj = o) => absurd (e ▸ hI.liveUsed y hy) ho)
    (fun y hy e => absurd e (hp y hy)) (by simp [hu]) (by simp [he])
    (fun w hw (e : w.obj = o) => ho (e ▸ hI.nodeUsed w hw))
    fun kw hkw (e : kw.2.obj = o) => absurd (e ▸ hI.instUsed kw hkw) ho

/-! ### the frame of `add_to_graph` -/

/-- what `add_to_graph` leaves untouched: no node goes away (the role taker of a source or target may be wrapped on the
way), and everything in the heap but the field contents and the ghost list of registered labels stays -/
structure Frame (st st' : St σ) : Prop where
  nodes : ∀ w ∈ st.g.nodes, w ∈ st'.g.nodes
  heap : st'.h = { st.h with fields := st'.h.fields, epoch := st'.h.epoch }
  epoch : ∀ o ∈ st.h.epoch, o ∈ st'.h.epoch

theorem Frame.live {st st' : St σ} (h : Frame st st') : st'.h.live = st.h.live := by rw [h.heap]

theorem Frame.used {st st' : St σ} (h : Frame st st') : st'.h.used = st.h.used := by rw [h.heap]

theorem Frame.refl (st : St σ) : Frame st st := ⟨fun _ h => h, rfl, fun _ h => h⟩

theorem Frame.trans {s1 s2 s3 : St σ} (h1 : Frame s1 s2) (h2 : Frame s2 s3) : Frame s1 s3 :=
  ⟨fun w hw => h2.nodes w (h1.nodes w hw), by rw [h2.heap, h1.heap], fun o ho => h2.epoch o (h1.epoch o ho)⟩

theorem Frame.of_eq {st st' : St σ} (hn : st'.g.nodes = st.g.nodes)
    (hh : st'.h = { st.h with fields := st'.h.fields }) : Frame st st' := by
  refine ⟨fun _ h => hn ▸ h, ?_, fun _ h => ?_⟩
  · rw [hh]
  · rw [hh]
    exact h

def Keeps (q : Quirks) (st0 : St σ) (s : St σ) : Prop := Inv q s ∧ Frame st0 s

theorem Keeps.inv {q : Quirks} {s0 s : St σ} (h : Keeps q s0 s) : Inv q s := h.1
theorem Keeps.frame {q : Quirks} {s0 s : St σ} (h : Keeps q s0 s) : Frame s0 s := h.2

theorem Keeps.refl {q : Quirks} {s : St σ} (hI : Inv q s) : Keeps q s s := ⟨hI, Frame.refl s⟩

theorem Keeps.trans {q : Quirks} {s1 s2 s3 : St σ} (h1 : Keeps q s1 s2) (h2 : Keeps q s2 s3) : Keeps q s1 s3 :=
  ⟨h2.inv, h1.frame.trans h2.frame⟩

end KrroodVerif.SG
