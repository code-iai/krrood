import KrroodVerif.Model.DomShape
import KrroodVerif.Lemmas.DomLemmas
/-!
Lemmas about the interpreter `stepS` of `Model/DomShape.lean`, for `Props/C03.lean` and `Props/C03Shape.lean`.

* `stepS shape` is `Dom.step` and `stepS shapeIdx` is `Dom.stepIdx`, on all states and schedules (`run_eq_interp`,
  `runIdx_eq_interp`).
* A shape that caches before it yields hands out only what is then in the cache (`stepS_cached`); `IterShape.all` runs a
  decidable predicate over all shapes.
* The invariants of C03, for every shape with `coreOk`, whatever phase 1 is. A cursor is described by the list of what it
  would still hand out if nobody else touched the domain (`RemS`); one `next()` pops that list (`stepS_rem`). A step of
  anybody only moves the head of the source to the end of the cache (`Grows`); that keeps the description of a fresh
  cursor and of an index cursor true (`RemS.frame`), not that of a live view, a snapshot or a cursor inside the pull loop.
  So `run_noOverlapS` (any phase 1) tracks only the open iterator and the fresh ones, `run_fullS` (phase 1 an index)
  every live iterator.
-/
namespace KrroodVerif.Dom

theorem filter_map_snd {β γ : Type} (f : β → γ) (l : List (Nat × β)) (i : Nat) :
    (l.map fun p => (p.1, f p.2)).filter (·.1 != i) = (l.filter (·.1 != i)).map fun p => (p.1, f p.2) :=
  List.filter_map

theorem getElem?_guard {α : Type} (l : List α) (i : Nat) : (if i < l.length then l[i]? else none) = l[i]? := by
  by_cases h : i < l.length
  · simp [h]
  · simp only [h, if_false]
    exact (List.getElem?_eq_none (by omega)).symm

/-- `R`: a hand-written schedule machine (`qn`: its query `next()`, `q0 i`: its fresh iterator), `f`: the embedding of
its iterators -/
theorem runS_map {β : Type} (sh : IterShape) (sats : Nat → List Nat) (f : β → SQIter)
    (qn : Dom → β → Nat → Dom × β × Out) (q0 : Nat → β) (hq0 : ∀ i, f (q0 i) = ⟨.fresh, sats i⟩)
    (hown : ∀ q, (f q).cur.ownLen = 0)
    (hqn : ∀ d q fuel, qnextS sh (embD d) (f q) fuel = (embD (qn d q fuel).1, f (qn d q fuel).2.1, (qn d q fuel).2.2))
    (R : Dom → List (Nat × β) → List Op → List (Option Out)) (hnil : ∀ d its, R d its [] = [])
    (hcons : ∀ d its op ops, R d its (op :: ops) = match op with
      | .start i => none :: R d ((i, q0 i) :: its.filter (·.1 != i)) ops
      | .abandon i => none :: R d (its.filter (·.1 != i)) ops
      | .next i =>
        match its.lookup i with
        | none => some .stop :: R d its ops
        | some q =>
          let r := qn d q (d.cache.length + d.rest.length + 2)
          some r.2.2 :: R r.1 ((i, r.2.1) :: its.filter (·.1 != i)) ops) :
    ∀ (ops : List Op) (d : Dom) (its : List (Nat × β)),
      runS sh sats ⟨embD d, its.map fun p => (p.1, f p.2)⟩ ops = R d its ops := by
  intro ops
  induction ops with
  | nil =>
    intro d its
    rw [hnil]
    rfl
  | cons op ops ih =>
    intro d its
    rw [hcons]
    cases op with
    | start i =>
      simp only [runS, run1S, filter_map_snd f, ← hq0]
      exact congrArg _ (ih d ((i, q0 i) :: its.filter (·.1 != i)))
    | abandon i => simp only [runS, run1S, filter_map_snd f, ih]
    | next i =>
      simp only [runS, run1S, lookup_map_snd f]
      cases its.lookup i with
      | none => simp only [Option.map_none, ih]
      | some q =>
        simp only [Option.map_some, hown, Nat.add_zero, hqn, filter_map_snd f]
        exact congrArg _ (ih _ ((i, _) :: its.filter (·.1 != i)))

theorem step_eq_interp (d : Dom) (c : Cursor) :
    stepS shape (embD d) (embC c) = (embD (step d c).1, embC (step d c).2.1, (step d c).2.2) := by
  obtain ⟨cache, rest⟩ := d
  cases c with
  | fresh =>
    cases cache with
    | nil => cases rest <;> rfl
    | cons x xs => rfl
  | replay i size =>
    by_cases hs : cache.length = size
    · subst hs
      have hg := getElem?_guard cache i
      simp only [stepS, step, embD, embC, shape, bne_self_eq_false, Bool.and_false, Bool.false_eq_true, if_false,
        show (Phase1.liveView == Phase1.index) = false from rfl, hg]
      cases hx : cache[i]? with
      | some x => rfl
      | none => cases rest <;> rfl
    · have hb : (cache.length != size) = true := by simpa using hs
      simp [stepS, step, embD, embC, shape, hb]
  | drain => cases rest <;> rfl
  | done => rfl

theorem qnext_eq_interp (d : Dom) (q : QIter) (fuel : Nat) :
    qnextS shape (embD d) (embQ q) fuel =
      (embD (qnext d q fuel).1, embQ (qnext d q fuel).2.1, (qnext d q fuel).2.2) := by
  fun_induction qnext d q fuel with
  -- no fuel
  | case1 d q => rfl
  -- the step yields a satisfying value
  | case2 d q fuel d' c' x hst hx => simp only [qnextS, embQ, step_eq_interp, hst, hx, if_true]
  -- it yields a value that does not satisfy: go on from where the step left off
  | case3 d q fuel d' c' x hst hx ih =>
    simp only [qnextS, embQ, step_eq_interp, hst, hx]
    exact ih
  -- it stops or raises (`ho`: not a value)
  | case4 d q fuel d' c' o ho hst => simp only [qnextS, embQ, step_eq_interp, hst]

theorem ownLen_embC (c : Cursor) : (embC c).ownLen = 0 := by cases c <;> rfl

theorem run_eq_interp (sats : Nat → List Nat) : ∀ (ops : List Op) (st : State),
    runS shape sats (embS st) ops = run sats st ops := fun ops st =>
  runS_map shape sats embQ qnext (fun i => ⟨.fresh, sats i⟩) (fun _ => rfl) (fun q => ownLen_embC q.cur)
    qnext_eq_interp (fun d its => run sats ⟨d, its⟩) (fun _ _ => rfl)
    (fun d its op ops => by
      cases op with
      | start i => rfl
      | abandon i => rfl
      | next i =>
        simp only [run, run1, State.get]
        cases its.lookup i with
        | none => rfl
        | some q => rfl)
    ops st.dom st.its

theorem embS_init (n : Nat) : embS (init n) = initS n := rfl

theorem finish_idx (d : SDom) : finish shapeIdx d [] = d := by
  obtain ⟨c, r, b⟩ := d
  simp [finish, shapeIdx, shape]

theorem stepIdx_eq_interp (d : Dom) (i : Nat) :
    stepS shapeIdx (embD d) (embI i) = (embD (stepIdx d i).1, embI (stepIdx d i).2.1, (stepIdx d i).2.2) := by
  obtain ⟨cache, rest⟩ := d
  by_cases hi : i = 0
  · subst hi
    cases cache with
    | nil => cases rest <;> rfl
    | cons x xs => rfl
  · simp only [embI, hi, if_false, stepS, shapeIdx, shape, embD, stepIdx]
    simp only [show (Phase1.index == Phase1.liveView) = false from rfl, Bool.false_and, Bool.false_eq_true, if_false,
      show (Phase1.index == Phase1.index) = true from rfl, if_true, getElem?_guard]
    by_cases hlt : i < cache.length
    · simp [List.getElem?_eq_getElem hlt]
    · have hn : cache[i]? = none := List.getElem?_eq_none (by omega)
      simp only [hn]
      cases rest with
      | nil => simp [afterReplay, idxPull, finish, hi]
      | cons y ys => simp [afterReplay, idxPull]

theorem qnextIdx_eq_interp (d : Dom) (q : QIterIdx) (fuel : Nat) :
    qnextS shapeIdx (embD d) (embQI q) fuel =
      (embD (qnextIdx d q fuel).1, embQI (qnextIdx d q fuel).2.1, (qnextIdx d q fuel).2.2) := by
  fun_induction qnextIdx d q fuel with
  -- no fuel
  | case1 d q => rfl
  -- the step yields a satisfying value
  | case2 d q fuel d' i' x hst hx => simp only [qnextS, embQI, stepIdx_eq_interp, hst, hx, if_true]
  -- it yields a value that does not satisfy: go on from where the step left off
  | case3 d q fuel d' i' x hst hx ih =>
    simp only [qnextS, embQI, stepIdx_eq_interp, hst, hx]
    exact ih
  -- it stops or raises (`ho`: not a value)
  | case4 d q fuel d' i' o ho hst => simp only [qnextS, embQI, stepIdx_eq_interp, hst]

theorem ownLen_embI (i : Nat) : (embI i).ownLen = 0 := by
  unfold embI
  split <;> rfl

theorem runIdx_eq_interp (sats : Nat → List Nat) : ∀ (ops : List Op) (st : StateIdx),
    runS shapeIdx sats (embSI st) ops = runIdx sats st ops := fun ops st =>
  runS_map shapeIdx sats embQI qnextIdx (fun i => ⟨0, sats i⟩) (fun _ => rfl) (fun q => ownLen_embI q.idx)
    qnextIdx_eq_interp (fun d its => runIdx sats ⟨d, its⟩) (fun _ _ => rfl)
    (fun d its op ops => by
      cases op with
      | start i => rfl
      | abandon i => rfl
      | next i =>
        simp only [runIdx, run1Idx, StateIdx.get]
        cases its.lookup i with
        | none => rfl
        | some q => rfl)
    ops st.dom st.its

theorem embSI_init (n : Nat) : embSI (initIdx n) = initS n := rfl

/-- `cache`: the cache before the step whose result is `r` -/
def HandsOutCached (cache : List Nat) (r : SDom × SCursor × Out) : Prop :=
  (∀ x, r.2.2 = .val x → x ∈ r.1.cache) ∧ (∀ y, y ∈ cache → y ∈ r.1.cache)

theorem HandsOutCached.val {cache : List Nat} {d : SDom} (c : SCursor) {x : Nat} (hx : x ∈ d.cache)
    (hsub : ∀ y, y ∈ cache → y ∈ d.cache) : HandsOutCached cache (d, c, .val x) :=
  ⟨fun _ h => Out.val.inj h ▸ hx, hsub⟩

theorem HandsOutCached.noVal {cache : List Nat} {d : SDom} (c : SCursor) {o : Out} (ho : ∀ x, o ≠ .val x)
    (hsub : ∀ y, y ∈ cache → y ∈ d.cache) : HandsOutCached cache (d, c, o) :=
  ⟨fun x h => absurd h (ho x), hsub⟩

theorem emit_cached {s : IterShape} (hs : s.cacheWhen = .beforeYield) (d : SDom) (own : Option (List Nat))
    (held : List Nat) (x : Nat) : HandsOutCached d.cache (emit s d own held x) := by
  simp only [emit, hs]
  exact .val _ (by simp) (fun y h => List.mem_append_left _ h)

theorem finish_cached {s : IterShape} (hs : s.cacheWhen = .beforeYield) (d : SDom) (held : List Nat) (c : SCursor) :
    HandsOutCached d.cache (finish s d held, c, .stop) := by
  simp only [finish, hs]
  exact .noVal _ nofun (fun _ h => h)

theorem pullStep_cached {s : IterShape} (hs : s.cacheWhen = .beforeYield) (d : SDom) (own : Option (List Nat))
    (held : List Nat) : HandsOutCached d.cache (pullStep s d own held) := by
  have hb : (CacheWhen.beforeYield == CacheWhen.afterYield) = false := rfl
  simp only [pullStep, hs, hb, Bool.false_eq_true, if_false]
  split
  · split
    · next x r _ => exact emit_cached hs { d with rest := r } none held x
    · exact finish_cached hs d held .done
  · next x r => exact emit_cached hs d (some r) held x
  · exact finish_cached hs d held .done

theorem afterReplay_cached {s : IterShape} (hs : s.cacheWhen = .beforeYield) (d : SDom) (c : SCursor) (i : Nat)
    (fromCache : Bool) : HandsOutCached d.cache (afterReplay s d c i fromCache) := by
  unfold afterReplay
  split
  · exact .noVal _ nofun (fun _ h => h)
  · split
    · unfold idxPull
      split
      · exact .val _ (by simp) (fun y h => List.mem_append_left _ h)
      · exact finish_cached hs d [] c
    · unfold enterPull
      split
      · exact pullStep_cached hs d none []
      · exact pullStep_cached hs { d with rest := [] } (some d.rest) []

theorem stepS_cached {s : IterShape} (hs : s.cacheWhen = .beforeYield) (d : SDom) (c : SCursor) :
    HandsOutCached d.cache (stepS s d c) := by
  cases c with
  | fresh =>
    simp only [stepS]
    split
    · exact .noVal _ nofun (fun _ h => h)
    · split
      · next x xs hc => exact .val _ (by simp [hc]) (fun _ h => h)
      · exact afterReplay_cached hs d .fresh 0 false
  | replay i size =>
    simp only [stepS]
    split
    · exact .noVal _ nofun (fun _ h => h)
    · split
      · next x hx =>
        exact .val _ (List.mem_of_getElem? (Option.ite_none_right_eq_some.mp hx).2) (fun _ h => h)
      · exact afterReplay_cached hs d (.replay i size) i true
  | drain own held => exact pullStep_cached hs d own held
  | done => exact .noVal _ nofun (fun _ h => h)

/-- `p` at all 288 shapes, in a form the kernel can run -/
def IterShape.all (p : IterShape → Bool) : Bool :=
  [Phase1.liveView, .snapshot, .index].all fun p1 =>
  [false, true].all fun co =>
  [CacheWhen.beforeYield, .afterYield, .atEnd, .never].all fun cw =>
  [SourceUse.shared, .takeOver].all fun so =>
  [EndAction.keep, .release].all fun ae =>
  [Truth.valuesOrSource, .valuesOnly, .sourceOnly].all fun tr => p ⟨p1, co, cw, so, ae, tr⟩

theorem IterShape.all_spec {p : IterShape → Bool} (h : IterShape.all p = true) (s : IterShape) : p s = true := by
  obtain ⟨p1, co, cw, so, ae, tr⟩ := s
  simp only [IterShape.all, List.all_eq_true] at h
  exact h p1 (by cases p1 <;> simp) co (by cases co <;> simp) cw (by cases cw <;> simp) so (by cases so <;> simp)
    ae (by cases ae <;> simp) tr (by cases tr <;> simp)

/-! ### the invariants of C03, for every `coreOk` shape -/

theorem coreOk_iff {s : IterShape} : s.coreOk = true ↔ s.cachedOnly = false ∧ s.cacheWhen = .beforeYield ∧
    s.source = .shared ∧ s.atEnd = .keep ∧ s.truth = .valuesOrSource := by
  simp only [IterShape.coreOk, Bool.and_eq_true, Bool.not_eq_true', beq_iff_eq, and_assoc]

/-- what any `next()` of anybody does to the shared domain: the one-shot source moves into the cache -/
def Grows (d d' : SDom) : Prop :=
  d'.cache ++ d'.rest = d.cache ++ d.rest ∧ d.cache.length ≤ d'.cache.length ∧ d'.released = d.released

theorem Grows.refl (d : SDom) : Grows d d := ⟨rfl, Nat.le_refl _, rfl⟩

theorem Grows.trans {a b c : SDom} (h1 : Grows a b) (h2 : Grows b c) : Grows a c :=
  ⟨h2.1.trans h1.1, Nat.le_trans h1.2.1 h2.2.1, h2.2.2.trans h1.2.2⟩

/-- `RemS s d c l`: `l` is what the cursor `c` would still hand out over `d` if nobody else touched `d`. A live view
or a snapshot knows this only as long as the cache has the size it had when the cursor was created; an index cursor
knows it as long as it points into the cache. -/
def RemS (s : IterShape) (d : SDom) : SCursor → List Nat → Prop
  | .fresh, l => l = d.cache ++ d.rest
  | .replay i size, l =>
    l = d.cache.drop i ++ d.rest ∧ if s.phase1 = .index then i ≤ d.cache.length else size = d.cache.length
  | .drain none [], l => s.phase1 ≠ .index ∧ l = d.rest
  | .drain _ _, _ => False
  | .done, l => l = []

theorem RemS.frame {s : IterShape} (hp : s.phase1 = .index) {d d' : SDom} {c : SCursor} {l : List Nat} (hg : Grows d d')
    (h : RemS s d c l) : RemS s d' c l := by
  obtain ⟨hL, hlen, _⟩ := hg
  cases c with
  | fresh => exact (h : l = _).trans hL.symm
  | done => exact h
  | drain own held =>
    match own, held, h with
    | none, [], h => exact absurd hp h.1
  | replay i size =>
    simp only [RemS, hp, if_true] at h ⊢
    refine ⟨?_, Nat.le_trans h.2 hlen⟩
    rw [h.1, ← List.drop_append_of_le_length h.2, ← List.drop_append_of_le_length (Nat.le_trans h.2 hlen), hL]

theorem RemS.length_le {s : IterShape} {d : SDom} {c : SCursor} {l : List Nat} (h : RemS s d c l) :
    l.length ≤ d.cache.length + d.rest.length := by
  cases c with
  | fresh =>
    rw [(h : l = d.cache ++ d.rest), List.length_append]
    exact Nat.le_refl _
  | done =>
    rw [(h : l = [])]
    exact Nat.zero_le _
  | replay i size =>
    rw [h.1, List.length_append, List.length_drop]
    omega
  | drain own held =>
    match own, held, h with
    | none, [], h =>
      rw [h.2]
      exact Nat.le_add_left _ _

theorem pullStep_core {s : IterShape} (hs : s.coreOk = true) (d : SDom) :
    pullStep s d none [] = match d.rest with
      | x :: r => ({ d with cache := d.cache ++ [x], rest := r }, .drain none [], .val x)
      | [] => (d, .done, .stop) := by
  obtain ⟨_, hcw, _, hae, _⟩ := coreOk_iff.mp hs
  obtain ⟨cache, rest, rel⟩ := d
  cases rest <;> simp [pullStep, emit, finish, hcw, hae]

theorem afterReplay_core {s : IterShape} (hs : s.coreOk = true) (d : SDom) (c : SCursor) (i : Nat) (fc : Bool) :
    afterReplay s d c i fc = match d.rest with
      | x :: r => ({ d with cache := d.cache ++ [x], rest := r },
          if s.phase1 = .index then .replay (i + 1) 0 else .drain none [], .val x)
      | [] => (d, if s.phase1 = .index then c else .done, .stop) := by
  obtain ⟨hco, hcw, hso, hae, _⟩ := coreOk_iff.mp hs
  by_cases hp : s.phase1 = .index
  · obtain ⟨cache, rest, rel⟩ := d
    cases rest <;> simp [afterReplay, idxPull, finish, hco, hcw, hso, hae, hp]
  · have hb : (s.phase1 == Phase1.index) = false := beq_false_of_ne hp
    simp only [afterReplay, enterPull, hco, hso, pullStep_core hs, hp, hb, if_false, Bool.false_and,
      Bool.false_eq_true]

/-- One `next()` pops `l`. Stated by `match` on `l`, so that `qnextS_spec` gets the clause of its case by `cases l`. -/
theorem stepS_rem {s : IterShape} (hs : s.coreOk = true) {d : SDom} (hrel : d.released = false) {c : SCursor}
    {l : List Nat} (h : RemS s d c l) :
    match (generalizing := false) l with
    | [] => ∃ c', stepS s d c = (d, c', .stop) ∧ RemS s d c' []
    | x :: t => ∃ d' c', stepS s d c = (d', c', .val x) ∧ RemS s d' c' t ∧ Grows d d' := by
  obtain ⟨cache, rest, rel⟩ := d
  cases hrel
  have htr : truthy s ⟨cache, rest, false⟩ = true := by simp [truthy, (coreOk_iff.mp hs).2.2.2.2]
  cases c with
  | done =>
    cases (h : l = [])
    exact ⟨.done, rfl, rfl⟩
  | drain own held =>
    match own, held, h with
    | none, [], ⟨hp, h⟩ =>
      cases (h : l = rest)
      simp only [stepS, pullStep_core hs]
      cases rest with
      | nil => exact ⟨.done, rfl, rfl⟩
      | cons x t => exact ⟨_, _, rfl, ⟨hp, rfl⟩, by simp [Grows]⟩
  | fresh =>
    cases (h : l = cache ++ rest)
    simp only [stepS, htr, Bool.not_true, Bool.false_eq_true, if_false]
    cases cache with
    | cons y ys =>
      -- something is cached: its head is handed out and the cursor enters the replay at cell 1
      refine ⟨_, _, rfl, ⟨rfl, ?_⟩, Grows.refl _⟩
      split
      · exact Nat.succ_le_succ (Nat.zero_le _)
      · next hp => simp only [beq_iff_eq, hp, if_false]
    | nil =>
      -- nothing is cached: the cursor goes to the source at once; an index cursor counts the pulled value as cell 0
      simp only [afterReplay_core hs, List.nil_append]
      cases rest with
      | nil =>
        refine ⟨_, rfl, ?_⟩
        split <;> rfl
      | cons x t =>
        refine ⟨_, _, rfl, ?_, by simp [Grows]⟩
        split
        · next hp => exact ⟨rfl, (if_pos hp).mpr (Nat.le_refl 1)⟩
        · next hp => exact ⟨hp, rfl⟩
  | replay i size =>
    obtain ⟨rfl, hsz⟩ := h
    -- whatever phase 1 is, the cursor passes the live view's size check and reads cell `i` of the whole cache
    have hread : stepS s ⟨cache, rest, false⟩ (.replay i size) = match cache[i]? with
        | some x => (⟨cache, rest, false⟩, .replay (i + 1) size, .val x)
        | none => afterReplay s ⟨cache, rest, false⟩ (.replay i size) i true := by
      by_cases hp : s.phase1 = .index
      · simp only [stepS, hp, getElem?_guard, if_true, beq_self_eq_true, Bool.false_and, Bool.false_eq_true, if_false,
          show (Phase1.index == Phase1.liveView) = false from rfl]
        cases cache[i]? <;> rfl
      · have hb : (s.phase1 == Phase1.index) = false := beq_false_of_ne hp
        simp only [hp, if_false] at hsz
        simp only [stepS, hb, hsz, getElem?_guard, bne_self_eq_false, Bool.and_false, Bool.false_eq_true, if_false]
        cases cache[i]? <;> rfl
    rw [hread]
    by_cases hi : i < cache.length
    · rw [List.drop_eq_getElem_cons hi, List.getElem?_eq_getElem hi]
      refine ⟨_, _, rfl, ⟨rfl, ?_⟩, Grows.refl _⟩
      split
      · exact hi
      · next hp => simpa only [hp, if_false] using hsz
    · rw [List.drop_eq_nil_of_le (Nat.le_of_not_lt hi), List.getElem?_eq_none (Nat.le_of_not_lt hi),
        afterReplay_core hs, List.nil_append]
      cases rest with
      | nil =>
        refine ⟨_, rfl, ?_⟩
        split
        · exact ⟨by simp [List.drop_eq_nil_of_le (Nat.le_of_not_lt hi)], hsz⟩
        · rfl
      | cons x t =>
        refine ⟨_, _, rfl, ?_, by simp [Grows]⟩
        split
        · next hp =>
          simp only [hp, if_true] at hsz
          have : i = cache.length := by omega
          simp [RemS, hp, this]
        · next hp => exact ⟨hp, rfl⟩

theorem qnextS_spec {s : IterShape} (hs : s.coreOk = true) (sat : List Nat) : ∀ (fuel : Nat) (l : List Nat) (d : SDom)
    (c : SCursor), d.released = false → RemS s d c l → l.length + 1 ≤ fuel →
    ∃ d' c' o l', qnextS s d ⟨c, sat⟩ fuel = (d', ⟨c', sat⟩, o) ∧ RemS s d' c' l' ∧ Grows d d' ∧
      Outcome (l.filter (sat.contains ·)) o (l'.filter (sat.contains ·)) := by
  intro fuel
  induction fuel with
  | zero =>
    intro l d c _ _ h
    omega
  | succ fuel ih =>
    intro l d c hrel hrem hfuel
    have hstep := stepS_rem hs hrel hrem
    cases l with
    | nil =>
      obtain ⟨c', hstep, hrem'⟩ := hstep
      exact ⟨d, c', .stop, [], by simp only [qnextS, hstep], hrem', .refl d, .stop⟩
    | cons x t =>
      obtain ⟨d', c', hstep, hrem', hg⟩ := hstep
      by_cases hx : sat.contains x = true
      · refine ⟨d', c', .val x, t, by simp only [qnextS, hstep, hx, if_true], hrem', hg, ?_⟩
        simp only [List.filter_cons, hx, if_true]
        exact .val x _
      · obtain ⟨d'', c'', o, l', hq, hrem'', hg', hres⟩ :=
          ih t d' c' (hg.2.2.trans hrel) hrem' (Nat.le_of_succ_le_succ hfuel)
        refine ⟨d'', c'', o, l', ?_, hrem'', hg.trans hg', ?_⟩
        · simp only [qnextS, hstep, hx]
          exact hq
        · simp only [List.filter_cons, hx]
          exact hres

/-! ### schedules -/

/-- `cache ++ rest` is the user's domain, and the domain is truthy -/
def DomOk (n : Nat) (d : SDom) : Prop := d.cache ++ d.rest = List.range n ∧ d.released = false

theorem DomOk.grows {n : Nat} {d d' : SDom} (h : DomOk n d) (hg : Grows d d') : DomOk n d' :=
  ⟨hg.1.trans h.1, hg.2.2.trans h.2⟩

/-- iterator `c` is in a state from which, if only it is advanced (or whoever is advanced, if its cursor is stable), it
behaves like the specification with counter `k` -/
def GoodS (s : IterShape) (n : Nat) (sats : Nat → List Nat) (st : SState) (sp : List (Nat × Nat)) (c : Nat) : Prop :=
  ∃ q k l, st.its.lookup c = some q ∧ q.sat = sats c ∧ sp.lookup c = some k ∧ RemS s st.dom q.cur l ∧
    l.filter ((sats c).contains ·) = (isolated n (sats c)).drop k

theorem GoodS.fresh {s : IterShape} {n : Nat} {sats : Nat → List Nat} {st : SState} {sp : List (Nat × Nat)} {c : Nat}
    (hdom : DomOk n st.dom) (hget : st.its.lookup c = some ⟨.fresh, sats c⟩) (hk : sp.lookup c = some 0) :
    GoodS s n sats st sp c :=
  ⟨_, 0, _, hget, rfl, hk, hdom.1.symm, by simp [isolated]⟩

theorem GoodS.of_agree {s : IterShape} {n : Nat} {sats : Nat → List Nat} {st st' : SState} {sp sp' : List (Nat × Nat)}
    {c : Nat} (h : GoodS s n sats st sp c) (hl : st'.its.lookup c = st.its.lookup c)
    (hk : sp'.lookup c = sp.lookup c) (hrem : ∀ cur l, RemS s st.dom cur l → RemS s st'.dom cur l) :
    GoodS s n sats st' sp' c := by
  obtain ⟨q, k, l, hget, hsat, hk', hr, hfil⟩ := h
  exact ⟨q, k, l, hl.trans hget, hsat, hk.trans hk', hrem _ _ hr, hfil⟩

theorem GoodS.next {s : IterShape} (hs : s.coreOk = true) {n : Nat} {sats : Nat → List Nat} {st : SState}
    {sp : List (Nat × Nat)} {i : Nat} (hg : GoodS s n sats st sp i) (hdom : DomOk n st.dom) :
    ∃ st' sp' o, run1S s sats st (.next i) = (st', some o) ∧
      (∀ ops, specRun n sats sp (.next i :: ops) = some o :: specRun n sats sp' ops) ∧
      Grows st.dom st'.dom ∧ GoodS s n sats st' sp' i ∧
      (∀ c, c ≠ i → st'.its.lookup c = st.its.lookup c ∧ sp'.lookup c = sp.lookup c) := by
  obtain ⟨⟨qc, qs⟩, k, l, hget, hsat, hk, hrem, hfil⟩ := hg
  simp only at hsat hrem
  subst hsat
  have hfuel : l.length + 1 ≤ st.dom.cache.length + st.dom.rest.length + qc.ownLen + 2 := by
    have := hrem.length_le
    omega
  obtain ⟨d', c', o, l', hq, hrem', hgr, hres⟩ := qnextS_spec hs (sats i) _ l st.dom qc hdom.2 hrem hfuel
  rw [hfil] at hres
  obtain ⟨sp', k', hsp', hfil', hspec⟩ := specRun_next hk hres
  refine ⟨⟨d', (i, ⟨c', sats i⟩) :: st.its.filter (·.1 != i)⟩, sp', o, ?_, hspec, hgr,
    ⟨⟨c', sats i⟩, k', l', List.lookup_cons_self, rfl, ?_, hrem', hfil'⟩, fun c hc => ⟨?_, ?_⟩⟩
  · simp only [run1S, hget, hq]
  · simp only [hsp', if_true]
  · simp only [lookup_set, if_neg hc]
  · simp only [hsp', if_neg hc]

/-- what EVERY schedule maintains when all cursors are stable (index cursors) -/
def FullInvS (s : IterShape) (n : Nat) (sats : Nat → List Nat) (st : SState) (sp : List (Nat × Nat)) : Prop :=
  DomOk n st.dom ∧ ∀ i, (st.its.lookup i = none ∧ sp.lookup i = none) ∨ GoodS s n sats st sp i

theorem run_fullS {s : IterShape} (hs : s.coreOk = true) (hp : s.phase1 = .index) (n : Nat) (sats : Nat → List Nat) :
    ∀ (ops : List Op) (st : SState) (sp : List (Nat × Nat)), FullInvS s n sats st sp →
      runS s sats st ops = specRun n sats sp ops := by
  intro ops
  induction ops with
  | nil =>
    intros
    rfl
  | cons op ops ih =>
    intro st sp ⟨hdom, hslot⟩
    have hkeep : ∀ {st' : SState} {sp' : List (Nat × Nat)} (j : Nat), Grows st.dom st'.dom →
        st'.its.lookup j = st.its.lookup j → sp'.lookup j = sp.lookup j →
        (st'.its.lookup j = none ∧ sp'.lookup j = none) ∨ GoodS s n sats st' sp' j := by
      intro st' sp' j hg hl hk
      rcases hslot j with h | h
      · exact .inl ⟨hl.trans h.1, hk.trans h.2⟩
      · exact .inr (h.of_agree hl hk fun _ _ hr => hr.frame hp hg)
    cases op with
    | start i =>
      simp only [runS, run1S, specRun]
      congr 1
      refine ih _ _ ⟨hdom, fun j => ?_⟩
      by_cases hji : j = i
      · subst hji
        exact .inr (.fresh hdom List.lookup_cons_self List.lookup_cons_self)
      · exact hkeep j (.refl _) (by simp only [lookup_set, if_neg hji]) (by simp only [lookup_set, if_neg hji])
    | abandon i =>
      simp only [runS, run1S, specRun]
      congr 1
      refine ih _ _ ⟨hdom, fun j => ?_⟩
      by_cases hji : j = i
      · subst hji
        exact .inl ⟨by simp only [lookup_filter_fst_ne, if_true], by simp only [lookup_filter_fst_ne, if_true]⟩
      · exact hkeep j (.refl _) (lookup_filter_ne hji _) (lookup_filter_ne hji _)
    | next i =>
      rcases hslot i with ⟨h1, h2⟩ | hgood
      · simp only [runS, run1S, h1, specRun, h2]
        congr 1
        exact ih _ _ ⟨hdom, hslot⟩
      · obtain ⟨st', sp', o, hrun, hspec, hg, hgood', hother⟩ := hgood.next hs hdom
        simp only [runS, hrun, hspec]
        congr 1
        refine ih _ _ ⟨hdom.grows hg, fun j => ?_⟩
        by_cases hji : j = i
        · exact .inr (hji ▸ hgood')
        · exact hkeep j hg (hother j hji).1 (hother j hji).2

/-- what `noOverlapAux act fresh` maintains, whatever phase 1 is -/
def NoInvS (s : IterShape) (n : Nat) (sats : Nat → List Nat) (st : SState) (sp : List (Nat × Nat)) (act : Option Nat)
    (fresh : List Nat) : Prop :=
  DomOk n st.dom ∧
  (∀ c, act = some c → GoodS s n sats st sp c ∧ c ∉ fresh) ∧
  (∀ c, c ∈ fresh → st.its.lookup c = some ⟨.fresh, sats c⟩ ∧ sp.lookup c = some 0)

theorem run_noOverlapS {s : IterShape} (hs : s.coreOk = true) (n : Nat) (sats : Nat → List Nat) :
    ∀ (ops : List Op) (st : SState) (sp : List (Nat × Nat)) (act : Option Nat) (fresh : List Nat),
      NoInvS s n sats st sp act fresh → noOverlapAux act fresh ops = true →
      runS s sats st ops = specRun n sats sp ops := by
  intro ops
  induction ops with
  | nil =>
    intros
    rfl
  | cons op ops ih =>
    intro st sp act fresh hinv hseq
    obtain ⟨hdom, hact, hfresh⟩ := hinv
    -- `start i` / `abandon i` change entry `i` of the two tables and leave the domain alone: the open iterator, if it
    -- is not `i`, stays open and good
    have hopen : ∀ {i : Nat} {st' : SState} {sp' : List (Nat × Nat)},
        (∀ c, c ≠ i → st'.its.lookup c = st.its.lookup c) → (∀ c, c ≠ i → sp'.lookup c = sp.lookup c) →
        st'.dom = st.dom →
        ∀ c, (if (act == some i) = true then none else act) = some c →
          GoodS s n sats st' sp' c ∧ c ∉ fresh ∧ c ≠ i := by
      intro i st' sp' hget hlk hd c hc
      obtain ⟨hc1, hc2⟩ := eq_some_of_close hc
      exact ⟨(hact c hc1).1.of_agree (hget c hc2) (hlk c hc2) (fun _ _ hr => hd ▸ hr), (hact c hc1).2, hc2⟩
    -- a fresh iterator other than `i` stays fresh even if the domain grows: it is known by its table entry, not by `RemS`
    have hkeep : ∀ {i : Nat} {st' : SState} {sp' : List (Nat × Nat)},
        (∀ c, c ≠ i → st'.its.lookup c = st.its.lookup c) → (∀ c, c ≠ i → sp'.lookup c = sp.lookup c) →
        ∀ c, c ∈ fresh → c ≠ i → st'.its.lookup c = some ⟨.fresh, sats c⟩ ∧ sp'.lookup c = some 0 :=
      fun hget hlk c hc hci => ⟨(hget c hci).trans (hfresh c hc).1, (hlk c hci).trans (hfresh c hc).2⟩
    cases op with
    | start i =>
      simp only [noOverlapAux] at hseq
      simp only [runS, run1S, specRun]
      congr 1
      have hget : ∀ c, c ≠ i →
          ((i, (⟨.fresh, sats i⟩ : SQIter)) :: st.its.filter (·.1 != i)).lookup c = st.its.lookup c :=
        fun c hc => by simp only [lookup_set, if_neg hc]
      have hlk : ∀ c, c ≠ i → ((i, 0) :: sp.filter (·.1 != i)).lookup c = sp.lookup c :=
        fun c hc => by simp only [lookup_set, if_neg hc]
      refine ih _ _ _ _ ⟨hdom, fun c hc => ?_, fun c hc => ?_⟩ hseq
      · obtain ⟨hg, hnf, hci⟩ := hopen (st' := ⟨st.dom, _⟩) hget hlk rfl c hc
        refine ⟨hg, ?_⟩
        simp only [List.mem_cons, not_or]
        exact ⟨hci, hnf⟩
      · by_cases hci : c = i
        · subst hci
          exact ⟨List.lookup_cons_self, List.lookup_cons_self⟩
        · exact hkeep (st' := ⟨st.dom, _⟩) hget hlk c ((List.mem_cons.mp hc).resolve_left hci) hci
    | abandon i =>
      simp only [noOverlapAux] at hseq
      simp only [runS, run1S, specRun]
      congr 1
      have hget : ∀ c, c ≠ i → (st.its.filter (·.1 != i)).lookup c = st.its.lookup c :=
        fun c hc => lookup_filter_ne hc _
      have hlk : ∀ c, c ≠ i → (sp.filter (·.1 != i)).lookup c = sp.lookup c :=
        fun c hc => lookup_filter_ne hc _
      refine ih _ _ _ _ ⟨hdom, fun c hc => ?_, fun c hc => ?_⟩ hseq
      · obtain ⟨hg, hnf, _⟩ := hopen (st' := ⟨st.dom, _⟩) hget hlk rfl c hc
        exact ⟨hg, fun hm => hnf (mem_filter_ne.mp hm).1⟩
      · exact hkeep (st' := ⟨st.dom, _⟩) hget hlk c (mem_filter_ne.mp hc).1 (mem_filter_ne.mp hc).2
    | next i =>
      simp only [noOverlapAux] at hseq
      -- `i` is the open iterator, or a fresh one whose phase opens with this step; either way it is good
      have hi : GoodS s n sats st sp i ∧ noOverlapAux (some i) (fresh.filter (· != i)) ops = true := by
        by_cases h : act = some i
        · obtain ⟨hg, hnf⟩ := hact i h
          have hself : fresh.filter (· != i) = fresh :=
            List.filter_eq_self.mpr fun c hc => by simpa using fun hci : c = i => hnf (hci ▸ hc)
          rw [hself]
          exact ⟨hg, by simpa [h] using hseq⟩
        · have hb : (act == some i) = false := by simp [h]
          by_cases hf : i ∈ fresh
          · exact ⟨.fresh hdom (hfresh i hf).1 (hfresh i hf).2, by simpa [hb, hf] using hseq⟩
          · simp [hb, hf] at hseq
      obtain ⟨st', sp', o, hrun, hspec, hg, hg', hother⟩ := hi.1.next hs hdom
      simp only [runS, hrun, hspec]
      congr 1
      refine ih _ _ _ _ ⟨hdom.grows hg, fun c hc => ?_, fun c hc => ?_⟩ hi.2
      · cases hc
        exact ⟨hg', fun hm => (mem_filter_ne.mp hm).2 rfl⟩
      · obtain ⟨hcf, hci⟩ := mem_filter_ne.mp hc
        exact hkeep (fun c hc => (hother c hc).1) (fun c hc => (hother c hc).2) c hcf hci

theorem noInvS_init (s : IterShape) (n : Nat) (sats : Nat → List Nat) : NoInvS s n sats (initS n) [] none [] :=
  ⟨⟨List.nil_append _, rfl⟩, nofun, nofun⟩

theorem fullInvS_init (s : IterShape) (n : Nat) (sats : Nat → List Nat) : FullInvS s n sats (initS n) [] :=
  ⟨⟨List.nil_append _, rfl⟩, fun _ => .inl ⟨rfl, rfl⟩⟩

end KrroodVerif.Dom
