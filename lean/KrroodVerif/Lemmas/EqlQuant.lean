import KrroodVerif.Lemmas.EqlUnion
import KrroodVerif.Lemmas.EqlAdds
import KrroodVerif.Model.EqlQuantFrag
/-!
Lemmas for the C01 theorems about QUANTIFIED conditions (`Props/C01Quant.lean`). Core Lean only.

The fragment is `Expr.Qt` of `Model/EqlQuantFrag.lean` (the chain fragment `Expr.Ql` is the case with one quantifier, at
the end: `ql_qt`). Its side conditions exclude the recorded deviations of the engine:

* `exists_ q φ`: every result cell of `φ` binds `q` (else `KeyError`, F-C01-7) and every other variable of `φ` is
  already bound when the quantifier is reached (else the de-duplication on the value of `q` runs across different
  assignments of the free variables and drops answers, F-C01-5);
* `forAll q φ`: every TRUE result cell of `φ` binds every variable of `φ` (else a candidate leaves a variable unbound and
  its re-check reads only the first result of a condition that then enumerates that variable, F-C01-11); over an empty
  universal domain evaluation raises (`TypeError`, F-C01-6), which the hypothesis that it returns excludes.

The invariant `QInv` (the true result cells of a condition are sound and complete for its first-order reading) is proved
for the two quantifiers and for the positive fragment, carried through and-trees (`qt_qinv2`), and turned into the
statement about the returned rows (`sound_complete_of_qinv`).
-/
namespace KrroodVerif.Eql

/-! ## The copies in `Model/EqlQuantFrag.lean` and their originals -/

@[simp] theorem Term.noFlatQ_eq (t : Term) : t.noFlatQ = t.noFlat := by
  induction t <;> simp_all [Term.noFlatQ, Term.noFlat]

@[simp] theorem Term.isChainQ_eq (t : Term) : t.isChainQ = t.isChain := by
  cases t <;> simp [Term.isChainQ, Term.isChain]

@[simp] theorem Term.noLitQ_eq (t : Term) : t.noLitQ = t.noLit := by
  induction t <;> simp_all [Term.noLitQ, Term.noLit]

@[simp] theorem Expr.FcQ_eq (e : Expr) : e.FcQ = e.Fc := by
  induction e <;> simp_all [Expr.FcQ, Expr.Fc]

theorem litIdsQ_eq (ks : List Key) : litIdsQ ks = litIds ks := rfl

theorem nodupNat_iff (l : List Nat) : nodupNat l = true ↔ l.Nodup := by
  induction l with
  | nil => simp [nodupNat]
  | cons x r ih => simp [nodupNat, ih]

theorem nodupVal_iff (l : List Val) : nodupVal l = true ↔ l.Nodup := by
  induction l with
  | nil => simp [nodupVal]
  | cons x r ih => simp [nodupVal, ih]

theorem Expr.qvars_qf {e : Expr} (h : e.hasQuant = false) : e.qvars = [] := by
  induction e <;> simp_all [Expr.hasQuant, Expr.qvars]

/-! ## Free variables -/

theorem tval_congr (w : World) {τ₁ τ₂ : Asg} (t : Term) (h : ∀ v ∈ t.vars, τ₁.lookup v = τ₂.lookup v) :
    tval w τ₁ t = tval w τ₂ t := by
  induction t with
  | var v => simp only [tval, h v (by simp [Term.vars])]
  | lit i x => rfl
  | attr t n ih | index t n ih => simp only [tval, ih h]
  | flatten t _ => rfl

theorem tvals_congr (w : World) {τ₁ τ₂ : Asg} (t : Term) (h : ∀ v ∈ t.vars, τ₁.lookup v = τ₂.lookup v) :
    tvals w τ₁ t = tvals w τ₂ t := by
  induction t with
  | var v => simp only [tvals, h v (by simp [Term.vars])]
  | lit i x => rfl
  | attr t n ih | index t n ih | flatten t ih => simp only [tvals, ih h]

theorem lookup_cons_congr {τ₁ τ₂ : Asg} {q u : VarId} {x : Val} (h : u ≠ q → τ₁.lookup u = τ₂.lookup u) :
    List.lookup u ((q, x) :: τ₁) = List.lookup u ((q, x) :: τ₂) := by
  by_cases huq : u = q
  · subst huq
    rw [List.lookup_cons_self, List.lookup_cons_self]
  · rw [lookup_cons_ne huq, lookup_cons_ne huq]
    exact h huq

theorem satE_congr (w : World) (e : Expr) : ∀ τ₁ τ₂ : Asg, (∀ v ∈ e.fvars, τ₁.lookup v = τ₂.lookup v) →
    satE w e τ₁ = satE w e τ₂ := by
  induction e with
  | cmp op l r | contains l r =>
    intro τ₁ τ₂ h
    simp only [Expr.fvars, List.mem_append] at h
    simp only [satE, tvals_congr w l (fun v hv => h v (Or.inl hv)), tvals_congr w r (fun v hv => h v (Or.inr hv))]
  | truth t | hasType t c =>
    intro τ₁ τ₂ h
    simp only [satE, tvals_congr w t h]
  | and l r ihl ihr | elseIf l r ihl ihr | union l r ihl ihr =>
    intro τ₁ τ₂ h
    simp only [Expr.fvars, List.mem_append] at h
    simp only [satE, ihl τ₁ τ₂ (fun v hv => h v (Or.inl hv)), ihr τ₁ τ₂ (fun v hv => h v (Or.inr hv))]
  | not e ih =>
    intro τ₁ τ₂ h
    simp only [satE, ih τ₁ τ₂ h]
  | exists_ q e ih | forAll q e ih =>
    intro τ₁ τ₂ h
    simp only [satE]
    congr 1
    funext x
    apply ih
    intro u hu
    apply lookup_cons_congr
    intro huq
    exact h u (by simp only [Expr.fvars, List.mem_filter]; exact ⟨hu, by simp [huq]⟩)

/-! ## Closed evaluation -/

/-- `env` binds the variables `vs` as `τ` does, and a literal of `L`, if at all, to its value -/
def LClosed (τ : Asg) (env : Env) (vs : List VarId) (L : List (Nat × Val)) : Prop :=
  (∀ v ∈ vs, ∃ x, env.lookup (.var v) = some x ∧ τ.lookup v = some x) ∧
  (∀ il ∈ L, env.lookup (.lit il.1) = some il.2 ∨ env.lookup (.lit il.1) = none)

/-- `env'` is `env` with literal bindings from `L` in front -/
def LitPre (L : List (Nat × Val)) (env env' : Env) : Prop :=
  ∃ pre, env' = pre ++ env ∧ ∀ p ∈ pre, ∃ id, p.1 = Key.lit id ∧ (id, p.2) ∈ L

theorem LitPre.refl (L : List (Nat × Val)) (env : Env) : LitPre L env env := ⟨[], rfl, by simp⟩

theorem LitPre.trans {L : List (Nat × Val)} {a b c : Env} (h1 : LitPre L a b) (h2 : LitPre L b c) : LitPre L a c := by
  obtain ⟨p1, rfl, hp1⟩ := h1
  obtain ⟨p2, rfl, hp2⟩ := h2
  refine ⟨p2 ++ p1, by simp, ?_⟩
  intro p hp
  rcases List.mem_append.mp hp with hp | hp
  · exact hp2 p hp
  · exact hp1 p hp

theorem lclosed_eval (w : World) (τ : Asg) (L : List (Nat × Val)) (hfn : LitFn L) (e : Expr) :
    e.Fc = true → (∀ x ∈ e.lits, x ∈ L) → ∀ env rs b, LClosed τ env e.vars L → eval w e env = .ok rs →
      satE w e τ = .ok b → ∃ env', rs = [(env', b)] ∧ LitPre L env env' := by
  intro hF hL env rs b hc h hs
  have hcov := coverFrom w τ L hfn e hF hL env rs b
    (fun v hv => (hc.1 v hv).imp fun x hx => ⟨hx.2, Or.inl hx.1⟩) hc.2 h hs
  -- every variable is bound already, so a cell adds literal bindings only, and those are compatible with any `τ`:
  -- the one compatible cell is the only cell
  have hcell : ∀ p ∈ rs, LitPre L env p.1 ∧ agreesB τ (newOf env p.1) = true := by
    intro p hp
    obtain ⟨pre, hpe, _, hfresh, hprop⟩ := eval_grows w e (Expr.Fc_noQuant hF) env rs h p hp
    have hlit : ∀ q ∈ pre, ∃ id, q.1 = Key.lit id ∧ (id, q.2) ∈ L := by
      intro q hq
      cases hk : q.1 with
      | var v =>
        obtain ⟨x, hx, _⟩ := hc.1 v ((hprop q hq).1 v hk).1
        have := hfresh q hq
        rw [hk, hx] at this
        cases this
      | lit id => exact ⟨id, rfl, hL _ ((hprop q hq).2 id hk)⟩
    refine ⟨⟨pre, hpe, hlit⟩, ?_⟩
    rw [hpe, newOf_append, agreesB_iff]
    intro v x hm
    obtain ⟨id, hid, _⟩ := hlit _ hm
    cases hid
  rw [cellsFrom, List.filter_eq_self.mpr fun p hp => (hcell p hp).2] at hcov
  obtain ⟨a, rfl, hab⟩ := List.map_eq_singleton_iff.1 hcov
  exact ⟨a.1, by rw [← hab], (hcell a (by simp)).1⟩

/-- `LClosed` with every literal of `ls` bound -/
def Closed (τ : Asg) (env : Env) (vs : List VarId) (ls : List (Nat × Val)) : Prop :=
  (∀ v ∈ vs, ∃ x, env.lookup (.var v) = some x ∧ τ.lookup v = some x) ∧
  (∀ il ∈ ls, env.lookup (.lit il.1) = some il.2)

theorem closed_eval (w : World) (τ : Asg) (e : Expr) :
    e.Fc = true → ∀ env rs b, Closed τ env e.vars e.lits → eval w e env = .ok rs → satE w e τ = .ok b →
      rs = [(env, b)] := by
  intro hF env rs b hc h hs
  have hfn : LitFn e.lits := by
    intro id x y hx hy
    have h1 := hc.2 _ hx
    rw [hc.2 _ hy] at h1
    exact (Option.some.inj h1).symm
  obtain ⟨env', rfl, pre, rfl, hpre⟩ :=
    lclosed_eval w τ e.lits hfn e hF (fun _ hx => hx) env rs b ⟨hc.1, fun il hil => Or.inl (hc.2 il hil)⟩ h hs
  -- a literal binding in `pre` would be of a key that `env` binds already
  obtain ⟨pre', hpe, _, hfresh, _⟩ := eval_grows w e (Expr.Fc_noQuant hF) env _ h _ (List.mem_singleton.mpr rfl)
  have : pre = pre' := List.append_cancel_right hpe
  subst this
  cases pre with
  | nil => rfl
  | cons p _ =>
    obtain ⟨id, hid, hm⟩ := hpre p List.mem_cons_self
    have h1 := hfresh p List.mem_cons_self
    rw [hid, hc.2 _ hm] at h1
    cases h1

/-! ## The invariant -/

/-- The true cells among the results `rs` of `eval w e env` are sound and complete for the first-order reading `satE`
of `e` (`ρ`: what the cell binds of the quantified variables); `ext`, `fn`: the shape of a cell. -/
structure QInv (w : World) (e : Expr) (env : Env) (rs : List (Env × Bool)) : Prop where
  ext : ∀ p ∈ rs, p.2 = true → (∃ pre, p.1 = pre ++ env) ∧
    ∀ b ∈ p.1, b ∈ env ∨ ∀ v, b.1 = Key.var v → v ∈ e.vars ∧ b.2 ∈ w.dom v
  fn : ∀ p ∈ rs, p.2 = true → EnvFn p.1
  sound : ∀ p ∈ rs, p.2 = true → ∀ τ b, Covers w τ e.fvars → agreesB τ p.1 = true → satE w e τ = .ok b → b = true
  complete : ∀ τ, Covers w τ e.fvars → agreesB τ env = true → satE w e τ = .ok true →
    ∃ p ∈ rs, p.2 = true ∧ ∃ ρ : Asg, (∀ b ∈ ρ, b.1 ∈ e.qvars) ∧ agreesB (ρ ++ τ) p.1 = true

/-- the fields `ext` and `fn` of `QInv`, for every expression (`eval_adds`) -/
theorem eval_qshape {w : World} {e : Expr} {env : Env} {rs : List (Env × Bool)} (h : eval w e env = .ok rs)
    (hk : EnvFn env) {p : Env × Bool} (hp : p ∈ rs) :
    ((∃ pre, p.1 = pre ++ env) ∧ ∀ b ∈ p.1, b ∈ env ∨ ∀ v, b.1 = Key.var v → v ∈ e.vars ∧ b.2 ∈ w.dom v) ∧
      EnvFn p.1 := by
  obtain ⟨pre, hpe, hpre, hfn⟩ := eval_adds w e env rs h p hp
  refine ⟨⟨⟨pre, hpe⟩, fun b hb => ?_⟩, hfn hk⟩
  rw [hpe] at hb
  rcases List.mem_append.mp hb with hb | hb
  · exact (hpre b hb).2.imp_right fun hd v hv => ⟨Expr.mem_nodes_var.mp (hv ▸ (hpre b hb).1), hd v hv⟩
  · exact Or.inl hb

theorem EnvFn.lookup {env : Env} (h : EnvFn env) {k : Key} {x : Val} (hm : (k, x) ∈ env) :
    env.lookup k = some x := by
  cases hl : env.lookup k with
  | none => exact absurd (mem_keys hm) (lookup_eq_none_iff_not_mem_keys.1 hl)
  | some y => rw [h k x y hm (mem_of_lookup hl)]

theorem isSome_mem {env : Env} {k : Key} (h : (env.lookup k).isSome = true) : ∃ x, (k, x) ∈ env :=
  (Option.isSome_iff_exists.mp h).imp fun _ => mem_of_lookup

theorem nodup_append_disjoint {pre env : Env} (h : (keys (pre ++ env)).Nodup) {k : Key} {y z : Val}
    (h1 : (k, y) ∈ pre) (h2 : (k, z) ∈ env) : False := by
  simp only [keys, List.map_append, List.nodup_append] at h
  exact h.2.2 k (mem_keys h1) k (mem_keys h2) rfl

theorem fvars_filter_Fc {φ : Expr} (hF : φ.Fc = true) (q : VarId) :
    φ.fvars.filter (· != q) = φ.vars.filter (· != q) := by
  rw [Expr.fvars_qf (Expr.Fc_noQuant hF)]

theorem body_cell {w : World} {φ : Expr} (hF : φ.Fc = true) {env : Env} {rs : List (Env × Bool)} (hk : EnvFn env)
    (h : eval w φ env = .ok rs) {c : Env × Bool} (hc : c ∈ rs) :
    Grows w φ.vars φ.lits env c.1 ∧ EnvFn c.1 ∧ ∀ k ∈ Expr.bK c.2 φ, ∃ y, (k, y) ∈ c.1 := by
  have hgr := eval_grows w φ (Expr.Fc_noQuant hF) env rs h c hc
  exact ⟨hgr, (eval_adds w φ env rs h c hc).envFn hk, fun k hkm => isSome_mem (bK_sound w φ env rs h c hc c.2 rfl k hkm)⟩

theorem covers_cons {w : World} (hnd : ∀ v, (w.dom v).Nodup) {τ : Asg} {q : VarId} {x : Val} {vs : List VarId}
    (hx : x ∈ w.dom q) (h : Covers w τ (vs.filter (· != q))) : Covers w ((q, x) :: τ) vs := by
  intro v hv
  by_cases hvq : v = q
  · subst hvq
    exact ⟨x, List.lookup_cons_self, by rw [(hnd v).count]; simp [hx]⟩
  · rw [lookup_cons_ne hvq]
    exact h v (List.mem_filter.mpr ⟨hv, by simp [hvq]⟩)

theorem covers_congr {w : World} {τ τ' : Asg} {vs : List VarId} (h : Covers w τ vs)
    (heq : ∀ v ∈ vs, τ'.lookup v = τ.lookup v) : Covers w τ' vs := by
  intro v hv
  obtain ⟨x, hx, hc⟩ := h v hv
  exact ⟨x, by rw [heq v hv]; exact hx, hc⟩

theorem agrees_cons_of_unbound {τ : Asg} {env : Env} {q : VarId} {x : Val} (hag : agreesB τ env = true)
    (hq : env.lookup (.var q) = none) : agreesB ((q, x) :: τ) env = true := by
  rw [agreesB_iff] at hag ⊢
  intro v y hm
  have hvq : v ≠ q := by
    rintro rfl
    exact lookup_eq_none_iff_not_mem_keys.1 hq (mem_keys hm)
  rw [lookup_cons_ne hvq]
  exact hag v y hm

/-! ## `Exists` -/

/-- nothing has been seen before the first true cell, so that one is kept -/
theorem existsFilter_nonempty (w : World) (q : VarId) : ∀ (rs out : List (Env × Bool)),
    existsFilter w q rs [] = .ok out → (∃ p ∈ rs, p.2 = true) → out ≠ [] := by
  intro rs
  induction rs with
  | nil =>
    intro out _ ⟨p, hp, _⟩
    cases hp
  | cons a rest ih =>
    intro out h ⟨p, hp, hpt⟩
    obtain ⟨env1, t⟩ := a
    obtain ⟨x, _, h⟩ := existsFilter_cons_ok h
    cases t with
    | true =>
      obtain ⟨r, _, rfl⟩ := h
      exact List.cons_ne_nil _ _
    | false =>
      rcases List.mem_cons.mp hp with rfl | hp
      · cases hpt
      · exact ih out h ⟨p, hp, hpt⟩

theorem exists_qinv (w : World) (hnd : ∀ v, (w.dom v).Nodup) (q : VarId) (φ : Expr) (hF : φ.Fc = true)
    (hln : LitNodup φ) (B : List Key)
    (hbq : Key.var q ∈ Expr.bK true φ ∧ Key.var q ∈ Expr.bK false φ)
    (hB : ∀ v ∈ φ.vars, v = q ∨ Key.var v ∈ B)
    (env : Env) (out : List (Env × Bool)) (hk : EnvFn env)
    (hBenv : ∀ k ∈ B, (env.lookup k).isSome = true) (hq : env.lookup (.var q) = none)
    (hlf : LitFresh φ.nodes env) (h : eval w (.exists_ q φ) env = .ok out) :
    QInv w (.exists_ q φ) env out := by
  obtain ⟨rs0, h0, hfil⟩ := eval_exists_inv h
  have hsub := existsFilter_sub w q rs0 [] out hfil
  -- a true cell of the body adds a binding of `q`, to some `x` of its domain, and nothing else that `τ` could disagree with:
  -- every other variable is bound already (`hB`), so the cell is one of `(q, x) :: τ` for every `τ` that `env` agrees with
  have hcell : ∀ env1 : Env, (env1, true) ∈ rs0 → ∃ x ∈ w.dom q, (∃ pre, env1 = pre ++ env) ∧
      ∀ τ : Asg, agreesB τ env = true → agreesB ((q, x) :: τ) env1 = true := by
    intro env1 hm
    obtain ⟨⟨pre, hpe, _, hfresh, hprop⟩, hnd1, hbound⟩ := body_cell hF hk h0 hm
    obtain ⟨x, hx⟩ := hbound _ hbq.1
    simp only at hpe hx
    have hxp : (Key.var q, x) ∈ pre := by
      rw [hpe] at hx
      exact (List.mem_append.mp hx).resolve_right fun hx => lookup_eq_none_iff_not_mem_keys.1 hq (mem_keys hx)
    refine ⟨x, ((hprop _ hxp).1 q rfl).2, ⟨pre, hpe⟩, fun τ hag => ?_⟩
    rw [hpe, agreesB_append, agrees_cons_of_unbound hag hq, Bool.and_true, agreesB_iff]
    intro v y hb
    rcases hB v ((hprop _ hb).1 v rfl).1 with rfl | hvB
    · have hy : y = x := hnd1 _ _ _ (hpe ▸ List.mem_append_left env hb) (hpe ▸ List.mem_append_left env hxp)
      rw [hy]
      exact List.lookup_cons_self
    · have h1 := hfresh _ hb
      have h2 := hBenv _ hvB
      simp only at h1
      rw [h1] at h2
      cases h2
  have hcov : ∀ τ : Asg, Covers w τ (Expr.exists_ q φ).fvars → ∀ x ∈ w.dom q, Covers w ((q, x) :: τ) φ.vars :=
    fun τ hcov x hx => covers_cons hnd hx (fvars_filter_Fc hF q ▸ hcov)
  refine ⟨fun p hp _ => (eval_qshape h hk hp).1, fun p hp _ => (eval_qshape h hk hp).2, ?_, ?_⟩
  · -- soundness
    intro p hp hpt τ b hcovτ hag hs
    have hm := (hsub p hp).2
    obtain ⟨x, hxd, ⟨pre, hpe⟩, hagx⟩ := hcell p.1 hm
    have hagenv : agreesB τ env = true := agreesB_suffix (hpe ▸ hag)
    simp only [satE] at hs
    obtain ⟨g, hg, hb⟩ := anyM_ok hs
    have hc := C01_cover w _ φ hF (hcov τ hcovτ x hxd) hln env rs0 (g x) hlf (agrees_cons_of_unbound hagenv hq) h0 (hg x hxd)
    rw [hb]
    exact List.any_eq_true.mpr ⟨x, hxd, (cells_flag hc hm (hagx τ hagenv)).symm⟩
  · -- completeness
    intro τ hcovτ hag hs
    simp only [satE] at hs
    obtain ⟨g, hg, hb⟩ := anyM_ok hs
    obtain ⟨x, hxd, hgx⟩ := List.any_eq_true.mp hb.symm
    obtain ⟨a, _, hav, ham, haa⟩ := filter_single (C01_cover w _ φ hF (hcov τ hcovτ x hxd) hln env rs0 true hlf
      (agrees_cons_of_unbound hag hq) h0 (by rw [hg x hxd, hgx]))
    -- the cell `p` that survives the de-duplication need not be the covering cell `a`; harmless: a true cell adds
    -- nothing but a binding of the quantified `q`, whose value `ρ` is free to choose
    have hne : out ≠ [] := existsFilter_nonempty w q rs0 out hfil ⟨a, ham, hav⟩
    obtain ⟨p, hp⟩ := List.exists_mem_of_ne_nil out hne
    obtain ⟨hpt, hm⟩ := hsub p hp
    obtain ⟨x', _, _, hagx⟩ := hcell p.1 hm
    refine ⟨p, hp, hpt, [(q, x')], fun b hb => ?_, hagx τ hag⟩
    rw [List.mem_singleton.mp hb]
    simp [Expr.qvars]

/-! ## `ForAll` -/

theorem recheck_flag {w : World} {q : VarId} {φ : Expr} (hF : φ.Fc = true) {env cenv : Env} {ks : List Key}
    (henv : ∀ b ∈ env, b ∈ cenv) (hfn : EnvFn cenv)
    (hbound : ∀ v ∈ φ.vars, v ≠ q → ∃ y, (Key.var v, y) ∈ restrict cenv ks)
    (hlit : LitOK φ.lits cenv) (hlfn : LitFn φ.lits) {τ : Asg}
    (hτ : ∀ v y, (Key.var v, y) ∈ restrict cenv ks → τ.lookup v = some y)
    {x : Val} {rs : List (Env × Bool)} {b : Bool}
    (hrs : eval w φ (merge (restrict cenv ks) ((Key.var q, x) :: env)) = .ok rs)
    (hs : satE w φ ((q, x) :: τ) = .ok b) : ∃ env', rs = [(env', b)] := by
  -- `restrict cenv ks` is the candidate `ForAll` makes from a cell `cenv` of its body (`ks` the other nodes of `φ`), re-checked
  -- under a further universal value `x` in `merge candidate ((q, x) :: env)`. Every binding there after the first is one of
  -- the cell, so that environment binds every variable of `φ` as `(q, x) :: τ` does and a literal node as the cell does: the
  -- re-check is a closed evaluation (`lclosed_eval`) with exactly one result, and reading only the first result is harmless
  have hsub : ∀ b ∈ env ++ restrict cenv ks, b ∈ cenv := fun b hb =>
    (List.mem_append.mp hb).elim (henv b) fun hc => (mem_restrict.mp hc).1
  have hcl : LClosed ((q, x) :: τ) ((Key.var q, x) :: (env ++ restrict cenv ks)) φ.vars φ.lits := by
    constructor
    · intro v hv
      by_cases hvq : v = q
      · subst hvq
        exact ⟨x, List.lookup_cons_self, List.lookup_cons_self⟩
      · obtain ⟨y, hy⟩ := hbound v hv hvq
        refine ⟨y, ?_, by rw [lookup_cons_ne hvq]; exact hτ v y hy⟩
        rw [lookup_cons_ne (by intro h; cases h; exact hvq rfl)]
        exact (hfn.subset hsub).lookup (List.mem_append_right _ hy)
    · intro il hil
      rw [lookup_cons_ne (by intro h; cases h)]
      cases hl : List.lookup (Key.lit il.1) (env ++ restrict cenv ks) with
      | none => exact Or.inr rfl
      | some y =>
        have hy := hfn.lookup (hsub _ (mem_of_lookup hl))
        rcases hlit il hil with h | h
        · exact Or.inl (hy ▸ h)
        · rw [hy] at h
          cases h
  exact (lclosed_eval w _ φ.lits hlfn φ hF (fun _ h => h) _ rs b hcl hrs hs).imp fun _ h => h.1

theorem agrees_cell_of_cand {w : World} {q : VarId} {φ : Expr} {env cenv : Env} {x0 : Val}
    (hgr : Grows w φ.vars φ.lits ((Key.var q, x0) :: env) cenv) (hfn : EnvFn cenv) {τ : Asg}
    (hag : agreesB τ env = true)
    (hτ : ∀ v y, (Key.var v, y) ∈ restrict cenv (φ.nodes.filter (· != Key.var q)) → τ.lookup v = some y) :
    agreesB ((q, x0) :: τ) cenv = true := by
  obtain ⟨pre0, hpe, _, _, hpre⟩ := hgr
  rw [agreesB_iff]
  intro v y hm
  by_cases hvq : v = q
  · subst hvq
    have h1 := hfn.lookup hm
    rw [hfn.lookup (hpe ▸ List.mem_append_right pre0 List.mem_cons_self)] at h1
    cases h1
    exact List.lookup_cons_self
  · rw [lookup_cons_ne hvq]
    rw [hpe] at hm
    rcases List.mem_append.mp hm with hm' | hm'
    · apply hτ v y
      refine mem_restrict.mpr ⟨hpe ▸ List.mem_append_left _ hm', List.mem_filter.mpr ⟨?_, ?_⟩⟩
      · exact Expr.mem_nodes_var.mpr ((hpre _ hm').1 v rfl).1
      · simpa using fun h => hvq h
    · rcases List.mem_cons.mp hm' with hm' | hm'
      · cases hm'
        exact absurd rfl hvq
      · exact agreesB_iff.mp hag v y hm'

/-- `hall` asks for the VARIABLES of `φ` only: literal nodes may stay unbound, they are re-read fresh. Over an empty
universal domain `eval` raises (F-C01-6), which `h` excludes. -/
theorem forAll_qinv (w : World) (hnd : ∀ v, (w.dom v).Nodup) (q : VarId) (φ : Expr) (hF : φ.Fc = true)
    (hln : LitNodup φ) (hall : ∀ v ∈ φ.vars, Key.var v ∈ Expr.bK true φ)
    (env : Env) (out : List (Env × Bool)) (hk : EnvFn env)
    (hq : env.lookup (.var q) = none) (hlf : LitFresh φ.nodes env)
    (h : eval w (.forAll q φ) env = .ok out) :
    QInv w (.forAll q φ) env out := by
  obtain ⟨first, rest, c0, final, hev, h0, hfold, rfl⟩ := eval_forAll_inv h
  simp only [evalVar, hq] at hev
  obtain ⟨x0, xs, hdom, rfl, rfl⟩ := List.map_eq_cons_iff.mp hev
  -- the fold over the further universal values `xs` only filters the candidates: one in `final` passed the re-check under
  -- every `x ∈ xs` (`hfin1`), and one whose re-check returns `false` under no `x ∈ xs` is in `final` (`hfin2`)
  obtain ⟨hfin1, hfin2⟩ := foldlM_filter_ok _ _ _ _ hfold
  have hx0d : x0 ∈ w.dom q := by
    rw [hdom]
    exact List.mem_cons_self
  have hxsd : ∀ x ∈ xs, x ∈ w.dom q := fun x hx => by
    rw [hdom]
    exact List.mem_cons_of_mem _ hx
  let others := φ.nodes.filter (· != Key.var q)
  let env0 : Env := (Key.var q, x0) :: env
  have hlf0 : LitFresh φ.nodes ((Key.var q, x0) :: env) := by
    intro id hid
    rw [lookup_cons_ne (by intro h; cases h)]
    exact hlf id hid
  have hcov0 : ∀ τ : Asg, Covers w τ (Expr.forAll q φ).fvars → Covers w ((q, x0) :: τ) φ.vars :=
    fun τ hcov => covers_cons hnd hx0d (fvars_filter_Fc hF q ▸ hcov)
  -- a true cell `c` of the body and any `τ` its candidate agrees with: `c` is a cell of `(q, x0) :: τ`, and the re-check
  -- under a further universal value reads the truth value under that value
  have hcand : ∀ c ∈ c0, c.2 = true → ∀ τ : Asg, Covers w τ (Expr.forAll q φ).fvars → agreesB τ env = true →
      (∀ v y, (Key.var v, y) ∈ restrict c.1 others → τ.lookup v = some y) → ∀ g : Val → Bool,
      (∀ x ∈ w.dom q, satE w φ ((q, x) :: τ) = .ok (g x)) →
      g x0 = true ∧ ∀ x ∈ xs, ∀ rs, eval w φ (merge (restrict c.1 others) ((Key.var q, x) :: env)) = .ok rs →
        ∃ env', rs = [(env', g x)] := by
    intro c hc hct τ hcov hag hτ g hg
    obtain ⟨hgr, hfn, hbound⟩ := body_cell hF (hk.cons hq) h0 hc
    have hagc := agrees_cell_of_cand hgr hfn hag hτ
    obtain ⟨pre0, hpe⟩ := hgr.suffix
    refine ⟨?_, fun x hx rs hrs => recheck_flag hF
      (fun b hb => hpe ▸ List.mem_append_right _ (List.mem_cons_of_mem _ hb)) hfn (fun v hv hvq => ?_)
      ((LitOK.of_fresh hlf0 fun _ => mem_lits_nodes).of_grows hln.litFn hgr fun _ h => h) hln.litFn hτ hrs
      (hg x (hxsd x hx))⟩
    · have hcv := C01_cover w _ φ hF (hcov0 τ hcov) hln env0 c0 (g x0) hlf0 (agreesB_suffix (hpe ▸ hagc)) h0 (hg x0 hx0d)
      exact (cells_flag hcv hc hagc).symm.trans hct
    · obtain ⟨y, hy⟩ := hbound _ (hct ▸ hall v hv)
      exact ⟨y, mem_restrict.mpr ⟨hy, List.mem_filter.mpr ⟨Expr.mem_nodes_var.mpr hv, by simp [hvq]⟩⟩⟩
  refine ⟨fun p hp _ => (eval_qshape h hk hp).1, fun p hp _ => (eval_qshape h hk hp).2, ?_, ?_⟩
  · -- soundness
    intro p hp _ τ b hcov hag hs
    obtain ⟨sol, hsol, rfl⟩ := List.mem_map.mp hp
    obtain ⟨hsc, hchk⟩ := hfin1 sol hsol
    obtain ⟨c, hc, rfl⟩ := List.mem_map.mp hsc
    obtain ⟨hc, hct⟩ := List.mem_filter.mp hc
    -- the row passed on, `merge env candidate`, is `candidate ++ env` by definition
    have hag' : agreesB τ (restrict c.1 others ++ env) = true := hag
    rw [agreesB_append, Bool.and_eq_true] at hag'
    simp only [satE] at hs
    obtain ⟨g, hg, hb⟩ := allM_ok hs
    obtain ⟨h0t, hxt⟩ := hcand c hc hct τ hcov hag'.2 (fun v y => agreesB_iff.mp hag'.1 v y) g hg
    rw [hb, List.all_eq_true, hdom]
    intro x hx
    rcases List.mem_cons.mp hx with rfl | hx
    · exact h0t
    · obtain ⟨rs, hrs, hfl⟩ := bind_ok (hchk _ (List.mem_map.mpr ⟨x, hx, rfl⟩))
      obtain ⟨_, rfl⟩ := hxt x hx rs hrs
      exact pure_ok hfl
  · -- completeness
    intro τ hcov hag hs
    simp only [satE] at hs
    obtain ⟨g, hg, hb⟩ := allM_ok hs
    have hgall : ∀ x ∈ w.dom q, g x = true := List.all_eq_true.mp hb.symm
    have hag0 : agreesB ((q, x0) :: τ) ((Key.var q, x0) :: env) = true := by
      rw [agreesB_cons_var, List.lookup_cons_self, agrees_cons_of_unbound hag hq]
      simp
    obtain ⟨a, _, hav, ham, haa⟩ := filter_single
      (C01_cover w _ φ hF (hcov0 τ hcov) hln env0 c0 true hlf0 hag0 h0 (by rw [hg x0 hx0d, hgall x0 hx0d]))
    have hτ : ∀ v y, (Key.var v, y) ∈ restrict a.1 others → τ.lookup v = some y := by
      intro v y hm
      obtain ⟨hm1, hm2⟩ := mem_restrict.mp hm
      have hvq : v ≠ q := by
        rintro rfl
        have := (List.mem_filter.mp hm2).2
        simp at this
      have := agreesB_iff.mp haa v y hm1
      rwa [lookup_cons_ne hvq] at this
    -- the candidate of the covering cell `a` survives the fold: its re-check under a further `x` reads `g x` (`hcand`), the
    -- truth value of `φ` under `(q, x) :: τ`, and that is `true` for every `x` of the domain since `τ` satisfies the `forAll`
    have hsolf : restrict a.1 others ∈ final := by
      apply hfin2 _ (List.mem_map.mpr ⟨a, List.mem_filter.mpr ⟨ham, hav⟩, rfl⟩)
      intro qv hqv b hFb
      obtain ⟨x, hx, rfl⟩ := List.mem_map.mp hqv
      obtain ⟨rs, hrs, hfl⟩ := bind_ok hFb
      obtain ⟨_, rfl⟩ := (hcand a ham hav τ hcov hag hτ g hg).2 x hx rs hrs
      rw [← pure_ok hfl]
      exact hgall x (hxsd x hx)
    refine ⟨(merge env (restrict a.1 others), true), List.mem_map.mpr ⟨_, hsolf, rfl⟩, rfl, [], by simp, ?_⟩
    show agreesB τ (restrict a.1 others ++ env) = true
    rw [agreesB_append, hag, Bool.and_true, agreesB_iff]
    exact hτ

/-! ## And-trees of quantifier-free conditions and quantifiers (`Expr.Qt`) -/

theorem Expr.noForAll_Fc {e : Expr} (h : e.Fc = true) : e.noForAll = true := by
  induction e with
  | and l r ihl ihr | elseIf l r ihl ihr =>
    simp only [Expr.Fc, Bool.and_eq_true] at h
    simp [Expr.noForAll, ihl h.1, ihr h.2]
  | not e ih =>
    simp only [Expr.Fc] at h
    simp [Expr.noForAll, ih h]
  | _ => simp_all [Expr.Fc, Expr.noForAll]

theorem Expr.tb_Fc {e : Expr} (h : e.Fc = true) : e.tb = Expr.bK true e := by
  induction e with
  | and l r ihl ihr =>
    simp only [Expr.Fc, Bool.and_eq_true] at h
    simp [Expr.tb, Expr.bK, ihl h.1, ihr h.2]
  | exists_ q e _ | forAll q e _ => simp [Expr.Fc] at h
  | _ => simp [Expr.tb]

theorem mem_fvars_vars {e : Expr} {v : VarId} (h : v ∈ e.fvars) : v ∈ e.vars := by
  induction e with
  | and l r ihl ihr | elseIf l r ihl ihr | union l r ihl ihr =>
    simp only [Expr.fvars, Expr.vars, List.mem_append] at h ⊢
    exact h.imp ihl ihr
  | not e ih => exact ih h
  | exists_ q e ih | forAll q e ih =>
    simp only [Expr.fvars, List.mem_filter] at h
    exact List.mem_cons_of_mem _ (ih h.1)
  | _ => exact h

theorem pos_qinv (w : World) (e : Expr) (hF : e.Fp = true) (hln : LitNodup e) (env : Env) (rs : List (Env × Bool))
    (hk : EnvFn env) (hlf : LitFresh e.nodes env) (h : eval w e env = .ok rs) : QInv w e env rs := by
  have hq := Expr.Fp_noQuant hF
  refine ⟨fun p hp _ => (eval_qshape h hk hp).1, fun p hp _ => (eval_qshape h hk hp).2, ?_, ?_⟩
  · intro p hp hpt τ b hcov hag hs
    rw [Expr.fvars_qf hq] at hcov
    exact union_true_sound w τ e hF hcov hln env rs b hlf h p hp hpt hag hs
  · intro τ hcov hag hs
    rw [Expr.fvars_qf hq] at hcov
    obtain ⟨a, ham, hav, haa⟩ := union_cell_complete w τ e hF hcov hln env rs true hlf hag h hs
    exact ⟨a, ham, hav, [], by simp, by simpa using haa⟩

theorem unbound_of_not_mem {env : Env} {A : List VarId} (hA : ∀ v, (env.lookup (.var v)).isSome = true → v ∈ A)
    {q : VarId} (hq : A.contains q = false) : env.lookup (.var q) = none := by
  cases hl : env.lookup (.var q) with
  | none => rfl
  | some y => exact absurd (hA q (by simp [hl])) (by simpa using hq)

theorem qt_qinv2 (w : World) (hnd : ∀ v, (w.dom v).Nodup) (e : Expr) : ∀ A B, e.Qt A B = true → LitNodup e →
    ∀ env rs, EnvFn env → (∀ k ∈ B, (env.lookup k).isSome = true) →
      (∀ v, (env.lookup (.var v)).isSome = true → v ∈ A) → LitFresh e.nodes env →
      eval w e env = .ok rs → QInv w e env rs := by
  induction e with
  | and l r ihl ihr =>
    intro A B hQ hln env rs hk hB hA hlf h
    simp only [Expr.Qt, Bool.and_eq_true, List.all_eq_true, Bool.not_eq_true'] at hQ
    obtain ⟨⟨hQl, hlr⟩, hQr⟩ := hQ
    obtain ⟨ls, g, h0, rfl, hg⟩ := eval_seq_inv rfl h
    obtain ⟨hnl, hnr, hd⟩ := litNodup_append hln
    have hL : QInv w l env ls :=
      ihl A B hQl hnl env ls hk hB hA (hlf.mono (List.subset_append_left _ _)) h0
    -- `r` is evaluated in every true cell `a` of `l`; there the variables of `l` may be bound as well (`A ++ l.vars`) and the
    -- keys `l.tb` are (`tb_sound`), which is what the fragment asks of `r`
    have hrest : ∀ a ∈ ls, a.2 = true → QInv w r a.1 (g a) := by
      intro a ha hat
      obtain ⟨pre, hpe, hkeys, _⟩ := eval_adds w l env ls h0 a ha
      apply ihr (A ++ l.vars) (B ++ l.tb) hQr hnr a.1 (g a) (hL.fn a ha hat)
      · intro k hkm
        rcases List.mem_append.mp hkm with hkm | hkm
        · rw [hpe]
          exact isSome_lookup_append_right (hB k hkm)
        · exact tb_sound w l env ls h0 a ha hat k hkm
      · intro v hv
        rw [hpe, List.lookup_append] at hv
        cases hl : List.lookup (Key.var v) pre with
        | none =>
          rw [hl] at hv
          exact List.mem_append_left _ (hA v (by simpa using hv))
        | some y => exact List.mem_append_right _ (Expr.mem_nodes_var.mp (hkeys _ (mem_of_lookup hl)).1)
      · rw [hpe]
        exact litFresh_append (hlf.mono (List.subset_append_right _ _)) (fun b hb => (hkeys b hb).1) hd
      · exact (hg a ha).1 hat
    have hsrc : ∀ p ∈ ls.flatMap g, p.2 = true → ∃ a ∈ ls, a.2 = true ∧ p ∈ g a := by
      intro p hp hpt
      obtain ⟨a, ha, hpa⟩ := List.mem_flatMap.mp hp
      cases hat : a.2 with
      | true => exact ⟨a, ha, hat, hpa⟩
      | false =>
        rw [(hg a ha).2 hat, List.mem_singleton] at hpa
        rw [hpa] at hpt
        cases hpt
    -- what a cell of `l` binds of `l`'s quantified variables (`ρ`) `r` does not see, none of them occurs in `r` (`hlr`): so
    -- completeness of `r`, which holds at the cell of `l` and hence under `ρ ++ τ`, can be fed from `τ`
    have hqr : ∀ ρ : Asg, (∀ b ∈ ρ, b.1 ∈ l.qvars) → ∀ (τ : Asg) (v : VarId), v ∈ r.fvars →
        (ρ ++ τ).lookup v = τ.lookup v := by
      intro ρ hρ τ v hv
      apply lookup_append_of_not_mem
      intro b hb heq
      have := hlr _ (hρ b hb)
      rw [heq] at this
      simp [mem_fvars_vars hv] at this
    refine ⟨fun p hp _ => (eval_qshape h hk hp).1, fun p hp _ => (eval_qshape h hk hp).2, ?_, ?_⟩
    · intro p hp hpt τ b hcov hag hs
      obtain ⟨a, ha, hat, hpa⟩ := hsrc p hp hpt
      obtain ⟨⟨pre', hpe'⟩, _⟩ := (hrest a ha hat).ext p hpa hpt
      have haga : agreesB τ a.1 = true := agreesB_suffix (hpe' ▸ hag)
      obtain ⟨bl, br, hbl, hbr, rfl⟩ := satE_seq_inv rfl hs
      simp only [Expr.fvars] at hcov
      have hbrt : br = true := (hrest a ha hat).sound p hpa hpt τ br hcov.right hag hbr
      have hblt : bl = true := hL.sound a ha hat τ bl hcov.left haga hbl
      rw [hblt, hbrt]
      rfl
    · intro τ hcov hag hs
      obtain ⟨bl, br, hbl, hbr, hb⟩ := satE_seq_inv rfl hs
      obtain ⟨rfl, rfl⟩ : bl = true ∧ br = true := by
        cases bl <;> simp at hb ⊢
        exact hb
      simp only [Expr.fvars] at hcov
      obtain ⟨a, ham, hav, ρ1, hρ1, haa⟩ := hL.complete τ hcov.left hag hbl
      obtain ⟨p, hp, hpt, ρ2, hρ2, hagp⟩ := (hrest a ham hav).complete (ρ1 ++ τ)
        (covers_congr hcov.right (hqr ρ1 hρ1 τ)) haa
        (by rw [← hbr]; exact satE_congr w r _ _ (hqr ρ1 hρ1 τ))
      refine ⟨p, List.mem_flatMap.mpr ⟨a, ham, hp⟩, hpt, ρ2 ++ ρ1, ?_, by rw [List.append_assoc]; exact hagp⟩
      intro b hb
      simp only [Expr.qvars, List.mem_append]
      rcases List.mem_append.mp hb with hb | hb
      · right
        exact hρ2 b hb
      · left
        exact hρ1 b hb
  | exists_ q φ _ =>
    intro A B hQ hln env rs hk hB hA hlf h
    simp only [Expr.Qt, Expr.FcQ_eq, Bool.and_eq_true, Bool.not_eq_true', List.contains_iff_mem,
      List.all_eq_true, Bool.or_eq_true, beq_iff_eq] at hQ
    obtain ⟨⟨⟨⟨hF, hqA⟩, hb1⟩, hb2⟩, hvars⟩ := hQ
    have hq := unbound_of_not_mem hA hqA
    exact exists_qinv w hnd q φ hF (litNodup_cons_var hln) B ⟨hb1, hb2⟩ hvars env rs hk hB hq
      (hlf.mono fun k hk => List.mem_cons_of_mem _ hk) h
  | forAll q φ _ =>
    intro A B hQ hln env rs hk hB hA hlf h
    simp only [Expr.Qt, Expr.FcQ_eq, Bool.and_eq_true, Bool.not_eq_true', List.contains_iff_mem,
      List.all_eq_true] at hQ
    obtain ⟨⟨hF, hqA⟩, hall⟩ := hQ
    have hq := unbound_of_not_mem hA hqA
    exact forAll_qinv w hnd q φ hF (litNodup_cons_var hln) hall env rs hk hq
      (hlf.mono fun k hk => List.mem_cons_of_mem _ hk) h
  | cmp op a b | contains a b | truth t | hasType t c | elseIf a b _ _ | not a _ =>
    intro A B hQ hln env rs hk _ _ hlf h
    exact pos_qinv w _ (Expr.Fc_Fp (by simpa [Expr.Qt] using hQ)) hln env rs hk hlf h
  | union a b _ _ =>
    intro A B hQ
    simp [Expr.Qt, Expr.FcQ] at hQ

theorem qt_of_Fc {e : Expr} (h : e.Fc = true) : ∀ A B, e.Qt A B = true := by
  induction e with
  | and l r ihl ihr =>
    intro A B
    simp only [Expr.Fc, Bool.and_eq_true] at h
    simp [Expr.Qt, ihl h.1, ihr h.2, Expr.qvars_qf (Expr.Fc_noQuant h.1)]
  | union l r _ _ | exists_ q e _ | forAll q e _ => simp [Expr.Fc] at h
  | _ =>
    intro A B
    simpa [Expr.Qt] using h

theorem ql_qt (e : Expr) : ∀ A B, e.Ql A B = true → e.Qt A B = true := by
  induction e with
  | and l e' _ ih =>
    intro A B h
    simp only [Expr.Ql, Expr.FcQ_eq, Bool.and_eq_true] at h
    simp only [Expr.Qt, Bool.and_eq_true]
    refine ⟨⟨qt_of_Fc h.1 A B, by simp [Expr.qvars_qf (Expr.Fc_noQuant h.1)]⟩, ?_⟩
    rw [Expr.tb_Fc h.1]
    exact ih _ _ h.2
  | exists_ q φ _ | forAll q φ _ =>
    intro A B h
    exact h
  | _ =>
    intro A B h
    simp [Expr.Ql] at h

theorem ql_qinv (w : World) (hnd : ∀ v, (w.dom v).Nodup) (e : Expr) : ∀ A B, e.Ql A B = true → LitNodup e →
    ∀ env rs, EnvFn env → (∀ k ∈ B, (env.lookup k).isSome = true) →
      (∀ v, (env.lookup (.var v)).isSome = true → v ∈ A) → LitFresh e.nodes env →
      eval w e env = .ok rs → QInv w e env rs :=
  fun A B hQ => qt_qinv2 w hnd e A B (ql_qt e A B hQ)

/-! ## The query level -/

theorem agreesB_sub {τ : Asg} {a b c : Env} (h : agreesB τ (a ++ (b ++ c)) = true) :
    agreesB τ (a ++ c) = true ∧ agreesB τ (b ++ c) = true := by
  simp only [agreesB_append, Bool.and_eq_true] at h ⊢
  exact ⟨⟨h.1, h.2.2⟩, h.2⟩

theorem Term.lits_noLit {t : Term} (h : t.noLit = true) : t.lits = [] := by
  induction t <;> simp_all [Term.noLit, Term.lits]

/-- no variable feeds two selected expressions (`Nodup`), so every row of the product comes from ONE consistent extension
`pre` of the cell's bindings -/
theorem select_sound (w : World) : ∀ (sel : List Term) (env : Env) (per : List (List Val)) (r : List Val),
    (∀ s ∈ sel, s.noFlat = true ∧ s.noLit = true) → (sel.flatMap Term.vars).Nodup → EnvFn env →
    sel.mapM (selVals w env) = .ok per → r ∈ product per →
    ∃ pre : Env, EnvFn (pre ++ env) ∧
      (∀ p ∈ pre, ∃ u, p.1 = .var u ∧ u ∈ sel.flatMap Term.vars ∧ p.2 ∈ w.dom u) ∧
      ∀ τ, agreesB τ (pre ++ env) = true → Covers w τ (sel.flatMap Term.vars) →
        ∀ ys, sel.mapM (tval w τ) = .ok ys → ys = r := by
  intro sel
  induction sel with
  | nil =>
    intro env per r _ _ hk hper hr
    rw [List.mapM_nil] at hper
    rw [← pure_ok hper, mem_product_nil] at hr
    subst hr
    refine ⟨[], hk, by simp, ?_⟩
    intro τ _ _ ys hys
    rw [List.mapM_nil] at hys
    exact (pure_ok hys).symm
  | cons s rest ih =>
    intro env per r hsel hnd hk hper hr
    rw [List.mapM_cons] at hper
    obtain ⟨vs, hvs, hper⟩ := bind_ok hper
    obtain ⟨per', hper', hper⟩ := bind_ok hper
    rw [← pure_ok hper, mem_product_cons] at hr
    obtain ⟨x, r', rfl, hx, hr'⟩ := hr
    obtain ⟨rs, hrs, hvs⟩ := bind_ok hvs
    rw [← pure_ok hvs, List.mem_map] at hx
    obtain ⟨p, hp, rfl⟩ := hx
    rw [List.flatMap_cons, List.nodup_append] at hnd
    obtain ⟨hs1, hs2⟩ := hsel s (List.mem_cons_self)
    obtain ⟨pre', hk', hpre', hτ'⟩ :=
      ih env per' r' (fun t ht => hsel t (List.mem_cons_of_mem _ ht)) hnd.2.1 hk hper' hr'
    obtain ⟨ps, hpe, hnps, hfps, hps⟩ := evalTerm_grows w s false env rs hrs p hp
    have hpsv : ∀ b ∈ ps, ∃ u, b.1 = Key.var u ∧ u ∈ s.vars ∧ b.2 ∈ w.dom u := by
      intro b hb
      cases hk : b.1 with
      | var u => exact ⟨u, rfl, (hps b hb).1 u hk⟩
      | lit id =>
        have := (hps b hb).2 id hk
        rw [Term.lits_noLit hs2] at this
        cases this
    refine ⟨ps ++ pre', ?_, ?_, ?_⟩
    · rw [List.append_assoc]
      refine hk'.append hnps ?_
      intro b hb
      obtain ⟨u, hu, hus, _⟩ := hpsv b hb
      have hne : ∀ q ∈ pre', q.1 ≠ b.1 := by
        intro q hq heq
        obtain ⟨u', hu', hus', _⟩ := hpre' q hq
        rw [hu, hu'] at heq
        cases heq
        exact hnd.2.2 u hus u hus' rfl
      rw [lookup_append_of_not_mem hne]
      exact hfps b hb
    · intro q hq
      rcases List.mem_append.mp hq with hq | hq
      · obtain ⟨u, hu, hus, hd⟩ := hpsv q hq
        exact ⟨u, hu, List.mem_append_left _ hus, hd⟩
      · obtain ⟨u', hu', hus', hd⟩ := hpre' q hq
        exact ⟨u', hu', List.mem_append_right _ hus', hd⟩
    · intro τ hag hcov ys hys
      rw [List.append_assoc] at hag
      obtain ⟨hag1, hag2⟩ := agreesB_sub hag
      rw [List.mapM_cons] at hys
      obtain ⟨y, hy, hys⟩ := bind_ok hys
      obtain ⟨ys', hys', hys⟩ := bind_ok hys
      rw [← pure_ok hys]
      rw [List.flatMap_cons] at hcov
      have hagenv : agreesB τ env = true := agreesB_suffix hag1
      have hc := evalTerm_cover w τ s false env rs y hs1 hcov.left (litFresh_noLit hs2 env) hagenv hrs hy
      have hpy : p.2.1 = y := cells_flag hc hp (hpe ▸ hag1)
      rw [hpy, hτ' τ hag2 hcov.right ys' hys']

/-- an environment read as an assignment (`List.lookup`: the first binding of a key counts) -/
def envAsg (env : Env) : Asg := env.filterMap fun b => match b.1 with
  | .var v => some (v, b.2)
  | .lit _ => none

theorem lookup_envAsg (env : Env) (v : VarId) : (envAsg env).lookup v = env.lookup (.var v) := by
  induction env with
  | nil => rfl
  | cons b t ih =>
    obtain ⟨k, x⟩ := b
    cases k with
    | lit i =>
      rw [lookup_cons_ne (by intro e; cases e)]
      exact ih
    | var u =>
      show List.lookup v ((u, x) :: envAsg t) = _
      by_cases h : v = u
      · subst h
        rw [List.lookup_cons_self, List.lookup_cons_self]
      · rw [lookup_cons_ne h, lookup_cons_ne (by intro e; cases e; exact h rfl), ih]

theorem agrees_envAsg {env : Env} (h : EnvFn env) (d : Asg) : agreesB (envAsg env ++ d) env = true := by
  rw [agreesB_iff]
  intro v x hm
  have hl := lookup_envAsg env v
  rw [h.lookup hm] at hl
  rw [lookup_append_of_isSome (by rw [hl]; rfl), hl]

theorem headD_mem {α} {l : List α} (h : l ≠ []) (d : α) : l.headD d ∈ l := by
  cases l with
  | nil => exact absurd rfl h
  | cons a t => simp

theorem covers_envAsg {w : World} (hnd : ∀ v, (w.dom v).Nodup) {env : Env}
    (hd : ∀ v x, (Key.var v, x) ∈ env → x ∈ w.dom v) {vs : List VarId} (hne : ∀ v ∈ vs, w.dom v ≠ []) :
    Covers w (envAsg env ++ vs.map fun v => (v, (w.dom v).headD .none)) vs := by
  intro v hv
  rw [List.lookup_append, lookup_envAsg, lookup_map_self, if_pos hv]
  cases hl : env.lookup (.var v) with
  | none => exact ⟨_, rfl, by rw [(hnd v).count, if_pos (headD_mem (hne v hv) _)]⟩
  | some x => exact ⟨x, rfl, by rw [(hnd v).count, if_pos (hd v x (mem_of_lookup hl))]⟩

theorem sound_complete_of_qinv (w : World) (sel : List Term) (c : SExpr)
    (hinvF : ∀ rs, eval w (build c) [] = .ok rs → QInv w (build c) [] rs)
    (hsel : selF1 sel = true) (hms : (sel.flatMap Term.vars).Nodup)
    (hsq : ∀ v ∈ (build c).qvars, v ∉ sel.flatMap Term.vars)
    (hnd : ∀ v, (w.dom v).Nodup)
    (hne : ∀ v ∈ SQuery.vars { sel := sel, cond := some c }, w.dom v ≠ [])
    {rows rows' : List (List Val)}
    (h1 : evalQuery w { sel := sel, cond := some (build c) } = .ok rows)
    (h2 : solutions w { sel := sel, cond := some c } = .ok rows') :
    ∀ r, r ∈ rows ↔ r ∈ rows' := by
  have hselp : ∀ s ∈ sel, s.noFlat = true ∧ s.noLit = true := by
    simpa [selF1] using hsel
  obtain ⟨rs, gF, hrs, rfl, hgF⟩ := evalQuery_inv h1
  obtain ⟨pred, g', hpred, hg', rfl⟩ := solutions_inv h2
  generalize hvs : SQuery.vars { sel := sel, cond := some c } = vs at hne hpred hg' ⊢
  have hvsm : ∀ v, v ∈ vs ↔ v ∈ sel.flatMap Term.vars ∨ v ∈ (build c).fvars := by
    intro v
    rw [← hvs, mem_queryVars, build_fvars]
  have hinv : QInv w (build c) [] rs := hinvF rs hrs
  have hsatσ : ∀ σ ∈ assignments w vs, satE w (build c) σ = .ok (pred σ) := fun σ hσ =>
    satE_build w c σ ▸ hpred σ hσ
  have hfvs : ∀ u ∈ (build c).fvars, u ∈ vs := fun u hu => (hvsm u).mpr (Or.inr hu)
  have hsvs : ∀ u ∈ sel.flatMap Term.vars, u ∈ vs := fun u hu => (hvsm u).mpr (Or.inl hu)
  intro r
  constructor
  · intro hr
    obtain ⟨p, hp, hr⟩ := List.mem_flatMap.mp hr
    obtain ⟨hp, hpt⟩ := List.mem_filter.mp hp
    obtain ⟨per, hper, hgp⟩ := hgF p hp hpt
    rw [hgp] at hr
    obtain ⟨pre, hfnp, hpre, hτ⟩ := select_sound w sel p.1 per r hselp hms (hinv.fn p hp hpt) hper hr
    -- the extended cell, read as an assignment and completed over `vs`, and the enumerated `σ` that looks up like it
    have hcov := covers_envAsg hnd (env := pre ++ p.1) (fun v x hm => by
      rcases List.mem_append.mp hm with hm | hm
      · obtain ⟨u, hu, _, hd⟩ := hpre _ hm
        cases hu
        exact hd
      · exact (((hinv.ext p hp hpt).2 _ hm).resolve_left nofun v rfl).2) hne
    have hag := agrees_envAsg hfnp (vs.map fun v => (v, (w.dom v).headD .none))
    obtain ⟨σ, hσ, hlk⟩ := assignment_of_covers hcov
    have hpredσ : pred σ = true := by
      apply hinv.sound p hp hpt _ (pred σ) (fun v hv => hcov v (hfvs v hv)) (agreesB_suffix hag)
      rw [← hsatσ σ hσ]
      exact satE_congr w _ _ _ (fun v hv => hlk v (hfvs v hv))
    have hσs : σ ∈ (assignments w vs).filter pred := List.mem_filter.mpr ⟨hσ, hpredσ⟩
    have := hτ _ hag (fun v hv => hcov v (hsvs v hv)) (g' σ) (by
      rw [← hg' σ hσs]
      apply mapM_congr' _ _ _
      intro s hs
      exact tval_congr w s fun v hv => hlk v (hsvs v (List.mem_flatMap.mpr ⟨s, hs, hv⟩)))
    rw [← this]
    exact List.mem_map.mpr ⟨σ, hσs, rfl⟩
  · intro hr
    obtain ⟨σ, hσs, rfl⟩ := List.mem_map.mp hr
    obtain ⟨hσ, hpredσ⟩ := List.mem_filter.mp hσs
    obtain ⟨p, hp, hpt, ρ, hρ, hagp⟩ := hinv.complete σ (covers_of_assignments hnd hσ hfvs) (agreesB_nil σ)
      (by rw [hsatσ σ hσ, hpredσ])
    obtain ⟨per, hper, hgp⟩ := hgF p hp hpt
    refine List.mem_flatMap.mpr ⟨p, List.mem_filter.mpr ⟨hp, hpt⟩, ?_⟩
    rw [hgp]
    have hlk : ∀ v ∈ sel.flatMap Term.vars, (ρ ++ σ).lookup v = σ.lookup v := by
      intro v hv
      apply lookup_append_of_not_mem
      intro b hb heq
      exact hsq _ (hρ b hb) (heq ▸ hv)
    apply select_complete w (ρ ++ σ) sel p.1 per (g' σ) hselp hagp
      (covers_congr (covers_of_assignments hnd hσ hsvs) hlk) hper
    rw [← hg' σ hσs]
    apply mapM_congr' _ _ _
    intro s hs
    apply tval_congr
    intro v hv
    exact hlk v (List.mem_flatMap.mpr ⟨s, hs, hv⟩)

theorem sound_complete_Qt (w : World) (sel : List Term) (c : SExpr)
    (hQ : (build c).Qt [] [] = true) (hsel : selF1 sel = true) (hms : (sel.flatMap Term.vars).Nodup)
    (hsq : ∀ v ∈ (build c).qvars, v ∉ sel.flatMap Term.vars)
    (hnd : ∀ v, (w.dom v).Nodup)
    (hne : ∀ v ∈ SQuery.vars { sel := sel, cond := some c }, w.dom v ≠ [])
    (hlit : LitNodup (build c))
    {rows rows' : List (List Val)}
    (h1 : evalQuery w { sel := sel, cond := some (build c) } = .ok rows)
    (h2 : solutions w { sel := sel, cond := some c } = .ok rows') :
    ∀ r, r ∈ rows ↔ r ∈ rows' :=
  sound_complete_of_qinv w sel c
    (fun rs hrs => qt_qinv2 w hnd (build c) [] [] hQ hlit [] rs (fun _ _ _ h => by cases h) (by simp) (by simp)
      (fun _ _ => rfl) hrs)
    hsel hms hsq hnd hne h1 h2

theorem sound_complete_Ql (w : World) (sel : List Term) (c : SExpr)
    (hQ : (build c).Ql [] [] = true) (hsel : selF1 sel = true) (hms : (sel.flatMap Term.vars).Nodup)
    (hsq : ∀ v ∈ (build c).qvars, v ∉ sel.flatMap Term.vars)
    (hnd : ∀ v, (w.dom v).Nodup)
    (hne : ∀ v ∈ SQuery.vars { sel := sel, cond := some c }, w.dom v ≠ [])
    (hlit : LitNodup (build c))
    {rows rows' : List (List Val)}
    (h1 : evalQuery w { sel := sel, cond := some (build c) } = .ok rows)
    (h2 : solutions w { sel := sel, cond := some c } = .ok rows') :
    ∀ r, r ∈ rows ↔ r ∈ rows' :=
  sound_complete_Qt w sel c (ql_qt _ _ _ hQ) hsel hms hsq hnd hne hlit h1 h2

theorem sound_complete_Fp (w : World) (sel : List Term) (c : SExpr)
    (hF : c.Fp1 = true) (hsel : selF1 sel = true) (hms : (sel.flatMap Term.vars).Nodup)
    (hnd : ∀ v, (w.dom v).Nodup)
    (hne : ∀ v ∈ SQuery.vars { sel := sel, cond := some c }, w.dom v ≠ [])
    (hlit : LitNodup (build c))
    {rows rows' : List (List Val)}
    (h1 : evalQuery w { sel := sel, cond := some (build c) } = .ok rows)
    (h2 : solutions w { sel := sel, cond := some c } = .ok rows') :
    ∀ r, r ∈ rows ↔ r ∈ rows' := by
  have hq : (build c).qvars = [] := Expr.qvars_qf (Expr.Fp_noQuant (build_Fp hF))
  exact sound_complete_of_qinv w sel c
    (fun rs hrs => pos_qinv w _ (build_Fp hF) hlit [] rs (fun _ _ _ h => nomatch h) (fun _ _ => rfl) hrs)
    hsel hms (by rw [hq]; nofun) hnd hne h1 h2

/-! ## Errors of an `exists` inside the fragment -/

/-- no `KeyError` (F-C01-7) where every result cell of `φ` binds `q` -/
theorem exists_error_of_bK (w : World) (q : VarId) (φ : Expr) (env : Env)
    (hbq : Key.var q ∈ Expr.bK true φ ∧ Key.var q ∈ Expr.bK false φ) (err : Err)
    (h : eval w (.exists_ q φ) env = .error err) : eval w φ env = .error err := by
  simp only [eval] at h
  cases h0 : eval w φ env with
  | error e =>
    rw [h0] at h
    exact h
  | ok rs0 =>
    rw [h0] at h
    obtain ⟨out, ho⟩ := (existsFilter_ok_iff w q rs0 []).2 (by
      intro p hp
      cases hp2 : p.2 with
      | true => exact bK_sound w φ env rs0 h0 p hp true hp2 _ hbq.1
      | false => exact bK_sound w φ env rs0 h0 p hp false hp2 _ hbq.2)
    have : (existsFilter w q rs0 [] : Except Err _) = .error err := h
    rw [ho] at this
    cases this

theorem exists_error_from_body (w : World) (q : VarId) (φ : Expr) (env : Env) (hF : φ.Fc = true)
    (hbq : Key.var q ∈ Expr.bK true φ ∧ Key.var q ∈ Expr.bK false φ) (err : Err)
    (h : eval w (.exists_ q φ) env = .error err) : eval w φ env = .error err :=
  exists_error_of_bK w q φ env hbq err h

end KrroodVerif.Eql
