import KrroodVerif.Lemmas.EqlF1
/-!
Soundness and completeness of the **true cells** of `Union` (`or_` between conditions over *different* variable
sets) in positive positions: the positive fragment **Fp** (the query-level set equality on it is `sound_complete_Fp`,
`Lemmas/EqlQuant.lean`). Core Lean only.

A `Union`'s result stream is not a decision partition (the same assignment may lie in several true cells and the
false cells are unreliable: F-C01-1), so `C01_cover` does not extend to it. What does hold — and is all a
positive position reads — is `pos_cells`: an assignment `τ` lies in some cell flagged with the truth value of the
condition under `τ` (`union_cell_complete`), and a true cell compatible with `τ` implies that `τ` satisfies the condition
(`union_true_sound`).
-/
namespace KrroodVerif.Eql

/-! ## The positive fragment -/

/-- The positive fragment: atoms as in `Fc`; `and` / `elseIf` / `union` over `Fp`; `not` only over the cover
fragment `Fc` (so no `Union` below a `Not`: the negation of the trigger of F-C01-1); no quantifiers -/
def Expr.Fp : Expr → Bool
  | .cmp _ l r => l.noFlat && r.noFlat
  | .contains c i => c.noFlat && i.noFlat
  | .hasType t _ => t.noFlat
  | .truth t => t.isChain
  | .and l r => l.Fp && r.Fp
  | .elseIf l r => l.Fp && r.Fp
  | .union l r => l.Fp && r.Fp
  | .not e => e.Fc
  | .exists_ _ _ => false
  | .forAll _ _ => false

/-- surface version of `Fp`: and / or / not over atoms; `or_` between **arbitrary** variable sets (built as
`ElseIf` or as `Union`); `not_` only on `F1` sub-conditions (no `or_` over different variable sets below it) -/
def SExpr.Fp1 : SExpr → Bool
  | .cmp _ l r => l.noFlat && r.noFlat
  | .contains c i => c.noFlat && i.noFlat
  | .hasType t _ => t.noFlat
  | .truth t => t.isChain
  | .and l r => l.Fp1 && r.Fp1
  | .or l r => l.Fp1 && r.Fp1
  | .not e => e.F1
  | .exists_ _ _ => false
  | .forAll _ _ => false

/-- every atom is `flatten`-free and every `truth` atom is a chain (quantifiers are looked through) -/
def Expr.atomsOK : Expr → Bool
  | .cmp _ l r => l.noFlat && r.noFlat
  | .contains c i => c.noFlat && i.noFlat
  | .hasType t _ => t.noFlat
  | .truth t => t.isChain
  | .and l r | .elseIf l r | .union l r => l.atomsOK && r.atomsOK
  | .not e | .exists_ _ e | .forAll _ e => e.atomsOK

theorem Expr.unionUnderNot_hasUnion {e : Expr} (h : e.hasUnion = false) : e.unionUnderNot = false := by
  induction e <;> simp_all [Expr.hasUnion, Expr.unionUnderNot]

theorem and3_regroup (a₁ a₂ q₁ q₂ u₁ u₂ : Bool) :
    ((a₁ && !q₁ && !u₁) && (a₂ && !q₂ && !u₂)) = (a₁ && a₂ && !(q₁ || q₂) && !(u₁ || u₂)) := by
  cases a₁ <;> cases q₁ <;> cases u₁ <;> simp

theorem Expr.Fc_eq (e : Expr) : e.Fc = (e.atomsOK && !e.hasQuant && !e.hasUnion) := by
  induction e with
  | and l r ihl ihr | elseIf l r ihl ihr =>
    simp only [Expr.Fc, Expr.atomsOK, Expr.hasQuant, Expr.hasUnion, ihl, ihr, and3_regroup]
  | not e ih => simp only [Expr.Fc, Expr.atomsOK, Expr.hasQuant, Expr.hasUnion, ih]
  | _ => simp [Expr.Fc, Expr.atomsOK, Expr.hasQuant, Expr.hasUnion]

/-- The positive fragment is exactly the complement of the trigger of F-C01-1 among the quantifier-free
conditions with well-formed atoms -/
theorem Expr.Fp_eq (e : Expr) : e.Fp = (e.atomsOK && !e.hasQuant && !e.unionUnderNot) := by
  induction e with
  | and l r ihl ihr | elseIf l r ihl ihr | union l r ihl ihr =>
    simp only [Expr.Fp, Expr.atomsOK, Expr.hasQuant, Expr.unionUnderNot, ihl, ihr, and3_regroup]
  | not e _ =>
    simp only [Expr.Fp, Expr.atomsOK, Expr.hasQuant, Expr.unionUnderNot, Expr.Fc_eq]
    cases hu : e.hasUnion with
    | false => simp [Expr.unionUnderNot_hasUnion hu]
    | true => simp
  | _ => simp [Expr.Fp, Expr.atomsOK, Expr.hasQuant, Expr.unionUnderNot]

theorem Expr.Fc_Fp {e : Expr} (h : e.Fc = true) : e.Fp = true := by
  rw [Expr.Fc_eq] at h
  rw [Expr.Fp_eq]
  simp_all [Expr.unionUnderNot_hasUnion]

theorem Expr.Fp_noUnionUnderNot {e : Expr} (h : e.Fp = true) : e.unionUnderNot = false := by
  rw [Expr.Fp_eq] at h
  simp_all

theorem Expr.Fp_noQuant {e : Expr} (h : e.Fp = true) : e.hasQuant = false := by
  rw [Expr.Fp_eq] at h
  simp_all

theorem SExpr.F1_Fp1 {s : SExpr} (h : s.F1 = true) : s.Fp1 = true := by
  induction s with
  | and l r ihl ihr =>
    simp only [SExpr.F1, Bool.and_eq_true] at h
    simp [SExpr.Fp1, ihl h.1, ihr h.2]
  | or l r ihl ihr =>
    simp only [SExpr.F1, Bool.and_eq_true] at h
    simp [SExpr.Fp1, ihl h.1.1, ihr h.1.2]
  | not e _ => simpa [SExpr.F1, SExpr.Fp1] using h
  | _ => simp_all [SExpr.F1, SExpr.Fp1]

theorem build_Fp {s : SExpr} (h : s.Fp1 = true) : (build s).Fp = true := by
  induction s with
  | and l r ihl ihr =>
    simp only [SExpr.Fp1, Bool.and_eq_true] at h
    simp [build, Expr.Fp, ihl h.1, ihr h.2]
  | or l r ihl ihr =>
    simp only [SExpr.Fp1, Bool.and_eq_true] at h
    simp only [build, mkOr]
    split <;> simp [Expr.Fp, ihl h.1, ihr h.2]
  | not e _ =>
    simp only [SExpr.Fp1] at h
    simp only [build, invert_qf (Expr.Fc_noQuant (build_F1 h)), Expr.Fp]
    exact build_F1 h
  | _ => simp_all [SExpr.Fp1, build, Expr.Fp]

/-! ## Cells of the positive fragment -/

/-- what a positive position reads off the cells `rs` for `τ`, `b` being the truth value under `τ`: `τ` lies in some cell
flagged `b`, and a true cell compatible with `τ` makes `b` true -/
def PosCells (τ : Asg) (rs : List (Env × Bool)) (b : Bool) : Prop :=
  (∃ p ∈ rs, p.2 = b ∧ agreesB τ p.1 = true) ∧ ∀ p ∈ rs, p.2 = true → agreesB τ p.1 = true → b = true

/-- the step of `and` (`k = true`) and `elseIf` (`k = false`): the cells flagged `k` are refined by `g`, the others passed on -/
theorem PosCells.seq {τ : Asg} {ls : List (Env × Bool)} {g : Env × Bool → List (Env × Bool)} {k bl br : Bool}
    (hl : PosCells τ ls bl) (hag : ∀ a ∈ ls, ∀ p ∈ g a, agreesB τ p.1 = true → agreesB τ a.1 = true)
    (hg : ∀ a ∈ ls, (a.2 = k → agreesB τ a.1 = true → PosCells τ (g a) br) ∧ (a.2 = !k → g a = [(a.1, !k)])) :
    PosCells τ (ls.flatMap g) (if bl = k then br else !k) := by
  obtain ⟨⟨a, ha, ha2, haa⟩, hsl⟩ := hl
  constructor
  · split
    · rename_i hk
      obtain ⟨p, hp, hpb, hpa⟩ := ((hg a ha).1 (ha2.trans hk) haa).1
      exact ⟨p, List.mem_flatMap.mpr ⟨a, ha, hp⟩, hpb, hpa⟩
    · rename_i hk
      refine ⟨(a.1, !k), List.mem_flatMap.mpr ⟨a, ha, ?_⟩, rfl, haa⟩
      rw [(hg a ha).2 (ha2.trans (Bool.eq_not_of_ne hk))]
      exact List.mem_singleton.mpr rfl
  · intro p hp hpt hpa
    obtain ⟨a', ha', hp⟩ := List.mem_flatMap.mp hp
    have haa' := hag a' ha' p hp hpa
    by_cases hk : a'.2 = k
    · -- a refined cell: the right side holds, and for `and` so does the left
      rw [((hg a' ha').1 hk haa').2 p hp hpt hpa]
      cases k with
      | false => cases bl <;> rfl
      | true =>
        rw [hsl a' ha' hk haa']
        rfl
    · -- a cell passed on is true only for `elseIf`, and then the left side holds
      have hnk := Bool.eq_not_of_ne hk
      rw [(hg a' ha').2 hnk, List.mem_singleton] at hp
      subst hp
      cases k with
      | false =>
        rw [hsl a' ha' hnk haa']
        rfl
      | true => cases hpt

theorem PosCells.append_right {τ : Asg} {rs rr : List (Env × Bool)} {b : Bool} (h : PosCells τ rs b)
    (hr : ∀ p ∈ rr, p.2 = true → agreesB τ p.1 = true → b = true) : PosCells τ (rs ++ rr) b :=
  ⟨h.1.imp fun _ hp => ⟨List.mem_append_left _ hp.1, hp.2⟩,
    fun p hp => (List.mem_append.mp hp).elim (h.2 p) (hr p)⟩

theorem pos_cells (w : World) (τ : Asg) (e : Expr) :
    e.Fp = true → Covers w τ e.vars → LitNodup e →
    ∀ env rs b, LitFresh e.nodes env → agreesB τ env = true → eval w e env = .ok rs → satE w e τ = .ok b →
      PosCells τ rs b := by
  induction e with
  | and l r ihl ihr | elseIf l r ihl ihr =>
    intro hF hcov hln env rs b hlf hag h hs
    simp only [Expr.Fp, Bool.and_eq_true] at hF
    obtain ⟨ls, g, h0, rfl, hg⟩ := eval_seq_inv rfl h
    obtain ⟨bl, br, hbl, hbr, rfl⟩ := satE_seq_inv rfl hs
    obtain ⟨hnl, hnr, hd⟩ := litNodup_append hln
    have hgl := eval_grows w l (Expr.Fp_noQuant hF.1) env ls h0
    -- `r` starts from a cell `a` of `l`: its literal nodes are still unbound there, since `l` binds only its own literals and the
    -- ids of the two sides are disjoint (`hd`); so the induction hypothesis for `r` applies at `a` (here and for `union`)
    exact PosCells.seq (ihl hF.1 hcov.left hnl env ls bl (hlf.mono (List.subset_append_left _ _)) hag h0 hbl)
      (fun a ha p hp hpa => (branch_rel (Grows.refl w _ _) (eval_grows w r (Expr.Fp_noQuant hF.2) a.1)
        (hg a ha).1 (hg a ha).2 p hp).agrees hpa)
      fun a ha => ⟨fun ha2 haa => ihr hF.2 hcov.right hnr a.1 (g a) br
        ((hgl a ha).litFresh (hlf.mono (List.subset_append_right _ _)) fun i _ hx => hd i (mem_lits_nodes hx))
        haa ((hg a ha).1 ha2) hbr, (hg a ha).2⟩
  | union l r ihl ihr =>
    -- `union l r` is `elseIf l r` followed by the results of `r` alone; both read as `or`
    intro hF hcov hln env rs b hlf hag h hs
    simp only [Expr.Fp, Bool.and_eq_true] at hF
    obtain ⟨ls, g, rr, h0, hrr, rfl, hg⟩ := eval_union_inv h
    obtain ⟨bl, br, hbl, hbr, rfl⟩ := satE_seq_inv (e := .elseIf l r) rfl hs
    obtain ⟨hnl, hnr, hd⟩ := litNodup_append hln
    have hgl := eval_grows w l (Expr.Fp_noQuant hF.1) env ls h0
    refine (PosCells.seq (ihl hF.1 hcov.left hnl env ls bl (hlf.mono (List.subset_append_left _ _)) hag h0 hbl)
      (fun a ha p hp hpa => (branch_rel (Grows.refl w _ _) (eval_grows w r (Expr.Fp_noQuant hF.2) a.1)
        (hg a ha).1 (hg a ha).2 p hp).agrees hpa)
      fun a ha => ⟨fun ha2 haa => ihr hF.2 hcov.right hnr a.1 (g a) br
        ((hgl a ha).litFresh (hlf.mono (List.subset_append_right _ _)) fun i _ hx => hd i (mem_lits_nodes hx))
        haa ((hg a ha).1 ha2) hbr, (hg a ha).2⟩).append_right fun p hp hpt hpa => ?_
    rw [(ihr hF.2 hcov.right hnr env rr br (hlf.mono (List.subset_append_right _ _)) hag hrr hbr).2 p hp hpt hpa]
    cases bl <;> rfl
  | exists_ v e _ =>
    intro hF
    simp [Expr.Fp] at hF
  | forAll v e _ =>
    intro hF
    simp [Expr.Fp] at hF
  | _ =>
    -- the `Fc` leaves (atoms, `not`): both parts are read off `C01_cover`
    intro hF hcov hln env rs b hlf hag h hs
    have hc := C01_cover w τ _ (by simpa [Expr.Fp, Expr.Fc] using hF) hcov hln env rs b hlf hag h hs
    obtain ⟨a, _, hav, ham, haa⟩ := filter_single hc
    exact ⟨⟨a, ham, hav, haa⟩, fun p hp hpt hpa => (cells_flag hc hp hpa).symm.trans hpt⟩

/-- For `e` in the positive fragment, a **true** result cell of `eval w e env` that is
compatible with a total assignment `τ` (values occurring exactly once in their domains, as in `C01_cover`)
implies that `τ` satisfies `e` in the first-order reading. Conditional on both sides returning `.ok`. -/
theorem union_true_sound (w : World) (τ : Asg) (e : Expr)
    (hF : e.Fp = true) (hτ : ∀ v ∈ e.vars, ∃ x, τ.lookup v = some x ∧ (w.dom v).count x = 1)
    (hlit : LitNodup e) (env : Env) (rs : List (Env × Bool)) (b : Bool)
    (hfresh : ∀ id, Key.lit id ∈ e.nodes → env.lookup (.lit id) = none)
    (he : eval w e env = .ok rs)
    (p : Env × Bool) (hp : p ∈ rs) (hpt : p.2 = true) (hag : agreesB τ p.1 = true)
    (hs : satE w e τ = .ok b) :
    b = true :=
  (pos_cells w τ e hF hτ hlit env rs b hfresh ((eval_grows w e (Expr.Fp_noQuant hF) env rs he p hp).agrees hag) he
    hs).2 p hp hpt hag

/-- Stronger form of completeness (what makes `elseIf` over unions work): `τ` lies in
some result cell whose flag is the truth value of `e` under `τ`, for either truth value. Together with
`union_true_sound`: on the positive fragment only the *soundness of false cells* fails. -/
theorem union_cell_complete (w : World) (τ : Asg) (e : Expr)
    (hF : e.Fp = true) (hτ : ∀ v ∈ e.vars, ∃ x, τ.lookup v = some x ∧ (w.dom v).count x = 1)
    (hlit : LitNodup e) (env : Env) (rs : List (Env × Bool)) (b : Bool)
    (hfresh : ∀ id, Key.lit id ∈ e.nodes → env.lookup (.lit id) = none)
    (hag : agreesB τ env = true)
    (he : eval w e env = .ok rs) (hs : satE w e τ = .ok b) :
    ∃ p ∈ rs, p.2 = b ∧ agreesB τ p.1 = true :=
  (pos_cells w τ e hF hτ hlit env rs b hfresh hag he hs).1

end KrroodVerif.Eql
