import KrroodVerif.Lemmas.ListBasics
import KrroodVerif.Model.Predicate
/-!
Lemmas about the model `Model/Predicate.lean`, for `Props/C12.lean`.
-/
namespace KrroodVerif.Pred

/-! ### Python dicts -/

namespace Dict
variable {α β : Type}

@[simp] theorem get?_nil (k : String) : get? ([] : Dict α) k = none := rfl

theorem get?_cons (k' : String) (v : α) (r : Dict α) (k : String) :
    get? ((k', v) :: r) k = if k = k' then some v else get? r k := by
  simp only [get?, List.lookup_cons]
  split <;> simp_all

theorem get?_append (d e : Dict α) (k : String) : get? (d ++ e) k = (get? d k).or (get? e k) :=
  List.lookup_append

@[simp] theorem keys_nil : keys ([] : Dict α) = [] := rfl
@[simp] theorem keys_cons (k : String) (v : α) (r : Dict α) : keys ((k, v) :: r) = k :: keys r := rfl

@[simp] theorem keys_append (d e : Dict α) : keys (d ++ e) = keys d ++ keys e := List.map_append

@[simp] theorem vals_nil : vals ([] : Dict α) = [] := rfl
@[simp] theorem vals_cons (k : String) (v : α) (r : Dict α) : vals ((k, v) :: r) = v :: vals r := rfl
@[simp] theorem vals_append (d e : Dict α) : vals (d ++ e) = vals d ++ vals e := List.map_append

theorem length_keys (d : Dict α) : d.keys.length = d.length := List.length_map _
theorem length_vals (d : Dict α) : d.vals.length = d.length := List.length_map _

@[simp] theorem update_nil (d : Dict α) : d.update [] = d := rfl
theorem update_cons (d : Dict α) (k : String) (v : α) (r : Dict α) :
    d.update ((k, v) :: r) = (d.set k v).update r := rfl

theorem get?_set (d : Dict α) (k : String) (v : α) (j : String) :
    (d.set k v).get? j = if j = k then some v else d.get? j := by
  induction d with
  | nil => simp only [set, get?_cons, get?_nil]
  | cons kv r ih =>
    obtain ⟨k', v'⟩ := kv
    by_cases h : k' = k
    · subst h
      simp only [set, if_true, get?_cons]
      split <;> rfl
    · simp only [set, h, if_false, get?_cons, ih]
      split
      · subst_vars
        simp only [h, if_false]
      · rfl

theorem get?_eq_none_iff (d : Dict α) (k : String) : d.get? k = none ↔ k ∉ d.keys :=
  lookup_eq_none_iff_not_mem_keys

theorem get?_isSome_iff (d : Dict α) (k : String) : (d.get? k).isSome = decide (k ∈ d.keys) := by
  have := get?_eq_none_iff d k
  cases hg : d.get? k <;> simp_all

theorem set_eq_append (d : Dict α) (k : String) (v : α) (h : k ∉ d.keys) : d.set k v = d ++ [(k, v)] := by
  induction d with
  | nil => rfl
  | cons kv r ih =>
    obtain ⟨k', v'⟩ := kv
    rw [keys_cons, List.mem_cons, not_or] at h
    rw [set, if_neg (Ne.symm h.1), ih h.2, List.cons_append]

theorem keys_set (d : Dict α) (k : String) (v : α) :
    (d.set k v).keys = if k ∈ d.keys then d.keys else d.keys ++ [k] := by
  induction d with
  | nil => simp [set]
  | cons kv r ih =>
    obtain ⟨k', v'⟩ := kv
    by_cases h : k' = k
    · simp [set, h]
    · by_cases hk : k ∈ keys r <;> simp [set, h, Ne.symm h, ih, hk]

theorem update_eq_append (d e : Dict α) (hn : e.keys.Nodup) (hd : ∀ k ∈ e.keys, k ∉ d.keys) :
    d.update e = d ++ e := by
  induction e generalizing d with
  | nil => rw [update_nil, List.append_nil]
  | cons kv r ih =>
    obtain ⟨k, v⟩ := kv
    rw [keys_cons, List.nodup_cons] at hn
    have hk : k ∉ d.keys := hd k List.mem_cons_self
    rw [update_cons, ih _ hn.2, set_eq_append d k v hk, List.append_assoc]
    · rfl
    · intro k' hk'
      rw [keys_set, if_neg hk, List.mem_append, List.mem_singleton, not_or]
      exact ⟨hd k' (List.mem_cons_of_mem _ hk'), fun e => hn.1 (e ▸ hk')⟩

-- on keys `update` is the fold of `ListBasics` that inserts unless present
theorem keys_update (d e : Dict α) :
    (d.update e).keys = e.keys.foldl (fun ks k => if ks.contains k then ks else ks ++ [k]) d.keys := by
  rw [show e.keys = e.map (·.1) from rfl, List.foldl_map]
  exact (List.foldl_hom keys fun acc kv => by simp only [keys_set, List.contains_iff_mem]).symm

theorem nodup_keys_update (d e : Dict α) (h : d.keys.Nodup) : (d.update e).keys.Nodup :=
  keys_update d e ▸ nodup_foldl_dedup _ h

theorem get?_update (d e : Dict α) (hn : e.keys.Nodup) (j : String) :
    (d.update e).get? j = (e.get? j).or (d.get? j) := by
  induction e generalizing d with
  | nil => rfl
  | cons kv r ih =>
    obtain ⟨k, v⟩ := kv
    rw [keys_cons, List.nodup_cons] at hn
    rw [update_cons, ih _ hn.2, get?_set, get?_cons]
    by_cases hj : j = k
    · rw [hj, (get?_eq_none_iff r k).mpr hn.1]
      simp
    · simp [hj]

theorem mem_set (d : Dict α) (k : String) (v : α) (kv : String × α) (h : kv ∈ d.set k v) :
    kv ∈ d ∨ kv = (k, v) := by
  induction d with
  | nil => exact Or.inr (List.mem_singleton.1 h)
  | cons kv' r ih =>
    obtain ⟨k', v'⟩ := kv'
    rw [set] at h
    split at h
    · rcases List.mem_cons.1 h with h | h
      · subst_vars
        exact Or.inr rfl
      · exact Or.inl (List.mem_cons_of_mem _ h)
    · rcases List.mem_cons.1 h with h | h
      · exact Or.inl (h ▸ List.mem_cons_self)
      · exact (ih h).imp_left (List.mem_cons_of_mem _)

theorem mem_update (d e : Dict α) (kv : String × α) (h : kv ∈ d.update e) : kv ∈ d ∨ kv ∈ e := by
  induction e generalizing d with
  | nil => exact Or.inl h
  | cons kv' r ih =>
    rcases ih (d.set kv'.1 kv'.2) h with h | h
    · exact (mem_set d _ _ _ h).imp_right fun e => by simp [e]
    · exact Or.inr (List.mem_cons_of_mem _ h)

theorem get?_mapVals (f : α → β) (d : Dict α) (k : String) : (d.mapVals f).get? k = (d.get? k).map f :=
  lookup_map_snd f d k

theorem zip_keys_vals_map (f : α → β) (d : Dict α) : d.keys.zip (d.vals.map f) = d.mapVals f := by
  rw [keys, vals, List.map_map]
  exact List.zip_map'

theorem keys_mapVals (f : α → β) (d : Dict α) : (d.mapVals f).keys = d.keys := by
  simp [keys, mapVals]

theorem keys_zip (names : List String) (args : List α) :
    keys (names.zip args) = names.take args.length := by
  induction names generalizing args with
  | nil => simp [keys]
  | cons n ns ih =>
    cases args with
    | nil => simp [keys]
    | cons a as => simpa [keys] using ih as

theorem vals_zip (names : List String) (args : List α) (h : args.length ≤ names.length) :
    vals (names.zip args) = args := List.map_snd_zip h

end Dict

variable {α β : Type}

/-! ### `bindAux`, `bind`, `callSpec` -/

/-- What `bindAux look ps args` binds, as a map: the positional argument of each of the first `args.length` parameters, then
for every parameter the keyword of its name; a default is not part of the binding. -/
def boundTo (look : String → Option α) (ps : List Param) (args : List α) (k : String) : Option α :=
  (Dict.get? ((ps.map (·.name)).zip args) k).or (if k ∈ ps.map (·.name) then look k else none)

/-- Python's binding against its specification: what `bindAux look ps args = .ok b` says of `b`. -/
structure Binds (look : String → Option α) (ps : List Param) (args : List α) (b : Dict α) : Prop where
  length_le : args.length ≤ ps.length
  pos_not_kw : ∀ k ∈ (ps.map (·.name)).take args.length, look k = none
  keys_sublist : List.Sublist b.keys (ps.map (·.name))
  get?_eq : ∀ k, b.get? k = boundTo look ps args k
  bound_or_dflt : ∀ p ∈ ps, p.name ∈ b.keys ∨ p.dflt.isSome

theorem bindAux_spec {look : String → Option α} {ps : List Param} {args : List α} {b : Dict α}
    (h : bindAux look ps args = .ok b) : Binds look ps args b := by
  -- the generated cases carry what the calls returned; `case4`: a positional argument, `case6`: a keyword, `case8`: a default
  fun_induction bindAux look ps args generalizing b with
  | case1 =>
    cases h
    exact ⟨Nat.le_refl _, nofun, .slnil, fun _ => rfl, nofun⟩
  | case2 | case3 | case5 | case7 | case9 => cases h
  | case4 p ps a as hl r hr ih =>
    cases h
    obtain ⟨hlen, hpos, hs, hg, hm⟩ := ih hr
    refine ⟨Nat.succ_le_succ hlen, ?_, hs.cons_cons _, fun k => ?_, fun q hq => ?_⟩
    · exact fun k hk => (List.mem_cons.1 hk).elim (fun e => e ▸ hl) (hpos k)
    · rw [Dict.get?_cons, hg]
      by_cases hk : k = p.name <;> simp [boundTo, Dict.get?_cons, hk]
    · exact (List.mem_cons.1 hq).elim (fun e => e ▸ .inl List.mem_cons_self)
        fun hq => (hm q hq).imp_left (List.mem_cons_of_mem _)
  | case6 p ps v hv r hr ih =>
    cases h
    obtain ⟨-, -, hs, hg, hm⟩ := ih hr
    refine ⟨Nat.zero_le _, nofun, hs.cons_cons _, fun k => ?_, fun q hq => ?_⟩
    · rw [Dict.get?_cons, hg]
      by_cases hk : k = p.name <;> simp [boundTo, hk, hv]
    · exact (List.mem_cons.1 hq).elim (fun e => e ▸ .inl List.mem_cons_self)
        fun hq => (hm q hq).imp_left (List.mem_cons_of_mem _)
  | case8 p ps hv hd ih =>
    obtain ⟨-, -, hs, hg, hm⟩ := ih h
    refine ⟨Nat.zero_le _, nofun, hs.cons _, fun k => ?_, fun q hq => ?_⟩
    · rw [hg]
      by_cases hk : k = p.name <;> simp [boundTo, hk, hv]
    · exact (List.mem_cons.1 hq).elim (fun e => e ▸ .inr hd) (hm q)

theorem bindAux_nil_isOk (look : String → Option α) (ps : List Param) :
    Except.isOk' (bindAux look ps []) = ps.all (fun p => (look p.name).isSome || p.dflt.isSome) := by
  induction ps with
  | nil => rfl
  | cons p ps ih =>
    rw [bindAux, List.all_cons, ← ih]
    cases look p.name with
    | none => cases p.dflt <;> rfl
    | some v => cases bindAux look ps [] <;> rfl

theorem bind_ok {ps : List Param} {args : List α} {kw b : Dict α} (h : bind ps args kw = .ok b) :
    (∀ k ∈ kw.keys, k ∈ ps.map (·.name)) ∧ bindAux kw.get? ps args = .ok b := by
  unfold bind at h
  split at h
  · cases h
  · split at h
    · rename_i hk
      refine ⟨?_, h⟩
      simpa [List.all_eq_true] using hk
    · cases h

theorem bind_ok_capacity {ps : List Param} {args : List α} {kw b : Dict α} (h : bind ps args kw = .ok b) :
    args.length ≤ posCapacity ps := by
  unfold bind at h
  split at h
  · cases h
  · omega

theorem bind_spec {ps : List Param} {args : List α} {kw b : Dict α} (h : bind ps args kw = .ok b) :
    (∀ k ∈ kw.keys, k ∈ ps.map (·.name)) ∧ ∀ k, b.get? k = (Dict.get? ((ps.map (·.name)).zip args) k).or (kw.get? k) := by
  obtain ⟨hk, hb⟩ := bind_ok h
  refine ⟨hk, fun k => ?_⟩
  rw [(bindAux_spec hb).get?_eq, boundTo]
  split
  · rfl
  · rename_i hkn
    rw [(Dict.get?_eq_none_iff kw k).mpr (fun h => hkn (hk k h))]

theorem applyDefaults_congr (inj : Nat → α) (ps : List Param) {b b' : Dict α}
    (h : ∀ p ∈ ps, b.get? p.name = b'.get? p.name) : applyDefaults inj ps b = applyDefaults inj ps b' :=
  List.map_congr_left fun p hp => by rw [h p hp]

theorem callSpec_kw (inj : Nat → α) {ps : List Param} {d : Dict α} (hk : ∀ k ∈ d.keys, k ∈ ps.map (·.name))
    (hall : ∀ p ∈ ps, (d.get? p.name).isSome ∨ p.dflt.isSome) :
    callSpec inj ps [] d = .ok (applyDefaults inj ps d) := by
  have hkeys : d.keys.all (fun k => (ps.map (·.name)).contains k) = true := by
    simpa [List.all_eq_true] using hk
  have hok := bindAux_nil_isOk d.get? ps
  rw [List.all_eq_true.2 (by simpa using hall)] at hok
  cases hb : bindAux d.get? ps [] with
  | error e =>
    rw [hb] at hok
    cases hok
  | ok b =>
    simp only [callSpec, bind, hkeys, if_true, hb, List.length_nil, Nat.not_lt_zero, if_false]
    refine congrArg _ (applyDefaults_congr inj ps fun p hp => ?_)
    rw [(bindAux_spec hb).get?_eq, boundTo]
    simp [List.mem_map_of_mem hp]

/-- `f(**merged)` sees what `f(*args, **kwargs)` sees, for every instantiation `f` of the arguments -/
theorem callSpec_merged (inj : Nat → β) (f : α → β) {ps : List Param} {args : List α} {kw b : Dict α}
    (hb : bind ps args kw = .ok b) :
    callSpec inj ps [] (Dict.mapVals f ((ps.map (·.name)).zip args ++ kw)) = .ok (applyDefaults inj ps (b.mapVals f)) := by
  obtain ⟨hk, hg⟩ := bind_spec hb
  have hget : ∀ k, Dict.get? (Dict.mapVals f ((ps.map (·.name)).zip args ++ kw)) k = (b.mapVals f).get? k := by
    intro k
    rw [Dict.get?_mapVals, Dict.get?_mapVals, hg, Dict.get?_append]
  rw [callSpec_kw inj, applyDefaults_congr inj ps fun p _ => hget p.name]
  · rw [Dict.keys_mapVals, Dict.keys_append, Dict.keys_zip]
    intro k hk'
    rcases List.mem_append.1 hk' with h | h
    · exact List.mem_of_mem_take h
    · exact hk k h
  · intro p hp
    rw [hget, Dict.get?_mapVals, Option.isSome_map, Dict.get?_isSome_iff, decide_eq_true_eq]
    exact (bindAux_spec (bind_ok hb).2).bound_or_dflt p hp

/-! ### the merged dictionary -/

/-- `ignore_first=True` on a signature that starts with a parameter the caller does not pass (`self` of `cls.__init__`) is
`ignore_first=False` on the rest -/
theorem mergeArgs_cons_true (s : String) (names : List String) (args : List α) (kw : Dict α) :
    mergeArgs (s :: names) true args kw = mergeArgs names false args kw := rfl

theorem mergeArgs_valid {ps : List Param} (hnd : (ps.map (·.name)).Nodup) {args : List α} {kw b : Dict α}
    (hkw : kw.keys.Nodup) (hb : bind ps args kw = .ok b) :
    mergeArgs (ps.map (·.name)) false args kw = (ps.map (·.name)).zip args ++ kw := by
  have hz : (Dict.keys ((ps.map (·.name)).zip args)).Nodup := by
    rw [Dict.keys_zip]
    exact hnd.sublist (List.take_sublist _ _)
  simp only [mergeArgs, Bool.false_eq_true, if_false, List.drop_zero, Dict.ofPairs]
  rw [Dict.update_eq_append [] _ hz (by simp [Dict.keys])]
  simp only [List.nil_append]
  apply Dict.update_eq_append _ _ hkw
  intro k hk1 hk2
  rw [Dict.keys_zip] at hk2
  exact (Dict.get?_eq_none_iff kw k).mp ((bindAux_spec (bind_ok hb).2).pos_not_kw k hk2) hk1

theorem dictEq_zip_append {ps : List Param} (hnd : (ps.map (·.name)).Nodup) {args : List α} {kw b : Dict α}
    (hkw : kw.keys.Nodup) (hb : bind ps args kw = .ok b) : DictEq ((ps.map (·.name)).zip args ++ kw) b := by
  refine ⟨?_, hnd.sublist (bindAux_spec (bind_ok hb).2).keys_sublist, fun k => ?_⟩
  · -- the appended list is what `mergeArgs` builds, and `update` never repeats a key
    rw [← mergeArgs_valid hnd hkw hb]
    exact Dict.nodup_keys_update _ _ (Dict.nodup_keys_update _ _ List.nodup_nil)
  · rw [(bind_spec hb).2, Dict.get?_append]

theorem mem_mergeArgs (names : List String) (ign : Bool) (args : List α) (kw : Dict α) (kv : String × α)
    (h : kv ∈ mergeArgs names ign args kw) : kv.2 ∈ args ∨ kv.2 ∈ kw.vals := by
  simp only [mergeArgs, Dict.ofPairs] at h
  rcases Dict.mem_update _ _ _ h with h | h
  · rcases Dict.mem_update _ _ _ h with h | h
    · simp at h
    · obtain ⟨k, v⟩ := kv
      exact Or.inl (List.of_mem_zip h).2
  · exact Or.inr (List.mem_map_of_mem (f := (·.2)) h)

theorem isSymbolic_merged_of_no_var (q : Quirks) (c : Call) (hv : c.hasVar = false) :
    isSymbolic (c.merged q) = false := by
  simp only [Call.hasVar, List.any_eq_false] at hv
  simp only [isSymbolic, List.any_eq_false]
  intro kv hkv
  rcases mem_mergeArgs _ _ _ _ _ hkv with h | h
  · exact hv _ (List.mem_append_left _ h)
  · exact hv _ (List.mem_append_right _ h)

theorem merged_noQuirks (c : Call) (hwf : c.WF) {b : Dict Arg} (hb : bind c.params c.pos c.kw = .ok b) :
    c.merged Quirks.none = c.paramNames.zip c.pos ++ c.kw := by
  refine Eq.trans ?_ (mergeArgs_valid hwf.names_nodup hwf.kw_nodup hb)
  rw [Call.merged, Call.inspectedNames]
  cases c.kind with
  | symFn => rfl
  | pred => exact mergeArgs_cons_true _ _ _ _

theorem vals_merged (c : Call) {b : Dict Arg} (hb : bind c.params c.pos c.kw = .ok b) :
    Dict.vals (c.paramNames.zip c.pos ++ c.kw) = c.written := by
  have hl : c.pos.length ≤ c.paramNames.length := by
    simpa [Call.paramNames] using (bindAux_spec (bind_ok hb).2).length_le
  rw [Dict.vals_append, Dict.vals_zip _ _ hl, Call.written]

theorem isSymbolic_eq_any_vals (d : Dict Arg) : isSymbolic d = d.vals.any Arg.isVar := by
  rw [isSymbolic, Dict.vals, List.any_map]
  rfl

theorem isSymbolic_merged (c : Call) {b : Dict Arg} (hb : bind c.params c.pos c.kw = .ok b) :
    isSymbolic (c.paramNames.zip c.pos ++ c.kw) = c.hasVar := by
  rw [isSymbolic_eq_any_vals, vals_merged c hb, Call.hasVar]

/-! ### chained evaluation: `freeVars`, `assignsFrom`, `combosChained` -/

theorem mem_freeVars (args : List Arg) (seen : List Nat) (i : Nat) :
    i ∈ freeVars args seen ↔ args.any (Arg.mentions i) = true ∧ i ∉ seen := by
  induction args generalizing seen with
  | nil => simp [freeVars]
  | cons a r ih =>
    cases a with
    | lit v => simp [freeVars, ih, Arg.mentions]
    | var j k =>
      simp only [freeVars, List.any_cons, Arg.mentions, Bool.or_eq_true, beq_iff_eq]
      split
      · rename_i hj
        rw [ih]
        constructor
        · rintro ⟨h1, h2⟩
          exact ⟨Or.inr h1, h2⟩
        · rintro ⟨h1 | h1, h2⟩
          · subst h1
            exact absurd hj h2
          · exact ⟨h1, h2⟩
      · rename_i hj
        simp only [List.mem_cons, ih, not_or]
        constructor
        · rintro (h | ⟨h1, h2, h3⟩)
          · subst h
            exact ⟨Or.inl rfl, hj⟩
          · exact ⟨Or.inr h1, h3⟩
        · rintro ⟨h1 | h1, h2⟩
          · exact Or.inl h1.symm
          · by_cases hij : i = j
            · exact Or.inl hij
            · exact Or.inr ⟨h1, hij, h2⟩

theorem assignsFrom_get_of_not_mem {doms : Nat → List Nat} {fv : List Nat} {e e' : Env} {j : Nat}
    (h : e' ∈ assignsFrom doms e fv) (hj : j ∉ fv) : e' j = e j := by
  induction fv generalizing e with
  | nil =>
    simp [assignsFrom] at h
    rw [h]
  | cons i r ih =>
    simp only [assignsFrom, List.mem_flatMap] at h
    obtain ⟨v, _, hv⟩ := h
    simp only [List.mem_cons, not_or] at hj
    rw [ih hv hj.2]
    simp [Env.set, hj.1]

theorem assignsFrom_bound {doms : Nat → List Nat} {fv : List Nat} {e e' : Env}
    (h : e' ∈ assignsFrom doms e fv) (i : Nat) (hi : i ∈ fv ∨ (e i).isSome) : (e' i).isSome := by
  induction fv generalizing e with
  | nil =>
    simp [assignsFrom] at h
    subst h
    simpa using hi
  | cons j r ih =>
    simp only [assignsFrom, List.mem_flatMap] at h
    obtain ⟨v, _, hv⟩ := h
    apply ih hv
    simp only [List.mem_cons] at hi
    rcases hi with (rfl | hi) | hi
    · right
      simp [Env.set]
    · left
      exact hi
    · right
      simp only [Env.set]
      split <;> simp_all

theorem pre_bound_iff {doms : Nat → List Nat} {pre : List Nat} {e : Env}
    (he : e ∈ assignsFrom doms Env.empty pre) (i : Nat) : i ∈ pre ↔ (e i).isSome := by
  constructor
  · intro hi
    exact assignsFrom_bound he i (Or.inl hi)
  · intro hi
    by_cases hp : i ∈ pre
    · exact hp
    · rw [assignsFrom_get_of_not_mem he hp] at hi
      simp [Env.empty] at hi

theorem assignsFrom_append (doms : Nat → List Nat) (e : Env) (l₁ l₂ : List Nat) :
    assignsFrom doms e (l₁ ++ l₂) = (assignsFrom doms e l₁).flatMap (fun e₁ => assignsFrom doms e₁ l₂) := by
  induction l₁ generalizing e with
  | nil => simp [assignsFrom]
  | cons i r ih => simp [assignsFrom, ih, List.flatMap_assoc]

theorem combosChained_eq (doms : Nat → List Nat) (args : List Arg) (e : Env) (seen : List Nat)
    (hs : ∀ i, i ∈ seen ↔ (e i).isSome) :
    combosChained doms args e =
      (assignsFrom doms e (freeVars args seen)).map (fun e' => (args.map (subst e'), e')) := by
  induction args generalizing e seen with
  | nil => simp [combosChained, freeVars, assignsFrom]
  | cons a r ih =>
    cases a with
    | lit v =>
      simp only [combosChained, freeVars, ih e seen hs, List.map_map, List.map_cons, subst]
      rfl
    | var i =>
      simp only [combosChained]
      split
      · rename_i v hv
        have hi : i ∈ seen := (hs i).mpr (by simp [hv])
        simp only [freeVars, hi, if_true, ih e seen hs, List.map_map]
        apply List.map_congr_left
        intro e' he'
        have : e' i = some v := by
          rw [assignsFrom_get_of_not_mem he' (by rw [mem_freeVars]; exact fun h => h.2 hi), hv]
        simp [subst, this]
      · rename_i hv
        have hi : i ∉ seen := fun h => by simpa [hv] using (hs i).mp h
        simp only [freeVars, hi, if_false, assignsFrom, List.map_flatMap]
        congr 1
        funext v
        have hs' : ∀ j, j ∈ i :: seen ↔ ((e.set i v) j).isSome := by
          intro j
          simp only [List.mem_cons, Env.set]
          split
          · simp_all
          · rename_i hji
            simp [hji, hs j]
        rw [ih (e.set i v) (i :: seen) hs', List.map_map]
        apply List.map_congr_left
        intro e' he'
        have : e' i = some v := by
          rw [assignsFrom_get_of_not_mem he' (by rw [mem_freeVars]; simp)]
          simp [Env.set]
        simp [subst, this]

/-! ### `sequence`, observations -/

theorem sequence_map_ok {ε γ δ : Type} (l : List γ) (f : γ → δ) :
    sequence (l.map (fun x => (Except.ok (f x) : Except ε δ))) = .ok (l.map f) := by
  induction l with
  | nil => rfl
  | cons a r ih => simp [sequence, ih]

theorem sequence_ok {ε γ : Type} {l : List (Except ε γ)} {as : List γ} (h : sequence l = .ok as) : l = as.map .ok := by
  fun_induction sequence l generalizing as with
  | case1 =>
    cases h
    rfl
  | case2 | case4 => cases h
  | case3 a r as' hr ih =>
    cases h
    rw [List.map_cons, ← ih hr]

theorem observe_append (body : List Nat → Nat) (neg : Bool) (rows : Env → List (List Nat))
    (l₁ l₂ : List (List Nat × Env)) :
    observe body neg rows (l₁ ++ l₂) = (observe body neg rows l₁).append (observe body neg rows l₂) := by
  simp [observe, Obs.append]

theorem concatObs_map_observe {γ : Type} (body : List Nat → Nat) (neg : Bool) (rows : Env → List (List Nat))
    (l : List γ) (g : γ → List (List Nat × Env)) :
    concatObs (l.map (fun x => observe body neg rows (g x))) = observe body neg rows (l.flatMap g) := by
  induction l with
  | nil => simp [concatObs, observe]
  | cons a r ih =>
    simp only [concatObs, List.map_cons, List.foldr_cons, List.flatMap_cons, observe_append] at *
    rw [ih]

theorem concatObs_silent {os : List Obs} (h : ∀ o ∈ os, o = ⟨[], []⟩) : concatObs os = ⟨[], []⟩ := by
  induction os with
  | nil => rfl
  | cons o os ih =>
    rw [concatObs, List.foldr_cons, ← concatObs, ih fun o ho => h o (List.mem_cons_of_mem _ ho), h o List.mem_cons_self]
    rfl

theorem observe_congr (body : List Nat → Nat) (neg : Bool) (rows rows' : Env → List (List Nat))
    (calls : List (List Nat × Env)) (h : ∀ c ∈ calls, rows c.2 = rows' c.2) :
    observe body neg rows calls = observe body neg rows' calls := by
  simp only [observe, Obs.mk.injEq, true_and, List.flatMap_def]
  rw [List.map_congr_left fun c hc => h c (List.mem_filter.mp hc).1]

theorem product_singletons (l : List Nat) : product (l.map (fun v => [v])) = [l] := by
  induction l with
  | nil => rfl
  | cons a r ih => simp [product, ih]

/-- a row per true result: where every selected variable is bound all the domains are singletons -/
theorem rowsOf_bound (doms : Nat → List Nat) (sel : List Nat) (e : Env) (h : ∀ i ∈ sel, (e i).isSome) :
    rowsOf doms sel e = [rowOf sel e] := by
  rw [← product_singletons, rowsOf, rowOf, List.map_map]
  congr 1
  apply List.map_congr_left
  intro i hi
  cases hv : e i with
  | none => simpa [hv] using h i hi
  | some v => simp [hv]

/-! ### independent versus chained evaluation (F-C12-2) -/

theorem Env.set_same (e : Env) (i v : Nat) (h : e i = some v) : e.set i v = e := by
  funext j
  simp only [Env.set]
  split
  · subst_vars
    exact h.symm
  · rfl

theorem sharesUnbound_set (e : Env) (i v : Nat) (r : List Arg) (h : r.any (Arg.mentions i) = false) :
    sharesUnbound (fun j => ((e.set i v) j).isSome) r = sharesUnbound (fun j => (e j).isSome) r := by
  induction r with
  | nil => rfl
  | cons a r ih =>
    simp only [List.any_cons, Bool.or_eq_false_iff] at h
    cases a with
    | lit w => simpa [sharesUnbound] using ih h.2
    | var j k =>
      have hji : j ≠ i := by simpa [Arg.mentions] using h.1
      have ih' := ih h.2
      simp only [Env.set] at ih'
      simp only [sharesUnbound, Env.set, hji, if_false, ih']

theorem candidates_set (doms : Nat → List Nat) (e : Env) (i v : Nat) (r : List Arg)
    (h : r.any (Arg.mentions i) = false) :
    r.map (candidates doms (e.set i v)) = r.map (candidates doms e) := by
  apply List.map_congr_left
  intro a ha
  cases a with
  | lit w => rfl
  | var j k =>
    have hji : j ≠ i := by
      have := (List.any_eq_false.mp h) _ ha
      simpa [Arg.mentions] using this
    simp [candidates, Env.set, hji]

/-- every child is evaluated from the incoming bindings `e`; the head's binding enters the resulting bindings first -/
theorem combosIndependent_cons (doms : Nat → List Nat) (e : Env) (a : Arg) (r : List Arg) :
    combosIndependent doms e (a :: r) = (candidates doms e a).flatMap (fun v =>
      ((product (r.map (candidates doms e))).map (fun vs => (vs, bindEnv e (a :: r) (v :: vs)))).map
        (fun p => (v :: p.1, p.2))) := by
  simp only [combosIndependent, List.map_cons, product, List.map_flatMap, List.map_map, Function.comp_def]

theorem combosIndependent_eq_chained (doms : Nat → List Nat) (args : List Arg) (e : Env)
    (h : sharesUnbound (fun j => (e j).isSome) args = false) :
    combosIndependent doms e args = combosChained doms args e := by
  induction args generalizing e with
  | nil => rfl
  | cons a r ih =>
    rw [combosIndependent_cons]
    cases a with
    | lit v =>
      rw [combosChained, ← ih e h]
      simp only [candidates, List.flatMap_singleton, bindEnv, combosIndependent]
    | var i =>
      cases hv : e i with
      | some v =>
        simp only [sharesUnbound, hv, Option.isSome_some, if_true] at h
        rw [combosChained, ← ih e h]
        simp only [candidates, hv, List.flatMap_singleton, bindEnv, Env.set_same e i v hv, combosIndependent]
      | none =>
        simp only [sharesUnbound, hv, Option.isSome_none, Bool.false_eq_true, if_false, Bool.or_eq_false_iff] at h
        rw [combosChained]
        simp only [candidates, hv, bindEnv]
        congr 1
        funext v
        rw [← ih (e.set i v) (by rw [sharesUnbound_set e i v r h.1]; exact h.2), combosIndependent,
          candidates_set doms e i v r h.1]

theorem combos_eq_chained (q : Quirks) (doms : Nat → List Nat) (e : Env) (args : List Arg)
    (h : q.childVarsIndependent = true → sharesUnbound (fun j => (e j).isSome) args = false) :
    combos q doms e args = combosChained doms args e := by
  unfold combos
  split
  · rename_i hq
    exact combosIndependent_eq_chained doms args e (h hq)
  · rfl

/-! ### one evaluation of an accepted call -/

/-- One evaluation from bindings `e` (which bind exactly `seen`, and from which
no unbound variable is written twice if children are evaluated independently) invokes the body once per candidate binding of the
other variables, on Python's binding of the written arguments -/
theorem evalSym_accepted (q : Quirks) (c : Call) {b : Dict Arg} (hb : bind c.params c.pos c.kw = .ok b)
    (w : World) (doms : Nat → List Nat) (e : Env) (seen : List Nat) (hs : ∀ i, i ∈ seen ↔ (e i).isSome)
    (hq : q.childVarsIndependent = true → sharesUnbound (fun j => (e j).isSome) c.written = false)
    (body : List Nat → Nat) (neg : Bool) (sel : List Nat) :
    evalSym q w c.params (c.paramNames.zip c.pos ++ c.kw) doms e body neg sel =
      .ok (observe body neg (rowsOf doms sel)
        ((assignsFrom doms e (freeVars c.written seen)).map
          (fun e' => (applyDefaults id c.params (b.mapVals (substW w e')), e')))) := by
  rw [evalSym, combos_eq_chained q _ _ _ (vals_merged c hb ▸ hq), combosChained_eq doms _ e seen hs, List.map_map]
  have hf : (invokeOne w c.params (Dict.keys (c.paramNames.zip c.pos ++ c.kw))
        (Dict.vals (c.paramNames.zip c.pos ++ c.kw)) ∘
      fun e' => ((Dict.vals (c.paramNames.zip c.pos ++ c.kw)).map (subst e'), e'))
      = fun e' => .ok (applyDefaults id c.params (b.mapVals (substW w e')), e') := by
    funext e'
    simp only [Function.comp, invokeOne, invokeKw, List.zipWith_map_right, List.zipWith_self, Dict.zip_keys_vals_map]
    rw [show (fun a => argValue w a (subst e' a)) = substW w e' from rfl, Call.paramNames, callSpec_merged id _ hb]
  rw [hf, sequence_map_ok, vals_merged c hb]

/-! ### calls Python rejects (F-C12-3) -/

theorem product_length {γ : Type} (ls : List (List γ)) : ∀ vs ∈ product ls, vs.length = ls.length := by
  induction ls with
  | nil => simp [product]
  | cons l r ih =>
    intro vs hvs
    simp only [product, List.mem_flatMap, List.mem_map] at hvs
    obtain ⟨x, _, t, ht, rfl⟩ := hvs
    simp [ih t ht]

theorem combosChained_length (doms : Nat → List Nat) (args : List Arg) (e : Env) :
    ∀ p ∈ combosChained doms args e, p.1.length = args.length := by
  induction args generalizing e with
  | nil => simp [combosChained]
  | cons a r ih =>
    intro p hp
    cases a with
    | lit v =>
      simp only [combosChained, List.mem_map] at hp
      obtain ⟨t, ht, rfl⟩ := hp
      simp [ih e t ht]
    | var i k =>
      simp only [combosChained] at hp
      split at hp
      · simp only [List.mem_map] at hp
        obtain ⟨t, ht, rfl⟩ := hp
        simp [ih e t ht]
      · simp only [List.mem_flatMap, List.mem_map] at hp
        obtain ⟨v, _, t, ht, rfl⟩ := hp
        simp [ih _ t ht]

theorem combos_length (q : Quirks) (doms : Nat → List Nat) (e : Env) (args : List Arg) :
    ∀ p ∈ combos q doms e args, p.1.length = args.length := by
  intro p hp
  simp only [combos] at hp
  split at hp
  · simp only [combosIndependent, List.mem_map] at hp
    obtain ⟨vs, hvs, rfl⟩ := hp
    simpa using product_length _ vs hvs
  · exact combosChained_length doms args e p hp

theorem bind_nil_isOk_keys (ps : List Param) (kw : Dict α) (kw' : Dict β) (h : kw.keys = kw'.keys) :
    Except.isOk' (bind ps [] kw) = Except.isOk' (bind ps [] kw') := by
  simp only [bind, List.length_nil, Nat.not_lt_zero, if_false, h]
  split
  · simp only [bindAux_nil_isOk, Dict.get?_isSome_iff, h]
  · rfl

theorem evalSym_rejected (q : Quirks) (w : World) (ps : List Param) (d : Dict Arg)
    (hd : Except.isOk' (bind ps [] d) = false) (doms : Nat → List Nat) (e : Env) (body : List Nat → Nat)
    (neg : Bool) (sel : List Nat) {o : Obs} (h : evalSym q w ps d doms e body neg sel = .ok o) : o = ⟨[], []⟩ := by
  -- every invocation passes a dictionary with the keys of `d`, and whether Python accepts a keyword call depends on the
  -- keys alone (`bind_nil_isOk_keys`): no invocation succeeds, so the log is empty or the `TypeError` leaves the evaluation
  have hall : ∀ c ∈ combos q doms e d.vals, ∀ t, invokeOne w ps d.keys d.vals c ≠ .ok t := by
    intro c hc t
    have hl := combos_length q doms e d.vals c hc
    have hkeys : Dict.keys (d.keys.zip (List.zipWith (argValue w) d.vals c.1)) = d.keys := by
      rw [Dict.keys_zip, List.length_zipWith, hl, Nat.min_self, Dict.length_vals, ← Dict.length_keys]
      exact List.take_length
    have := bind_nil_isOk_keys ps (d.keys.zip (List.zipWith (argValue w) d.vals c.1)) d hkeys
    rw [hd] at this
    simp only [invokeOne, invokeKw, callSpec]
    cases hb : bind ps [] (d.keys.zip (List.zipWith (argValue w) d.vals c.1)) with
    | ok b => simp [hb, Except.isOk'] at this
    | error err => nofun
  unfold evalSym at h
  split at h
  · next calls hs =>
    cases calls with
    | nil =>
      cases h
      rfl
    | cons t ts =>
      obtain ⟨c, hc, e⟩ := List.mem_map.1 (sequence_ok hs ▸ List.mem_map_of_mem (f := Except.ok) List.mem_cons_self)
      exact absurd e (hall c hc t)
  · cases h

end KrroodVerif.Pred
