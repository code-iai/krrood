import KrroodVerif.Model.EqlTrace
import KrroodVerif.Lemmas.EqlAdds
/-!
Lemmas for C10 (laziness) about the trace model `Model/EqlTrace.lean` — terms, comparisons, selections, event lists —
and the definitions the statements of C10 / C10Q / C10N / C10Sub use. Of `traceE` only the event invariant is here
(`traceE_inv`); its agreement with the list model is that of `traceN` restricted (`EqlTraceNLemmas.lean`).

The list model is built from `>>=` and the list stages `List.mapM`, `flatMapM`, `pure ∘ map`; each property is shown
to pass through these. Erasing pulls and reads from a trace leaves the continuation applied to the list model's cells
(`Hands`, `Sim`); a bound variable stays bound (`eval_adds` of `EqlAdds.lean`) and its domain is not consulted again;
evaluation is continuous in the domain enumerated first (`Continuous`). What holds of every single event of an
evaluation — pulls in range, no pull of a bound variable, no result among an expression's own events — comes from one
induction per evaluator (`EvInvOn`, `Keeps`).
Core Lean only.
-/
namespace KrroodVerif.Eql

/-! ### list facts -/

theorem flatMap_ite_filter {α β} (xs : List α) (p : α → Bool) (f : α → List β) :
    xs.flatMap (fun x => if p x then f x else []) = (xs.filter p).flatMap f := by
  induction xs with
  | nil => rfl
  | cons x xs ih =>
    cases hp : p x <;> simp [hp, ih]

theorem mem_enumFrom {α} (l : List α) (s : Nat) (p : Nat × α) (h : p ∈ enumFrom s l) :
    s ≤ p.1 ∧ p.1 < s + l.length ∧ p.2 ∈ l := by
  induction l generalizing s with
  | nil => cases h
  | cons x l ih =>
    rcases List.mem_cons.1 h with rfl | h
    · simp
    · have := ih (s + 1) h
      simp only [List.length_cons, List.mem_cons]
      exact ⟨by omega, by omega, Or.inr this.2.2⟩

/-! ### `Except` inversion -/

theorem bind_congr_ok {α β} (a : Except Err α) (f g : α → Except Err β) (h : ∀ x, a = .ok x → f x = g x) :
    (a >>= f) = (a >>= g) := by
  cases a with
  | error e => rfl
  | ok x => exact h x rfl

theorem flatMapM_nil {α β} (f : α → Except Err (List β)) : flatMapM [] f = .ok [] := rfl

theorem flatMapM_cons_eq_ok {α β} (x : α) (xs : List α) (f : α → Except Err (List β)) (ys : List β) :
    flatMapM (x :: xs) f = .ok ys ↔ ∃ a b, f x = .ok a ∧ flatMapM xs f = .ok b ∧ ys = a ++ b := by
  simp only [flatMapM, bind_eq_ok, pure_eq_ok]
  constructor
  · rintro ⟨a, ha, b, hb, rfl⟩
    exact ⟨a, b, ha, hb, rfl⟩
  · rintro ⟨a, b, ha, hb, rfl⟩
    exact ⟨a, ha, b, hb, rfl⟩

theorem flatMapM_eq_ok {α β} (xs : List α) (f : α → Except Err (List β)) (ys : List β)
    (h : flatMapM xs f = .ok ys) :
    ∃ g : α → List β, (∀ x ∈ xs, f x = .ok (g x)) ∧ ys = xs.flatMap g :=
  flatMapM_ok h

theorem mapM_eq_ok {α β} [Inhabited β] (xs : List α) (f : α → Except Err β) (ys : List β)
    (h : xs.mapM f = .ok ys) :
    ∃ g : α → β, (∀ x ∈ xs, f x = .ok (g x)) ∧ ys = xs.map g :=
  mapM_ok h

theorem flatMapM_ok_flatMap {α β γ} (xs : List α) (f : α → Except Err (List β)) (ys : List β)
    (F : α → List γ) (G : β → List γ)
    (h : flatMapM xs f = .ok ys)
    (hFG : ∀ x ∈ xs, ∀ zs, f x = .ok zs → F x = zs.flatMap G) :
    xs.flatMap F = ys.flatMap G := by
  obtain ⟨g, hg, rfl⟩ := flatMapM_eq_ok xs f ys h
  rw [List.flatMap_assoc]
  exact flatMap_congr' fun x hx => hFG x hx _ (hg x hx)

theorem mapM_ok_flatMap {α β γ} [Inhabited β] (xs : List α) (f : α → Except Err β) (ys : List β)
    (F : α → List γ) (G : β → List γ)
    (h : xs.mapM f = .ok ys)
    (hFG : ∀ x ∈ xs, ∀ y, f x = .ok y → F x = G y) :
    xs.flatMap F = ys.flatMap G := by
  obtain ⟨g, hg, rfl⟩ := mapM_eq_ok xs f ys h
  rw [List.flatMap_map]
  exact flatMap_congr' fun x hx => hFG x hx _ (hg x hx)

/-! ### observations: `rowsOf`, `vis`, `hasErr` -/

@[simp] theorem rowsOf_nil : rowsOf [] = [] := rfl
@[simp] theorem rowsOf_append (a b : List Ev) : rowsOf (a ++ b) = rowsOf a ++ rowsOf b := by
  simp [rowsOf, List.filterMap_append]
@[simp] theorem rowsOf_cons_pull (v i) (evs : List Ev) : rowsOf (Ev.pull v i :: evs) = rowsOf evs := rfl
@[simp] theorem rowsOf_cons_read (o n) (evs : List Ev) : rowsOf (Ev.read o n :: evs) = rowsOf evs := rfl
@[simp] theorem rowsOf_cons_err (e) (evs : List Ev) : rowsOf (Ev.err e :: evs) = rowsOf evs := rfl
@[simp] theorem rowsOf_cons_row (r) (evs : List Ev) : rowsOf (Ev.row r :: evs) = r :: rowsOf evs := rfl
theorem rowsOf_flatMap {α} (xs : List α) (f : α → List Ev) :
    rowsOf (xs.flatMap f) = xs.flatMap fun x => rowsOf (f x) := by
  simp [rowsOf, List.filterMap_flatMap]
@[simp] theorem rowsOf_map_row (rs : List (List Val)) : rowsOf (rs.map Ev.row) = rs := by
  induction rs with
  | nil => rfl
  | cons r rs ih => simp [ih]

/-- the events a consumer can see: results and escaping exceptions (pulls and attribute reads are erased) -/
def Ev.isVis : Ev → Bool | .row _ => true | .err _ => true | _ => false

def vis (evs : List Ev) : List Ev := evs.filter Ev.isVis

@[simp] theorem vis_nil : vis [] = [] := rfl
@[simp] theorem vis_append (a b : List Ev) : vis (a ++ b) = vis a ++ vis b := by simp [vis]
@[simp] theorem vis_cons_pull (v i) (evs : List Ev) : vis (Ev.pull v i :: evs) = vis evs := rfl
@[simp] theorem vis_cons_read (o n) (evs : List Ev) : vis (Ev.read o n :: evs) = vis evs := rfl
@[simp] theorem vis_cons_err (e) (evs : List Ev) : vis (Ev.err e :: evs) = Ev.err e :: vis evs := rfl
@[simp] theorem vis_cons_row (r) (evs : List Ev) : vis (Ev.row r :: evs) = Ev.row r :: vis evs := rfl
theorem vis_flatMap {α} (xs : List α) (f : α → List Ev) :
    vis (xs.flatMap f) = xs.flatMap fun x => vis (f x) := by
  simp [vis, List.filter_flatMap]
@[simp] theorem vis_map_row (rs : List (List Val)) : vis (rs.map Ev.row) = rs.map Ev.row := by
  induction rs with
  | nil => rfl
  | cons r rs ih => simp [ih]
@[simp] theorem vis_readEvent (x : Val) (n : AttrName) : vis (readEvent x n) = [] := by
  cases x <;> rfl

@[simp] theorem rowsOf_vis (evs : List Ev) : rowsOf (vis evs) = rowsOf evs := by
  induction evs with
  | nil => rfl
  | cons e evs ih => cases e <;> simp [ih]

theorem hasErr_eq_vis (evs : List Ev) : hasErr evs = hasErr (vis evs) := by
  rw [hasErr, hasErr, vis, List.any_filter]
  congr 1
  funext e
  cases e <;> rfl

theorem hasErr_map_row (rs : List (List Val)) : hasErr (rs.map Ev.row) = false := by
  rw [hasErr, List.any_map]
  exact List.any_eq_false.2 fun _ _ => Bool.false_ne_true

theorem rows_of_vis {evs : List Ev} {rows : List (List Val)} (h : vis evs = rows.map Ev.row) :
    rowsOf evs = rows ∧ hasErr evs = false := by
  constructor
  · rw [← rowsOf_vis, h, rowsOf_map_row]
  · rw [hasErr_eq_vis, h, hasErr_map_row]

/-! ### the consumer: `uptoRow` -/

theorem uptoRow_zero (evs : List Ev) : uptoRow 0 evs = [] := by
  cases evs <;> rfl

theorem uptoRow_nil (k : Nat) : uptoRow k [] = [] := by
  cases k <;> rfl

theorem uptoRow_succ_cons (k : Nat) (e : Ev) (rest : List Ev) :
    uptoRow (k + 1) (e :: rest) = e :: uptoRow (if e.isRow then k else k + 1) rest := by
  cases k <;> cases h : e.isRow <;> simp [uptoRow, h, uptoRow_zero]

theorem uptoRow_prefix (k : Nat) (evs : List Ev) : uptoRow k evs <+: evs := by
  induction evs generalizing k with
  | nil =>
    rw [uptoRow_nil]
    exact List.prefix_refl _
  | cons e evs ih =>
    cases k with
    | zero => exact List.nil_prefix
    | succ k =>
      rw [uptoRow_succ_cons]
      exact (List.prefix_cons_inj e).2 (ih _)

theorem rowsOf_uptoRow (k : Nat) (evs : List Ev) : rowsOf (uptoRow k evs) = (rowsOf evs).take k := by
  induction evs generalizing k with
  | nil => simp [uptoRow_nil]
  | cons e evs ih =>
    cases k with
    | zero => rfl
    | succ k =>
      rw [uptoRow_succ_cons]
      cases e <;> simp [Ev.isRow, ih]

theorem uptoRow_mono {k k' : Nat} (h : k ≤ k') (evs : List Ev) : uptoRow k evs <+: uptoRow k' evs := by
  induction evs generalizing k k' with
  | nil =>
    simp only [uptoRow_nil]
    exact List.prefix_refl _
  | cons e evs ih =>
    cases k with
    | zero => exact List.nil_prefix
    | succ k =>
      obtain ⟨k', rfl⟩ : ∃ j, k' = j + 1 := ⟨k' - 1, by omega⟩
      rw [uptoRow_succ_cons, uptoRow_succ_cons]
      exact (List.prefix_cons_inj e).2 (ih (by split <;> omega))

/-! ### `pulled` -/

def pullStep (v : VarId) (m : Nat) (e : Ev) : Nat :=
  match e with | .pull v' i => if v' == v then max m (i + 1) else m | _ => m

theorem pulled_eq_foldl (v : VarId) (evs : List Ev) : pulled v evs = evs.foldl (pullStep v) 0 := rfl

theorem pullStep_le_iff (v : VarId) (m n : Nat) (e : Ev) :
    pullStep v m e ≤ n ↔ m ≤ n ∧ ∀ i, Ev.pull v i = e → i < n := by
  cases e with
  | pull v' i =>
    by_cases hv : v' = v
    · subst hv
      simp [pullStep, Nat.max_le, Nat.succ_le_iff]
    · simp [pullStep, hv, Ne.symm hv]
  | _ => simp [pullStep]

theorem foldl_pullStep_le_iff (v : VarId) (n : Nat) (evs : List Ev) (m : Nat) :
    evs.foldl (pullStep v) m ≤ n ↔ m ≤ n ∧ ∀ i, Ev.pull v i ∈ evs → i < n := by
  induction evs generalizing m with
  | nil => simp
  | cons e evs ih => simp only [List.foldl_cons, ih, pullStep_le_iff, List.mem_cons, or_imp, forall_and, and_assoc]

theorem pulled_le_iff (v : VarId) (n : Nat) (evs : List Ev) :
    pulled v evs ≤ n ↔ ∀ i, Ev.pull v i ∈ evs → i < n :=
  (foldl_pullStep_le_iff v n evs 0).trans (and_iff_right (Nat.zero_le n))

theorem pulled_mono_sublist (v : VarId) {a b : List Ev} (h : a.Sublist b) : pulled v a ≤ pulled v b :=
  (pulled_le_iff v _ a).2 fun i hi => (pulled_le_iff v _ b).1 (Nat.le_refl _) i (h.subset hi)

theorem pulled_mono_prefix (v : VarId) {a b : List Ev} (h : a <+: b) : pulled v a ≤ pulled v b :=
  pulled_mono_sublist v h.sublist

/-! ### definitions used in the statements of C10 -/

def World.setDom (w : World) (x : VarId) (d : List Val) : World := { w with doms := (x, d) :: w.doms }

@[simp] theorem setDom_dom_self (w : World) (x : VarId) (d : List Val) : (w.setDom x d).dom x = d := by
  simp [World.setDom, World.dom]

theorem setDom_dom_ne (w : World) (x v : VarId) (d : List Val) (h : v ≠ x) : (w.setDom x d).dom v = w.dom v := by
  simp only [World.setDom, World.dom, lookup_cons_ne h]

@[simp] theorem getAttr_setDom (w : World) (x : VarId) (d : List Val) : getAttr (w.setDom x d) = getAttr w := rfl
@[simp] theorem applyCmp_setDom (w : World) (x : VarId) (d : List Val) : applyCmp (w.setDom x d) = applyCmp w := rfl
@[simp] theorem applyContains_setDom (w : World) (x : VarId) (d : List Val) :
    applyContains (w.setDom x d) = applyContains w := rfl
@[simp] theorem isInstance_setDom (w : World) (x : VarId) (d : List Val) :
    isInstance (w.setDom x d) = isInstance w := rfl

def Term.root : Term → Option VarId
  | .var v => some v
  | .lit _ _ => none
  | .attr t _ | .index t _ | .flatten t => t.root

/-- the variable whose domain the evaluation from the empty environment enumerates first -/
def firstVar : Expr → Option VarId
  | .cmp _ l _ | .contains l _ => l.root
  | .truth t | .hasType t _ => t.root
  | .and l _ | .elseIf l _ | .not l => firstVar l
  | .union .. | .exists_ .. | .forAll .. => none

def Expr.unionFree : Expr → Bool
  | .cmp .. | .contains .. | .truth _ | .hasType .. => true
  | .and l r | .elseIf l r => l.unionFree && r.unionFree
  | .union .. => false
  | .not e | .exists_ _ e | .forAll _ e => e.unionFree

/-- quantifier-free -/
def Expr.QF : Expr → Bool
  | .cmp .. | .contains .. | .truth _ | .hasType .. => true
  | .and l r | .elseIf l r | .union l r => l.QF && r.QF
  | .not e => e.QF
  | .exists_ .. | .forAll .. => false

/-! ### consumer-visible events: the trace against the list model -/

theorem vis_enumFrom_pull {α} (v : VarId) (l : List α) (s : Nat) (g : α → List Ev) :
    vis ((enumFrom s l).flatMap fun p => Ev.pull v p.1 :: g p.2) = l.flatMap fun x => vis (g x) := by
  induction l generalizing s with
  | nil => rfl
  | cons x l ih => simp [enumFrom, ih]

theorem traceVar_vis (w : World) (cp : Bool) (v : VarId) (env : Env) (k : Kont) :
    vis (traceVar w cp v env k) = (evalVarAt w cp v env).flatMap fun r => vis (k r.1 r.2.1 r.2.2) := by
  cases h : env.lookup (.var v) with
  | some x => simp [traceVar, evalVarAt, h]
  | none =>
    simp only [traceVar, evalVarAt, h, List.flatMap_map]
    exact vis_enumFrom_pull v (w.dom v) 0 (fun x => k ((.var v, x) :: env) x true)

theorem traceTerm_vis (w : World) (c : Bool) (t : Term) (env : Env) (k : Kont) (rs : List (Env × Val × Bool))
    (h : evalTerm w c t env = .ok rs) :
    vis (traceTerm w c t env k) = rs.flatMap fun r => vis (k r.1 r.2.1 r.2.2) := by
  induction t generalizing c env k rs with
  | var v =>
    simp only [evalTerm, Except.ok.injEq] at h
    subst h
    exact traceVar_vis w c v env k
  | lit id x =>
    simp only [evalTerm] at h
    simp only [traceTerm]
    split at h
    · simp only [Except.ok.injEq] at h
      subst h
      simp [*]
    · simp only [Except.ok.injEq] at h
      subst h
      simp [*]
  | attr t _ ih | index t _ ih =>
    simp only [evalTerm, bind_eq_ok] at h
    obtain ⟨r0, h0, h1⟩ := h
    simp only [traceTerm]
    rw [ih _ _ _ _ h0]
    refine mapM_ok_flatMap _ _ _ _ _ h1 ?_
    intro r _ y hy
    simp only [bind_eq_ok, pure_eq_ok] at hy
    obtain ⟨x, hx, rfl⟩ := hy
    simp [hx]
  | flatten t ih =>
    simp only [evalTerm, bind_eq_ok] at h
    obtain ⟨r0, h0, h1⟩ := h
    simp only [traceTerm]
    rw [ih _ _ _ _ h0]
    refine flatMapM_ok_flatMap _ _ _ _ _ h1 ?_
    intro r _ y hy
    simp only [bind_eq_ok, pure_eq_ok] at hy
    obtain ⟨x, hx, rfl⟩ := hy
    simp [hx, vis_flatMap, List.flatMap_map]

/-- Stated over operand tracers `T1`, `T2` that follow evaluators `E1`, `E2`: `traceCmp` has terms as operands,
`traceCmpX` of `Model/EqlTraceSub.lean` terms or sub-queries. The caller has decided the operand order. -/
theorem cmp_vis {T1 T2 : Env → Kont → List Ev} {E1 E2 : Env → Except Err (List (Env × Val × Bool))}
    (h1 : ∀ env k rs, E1 env = .ok rs → vis (T1 env k) = rs.flatMap fun r => vis (k r.1 r.2.1 r.2.2))
    (h2 : ∀ env k rs, E2 env = .ok rs → vis (T2 env k) = rs.flatMap fun r => vis (k r.1 r.2.1 r.2.2))
    (f : Val → Val → Except Err Bool) (env : Env) (k : Env → Bool → List Ev) (rs : List (Env × Bool))
    (h : (do
      let r1 ← E1 env
      flatMapM (r1.filter fun p : Env × Val × Bool => p.2.2) fun p1 => do
        let r2 ← E2 p1.1
        (r2.filter fun p : Env × Val × Bool => p.2.2).mapM fun (p2 : Env × Val × Bool) => do
          let b ← f p1.2.1 p2.2.1
          pure (p2.1, b)) = .ok rs) :
    vis (T1 env fun e1 v1 t1 =>
      if t1 then
        T2 e1 fun e2 v2 t2 =>
          if t2 then
            match f v1 v2 with
            | .ok b => k e2 b
            | .error e => [Ev.err e]
          else []
      else []) = rs.flatMap fun p => vis (k p.1 p.2) := by
  simp only [bind_eq_ok] at h
  obtain ⟨r1, hr1, h⟩ := h
  rw [h1 _ _ _ hr1]
  simp only [apply_ite vis, vis_nil]
  rw [flatMap_ite_filter]
  refine flatMapM_ok_flatMap _ _ _ _ _ h ?_
  intro p1 _ zs hz
  simp only [bind_eq_ok] at hz
  obtain ⟨r2, hr2, hz⟩ := hz
  rw [h2 _ _ _ hr2]
  simp only [apply_ite vis, vis_nil]
  rw [flatMap_ite_filter]
  refine mapM_ok_flatMap _ _ _ _ _ hz ?_
  intro p2 _ y hy
  simp only [bind_eq_ok, pure_eq_ok] at hy
  obtain ⟨b, hb, rfl⟩ := hy
  simp only [hb]

theorem traceCmp_vis (w : World) (l r : Term) (op : Val → Val → Except Err Bool) (env : Env)
    (k : Env → Bool → List Ev) (rs : List (Env × Bool))
    (h : evalCmp w l r op env = .ok rs) :
    vis (traceCmp w l r op env k) = rs.flatMap fun p => vis (k p.1 p.2) :=
  cmp_vis (fun env k rs => traceTerm_vis w false _ env k rs) (fun env k rs => traceTerm_vis w false _ env k rs)
    (fun v1 v2 => op (if (!env.isEmpty && envHasAny env r.nodes) then v2 else v1)
      (if (!env.isEmpty && envHasAny env r.nodes) then v1 else v2)) env k rs h

/-- `tr`, a trace awaiting its continuation, hands the continuation exactly the cells `rs` and shows the consumer
nothing else. The logical connectives are the same in every layer of the trace model (`traceE`, `traceN`, `traceX`) and
in the list models: what they preserve is stated once, in `Sim.and` … `Sim.map`. -/
def Hands (tr : (Env → Bool → List Ev) → List Ev) (rs : List (Env × Bool)) : Prop :=
  ∀ k, vis (tr k) = rs.flatMap fun p => vis (k p.1 p.2)

/-- the tracer `tr` follows the evaluator `ev`: wherever `ev` succeeds, `tr` hands its continuation `ev`'s cells -/
def Sim (tr : Env → (Env → Bool → List Ev) → List Ev) (ev : Env → Except Err (List (Env × Bool))) : Prop :=
  ∀ env rs, ev env = .ok rs → Hands (tr env) rs

section Sim
variable {L R : Env → (Env → Bool → List Ev) → List Ev} {evL evR : Env → Except Err (List (Env × Bool))}

theorem Sim.and (hL : Sim L evL) (hR : Sim R evR) :
    Sim (fun env k => L env fun e t => if t then R e k else k e false)
      (fun env => do let ls ← evL env; flatMapM ls fun p => if p.2 then evR p.1 else pure [(p.1, false)]) := by
  intro env rs h k
  obtain ⟨ls, h0, h1⟩ := bind_ok h
  rw [hL env ls h0]
  refine flatMapM_ok_flatMap _ _ _ _ _ h1 fun p _ zs hz => ?_
  split at hz
  · rename_i ht
    simp only [ht, if_true]
    exact hR p.1 zs hz k
  · rename_i ht
    cases pure_ok hz
    simp [ht]

theorem Sim.elseIf (hL : Sim L evL) (hR : Sim R evR) :
    Sim (fun env k => L env fun e t => if t then k e true else R e k)
      (fun env => do let ls ← evL env; flatMapM ls fun p => if p.2 then pure [(p.1, true)] else evR p.1) := by
  intro env rs h k
  obtain ⟨ls, h0, h1⟩ := bind_ok h
  rw [hL env ls h0]
  refine flatMapM_ok_flatMap _ _ _ _ _ h1 fun p _ zs hz => ?_
  split at hz
  · rename_i ht
    cases pure_ok hz
    simp [ht]
  · rename_i ht
    simp only [ht]
    exact hR p.1 zs hz k

theorem Sim.union (hL : Sim L evL) (hR : Sim R evR) :
    Sim (fun env k => (L env fun e t => if t then k e true else R e k) ++ R env k)
      (fun env => do
        let ls ← evL env
        let a ← flatMapM ls fun p => if p.2 then pure [(p.1, true)] else evR p.1
        let b ← evR env
        pure (a ++ b)) := by
  intro env rs h k
  simp only [bind_eq_ok, pure_eq_ok] at h
  obtain ⟨ls, h0, a, h1, b, h2, rfl⟩ := h
  rw [vis_append, Sim.elseIf hL hR env a ((bind_eq_ok ..).2 ⟨ls, h0, h1⟩) k, hR env b h2 k, List.flatMap_append]

theorem Sim.map (hL : Sim L evL) (f : Bool → Bool) :
    Sim (fun env k => L env fun e t => k e (f t))
      (fun env => do let rs ← evL env; pure (rs.map fun p => (p.1, f p.2))) := by
  intro env rs h k
  simp only [bind_eq_ok, pure_eq_ok] at h
  obtain ⟨r0, h0, rfl⟩ := h
  rw [hL env r0 h0, List.flatMap_map]

end Sim

theorem traceSel_vis (w : World) (env : Env) (sel : List Term) (acc per : List (List Val))
    (h : sel.mapM (fun s => do
      let rs ← evalTerm w false s env
      pure (rs.map (fun r : Env × Val × Bool => r.2.1))) = .ok per) :
    vis (traceSel w env sel acc) = (product (acc.reverse ++ per)).map Ev.row := by
  induction sel generalizing acc per with
  | nil =>
    cases h
    simp [traceSel]
  | cons s rest ih =>
    simp only [List.mapM_cons, bind_eq_ok, pure_eq_ok] at h
    obtain ⟨_, ⟨rs, hrs, rfl⟩, b, hb, rfl⟩ := h
    simp only [traceSel, vis_append, hrs]
    rw [traceTerm_vis _ _ _ _ _ _ hrs, ih _ _ hb]
    simp

theorem flatMap_traceSel_vis (w : World) (sel : List Term) (envs : List Env) (rows : List (List Val))
    (h : flatMapM envs (fun env => do
      let per ← sel.mapM fun s => do
        let rs ← evalTerm w false s env
        pure (rs.map (·.2.1))
      pure (product per)) = .ok rows) :
    vis (envs.flatMap fun env => traceSel w env sel []) = rows.map Ev.row := by
  rw [vis_flatMap, List.map_eq_flatMap]
  refine flatMapM_ok_flatMap _ _ _ _ _ h fun env _ zs hz => ?_
  simp only [bind_eq_ok, pure_eq_ok] at hz
  obtain ⟨per, hper, rfl⟩ := hz
  exact (traceSel_vis w env sel [] per hper).trans List.map_eq_flatMap

theorem flatMap_cells_traceSel_vis (w : World) (sel : List Term) (rs : List (Env × Bool)) (rows : List (List Val))
    (h : flatMapM ((rs.filter (·.2)).map (·.1)) (fun env => do
      let per ← sel.mapM fun s => do
        let rs ← evalTerm w false s env
        pure (rs.map (·.2.1))
      pure (product per)) = .ok rows) :
    (rs.flatMap fun p => vis (if p.2 then traceSel w p.1 sel [] else [])) = rows.map Ev.row := by
  rw [← flatMap_traceSel_vis w sel _ rows h, vis_flatMap, List.flatMap_map,
    ← flatMap_ite_filter rs (fun p => p.2) fun p => vis (traceSel w p.1 sel [])]
  simp only [apply_ite vis, vis_nil]

/-- `tr` is the condition's tracer: `traceE` for `traceQuery`, `traceN` for `traceQueryN` -/
theorem query_vis_of_hands (w : World) (q : Query) (rows : List (List Val)) (h : evalQuery w q = .ok rows)
    (tr : Expr → (Env → Bool → List Ev) → List Ev)
    (htr : ∀ c rs, q.cond = some c → eval w c [] = .ok rs → Hands (tr c) rs) :
    vis (match q.cond with
      | some c => tr c fun env t => if t then traceSel w env q.sel [] else []
      | none => traceSel w [] q.sel []) = rows.map Ev.row := by
  unfold evalQuery at h
  cases hc : q.cond with
  | none =>
    simp only [hc, pure_bind] at h
    simpa using flatMap_traceSel_vis w q.sel [[]] rows h
  | some c =>
    simp only [hc, bind_eq_ok, pure_eq_ok] at h
    obtain ⟨rs, hrs, _, rfl, h⟩ := h
    simp only
    rw [htr c rs hc hrs]
    exact flatMap_cells_traceSel_vis w q.sel rs rows h

/-! ### invariants of single events: `AllEv`, `EvInvOn`, `Keeps` -/

def AllEv (P : Ev → Prop) (evs : List Ev) : Prop := ∀ ev ∈ evs, P ev

/-- `AllEv fun e => e.isRow = false` -/
def NoRow (evs : List Ev) : Prop := ∀ e ∈ evs, e.isRow = false

theorem AllEv.nil (P : Ev → Prop) : AllEv P [] := fun _ h => by cases h
theorem allEv_cons {P : Ev → Prop} {e : Ev} {l : List Ev} : AllEv P (e :: l) ↔ P e ∧ AllEv P l :=
  List.forall_mem_cons
theorem allEv_append {P : Ev → Prop} {a b : List Ev} : AllEv P (a ++ b) ↔ AllEv P a ∧ AllEv P b :=
  List.forall_mem_append
theorem AllEv.append {P : Ev → Prop} {a b : List Ev} (ha : AllEv P a) (hb : AllEv P b) : AllEv P (a ++ b) :=
  allEv_append.2 ⟨ha, hb⟩
theorem AllEv.single {P : Ev → Prop} {e : Ev} (h : P e) : AllEv P [e] :=
  allEv_cons.2 ⟨h, AllEv.nil P⟩
theorem AllEv.flatMap {α} {P : Ev → Prop} (xs : List α) (f : α → List Ev) (h : ∀ x ∈ xs, AllEv P (f x)) :
    AllEv P (xs.flatMap f) :=
  List.forall_mem_flatMap.2 h

/-- What makes `P` hold of every event an evaluation performs by itself: only variables of the syntax evaluated (`V`)
are pulled, and only while unbound. `I` is what "a bound variable is never pulled" needs, `V` what "a variable that does
not occur is never pulled" needs; the other instances take `fun _ => True`. -/
structure EvInvOn (w : World) (V : VarId → Prop) (I : Env → Prop) (P : Ev → Prop) : Prop where
  read : ∀ o n, P (.read o n)
  err : ∀ e, P (.err e)
  pull : ∀ env v i, V v → I env → env.lookup (.var v) = none → i < (w.dom v).length → P (.pull v i)
  cons : ∀ env p, I env → I (p :: env)
  append : ∀ env env', I env → I (env ++ env')

abbrev EvInv (w : World) (I : Env → Prop) (P : Ev → Prop) : Prop := EvInvOn w (fun _ => True) I P

theorem EvInv.prepend {w : World} {I : Env → Prop} {P : Ev → Prop} (h : EvInv w I P) (env' : Env) {env : Env}
    (hI : I env) : I (env' ++ env) := by
  induction env' with
  | nil => exact hI
  | cons p env' ih => exact h.cons _ p ih

section EvInv
variable {w : World} {V : VarId → Prop} {I : Env → Prop} {P : Ev → Prop} (h : EvInvOn w V I P)
include h

theorem traceVar_inv (cp : Bool) (v : VarId) (env : Env) (k : Kont) (hv : V v) (hI : I env)
    (hk : ∀ e x b, I e → AllEv P (k e x b)) : AllEv P (traceVar w cp v env k) := by
  unfold traceVar
  split
  · exact hk _ _ _ hI
  · rename_i hl
    refine AllEv.flatMap _ _ fun p hp => allEv_cons.2 ⟨h.pull env v p.1 hv hI hl ?_, hk _ _ _ (h.cons _ _ hI)⟩
    have := mem_enumFrom _ _ _ hp
    omega

theorem traceTerm_inv (c : Bool) (t : Term) (env : Env) (k : Kont) (hV : ∀ v ∈ t.vars, V v) (hI : I env)
    (hk : ∀ e x b, I e → AllEv P (k e x b)) : AllEv P (traceTerm w c t env k) := by
  induction t generalizing c env k with
  | var v => exact traceVar_inv h c v env k (hV v (List.mem_singleton_self v)) hI hk
  | lit id x =>
    simp only [traceTerm]
    split
    · exact hk _ _ _ hI
    · exact hk _ _ _ (h.cons _ _ hI)
  | attr t n ih =>
    simp only [traceTerm]
    refine ih _ _ _ hV hI fun e x b he => allEv_append.2 ⟨?_, ?_⟩
    · cases x <;> first | exact AllEv.nil P | exact AllEv.single (h.read _ _)
    · split
      · exact hk _ _ _ he
      · exact AllEv.single (h.err _)
  | index t i ih =>
    simp only [traceTerm]
    refine ih _ _ _ hV hI fun e x b he => ?_
    split
    · exact hk _ _ _ he
    · exact AllEv.single (h.err _)
  | flatten t ih =>
    simp only [traceTerm]
    refine ih _ _ _ hV hI fun e x b he => ?_
    split
    · exact AllEv.flatMap _ _ fun _ _ => hk _ _ _ he
    · exact AllEv.single (h.err _)

theorem traceSel_inv (hrow : ∀ r, P (.row r)) (env : Env) (hI : I env) (sel : List Term) (acc : List (List Val))
    (hV : ∀ t ∈ sel, ∀ v ∈ t.vars, V v) : AllEv P (traceSel w env sel acc) := by
  induction sel generalizing acc with
  | nil => exact List.forall_mem_map.2 fun r _ => hrow r
  | cons s rest ih =>
    exact AllEv.append (traceTerm_inv h _ _ _ _ (hV s (List.mem_cons_self ..)) hI fun _ _ _ _ => AllEv.nil P)
      (ih _ fun t ht => hV t (List.mem_cons_of_mem _ ht))

end EvInv

/-- `tr`, a trace awaiting its continuation, performs only events satisfying `P`, provided the continuation does so
whenever it is handed bindings satisfying `I`. As for `Hands`, the connectives preserve this in every layer. -/
def Keeps (I : Env → Prop) (P : Ev → Prop) (tr : (Env → Bool → List Ev) → List Ev) : Prop :=
  ∀ k, (∀ e b, I e → AllEv P (k e b)) → AllEv P (tr k)

section Keeps
variable {I : Env → Prop} {P : Ev → Prop} {L : (Env → Bool → List Ev) → List Ev}
  {R : Env → (Env → Bool → List Ev) → List Ev}

theorem Keeps.and (hL : Keeps I P L) (hR : ∀ e, I e → Keeps I P (R e)) :
    Keeps I P fun k => L fun e t => if t then R e k else k e false := by
  intro k hk
  refine hL _ fun e t he => ?_
  split
  · exact hR e he k hk
  · exact hk _ _ he

theorem Keeps.elseIf (hL : Keeps I P L) (hR : ∀ e, I e → Keeps I P (R e)) :
    Keeps I P fun k => L fun e t => if t then k e true else R e k := by
  intro k hk
  refine hL _ fun e t he => ?_
  split
  · exact hk _ _ he
  · exact hR e he k hk

theorem Keeps.union {R0 : (Env → Bool → List Ev) → List Ev} (hL : Keeps I P L) (hR : ∀ e, I e → Keeps I P (R e))
    (hR0 : Keeps I P R0) : Keeps I P fun k => (L fun e t => if t then k e true else R e k) ++ R0 k :=
  fun k hk => allEv_append.2 ⟨Keeps.elseIf hL hR k hk, hR0 k hk⟩

theorem Keeps.map (hL : Keeps I P L) (f : Bool → Bool) : Keeps I P fun k => L fun e t => k e (f t) :=
  fun _ hk => hL _ fun e _ he => hk e _ he

end Keeps

section EvInv
variable {w : World} {I : Env → Prop} {P : Ev → Prop} (h : EvInv w I P)
include h

theorem traceCmp_inv (l r : Term) (op : Val → Val → Except Err Bool) (env : Env) (hI : I env) :
    Keeps I P (traceCmp w l r op env) := by
  intro k hk
  simp only [traceCmp]
  refine traceTerm_inv h _ _ _ _ (fun _ _ => trivial) hI fun e1 v1 t1 he1 => ?_
  split
  · refine traceTerm_inv h _ _ _ _ (fun _ _ => trivial) he1 fun e2 v2 t2 he2 => ?_
    split
    · split
      · exact hk _ _ he2
      · exact AllEv.single (h.err _)
    · exact AllEv.nil P
  · exact AllEv.nil P

theorem traceE_inv (e : Expr) (env : Env) (hI : I env) : Keeps I P (traceE w e env) := by
  induction e generalizing env with
  | cmp op l r => exact traceCmp_inv h l r _ env hI
  | contains c i => exact traceCmp_inv h c i _ env hI
  | truth t | hasType t c =>
    exact fun k hk => traceTerm_inv h _ _ _ _ (fun _ _ => trivial) hI fun _ _ _ he => hk _ _ he
  | and l r ihl ihr => exact Keeps.and (ihl env hI) fun e he => ihr e he
  | elseIf l r ihl ihr => exact Keeps.elseIf (ihl env hI) fun e he => ihr e he
  | union l r ihl ihr => exact Keeps.union (ihl env hI) (fun e he => ihr e he) (ihr env hI)
  | not e ih => exact Keeps.map (ih env hI) (!·)
  | exists_ v e => exact fun _ _ => AllEv.single (h.err _)
  | forAll v e => exact fun _ _ => AllEv.single (h.err _)

end EvInv

/-! ### pulls in range: `PullOk` -/

def PullOk (w : World) : Ev → Prop
  | .pull v i => i < (w.dom v).length
  | _ => True

/-- `AllEv (PullOk w)` -/
def AllPullOk (w : World) (evs : List Ev) : Prop := ∀ ev ∈ evs, PullOk w ev

theorem AllPullOk.append {w : World} {a b : List Ev} (ha : AllPullOk w a) (hb : AllPullOk w b) :
    AllPullOk w (a ++ b) := fun ev h => (List.mem_append.1 h).elim (ha ev) (hb ev)

theorem evInv_pullOk (w : World) : EvInv w (fun _ => True) (PullOk w) :=
  ⟨fun _ _ => trivial, fun _ => trivial, fun _ _ _ _ _ _ hi => hi, fun _ _ _ => trivial, fun _ _ _ => trivial⟩

theorem traceE_pullOk (w : World) (e : Expr) (env : Env) (k : Env → Bool → List Ev)
    (hk : ∀ e b, AllPullOk w (k e b)) : AllPullOk w (traceE w e env k) :=
  traceE_inv (evInv_pullOk w) e env trivial k fun e b _ => hk e b

theorem traceSel_pullOk (w : World) (env : Env) (sel : List Term) (acc : List (List Val)) :
    AllPullOk w (traceSel w env sel acc) :=
  traceSel_inv (evInv_pullOk w) (fun _ => trivial) env trivial sel acc fun _ _ _ _ => trivial

theorem traceQuery_pullOk (w : World) (q : Query) : AllPullOk w (traceQuery w q) := by
  unfold traceQuery
  split
  · refine traceE_pullOk _ _ _ _ fun e b => ?_
    split
    · exact traceSel_pullOk _ _ _ _
    · exact AllEv.nil _
  · exact traceSel_pullOk _ _ _ _

/-! ### bound variables: `Bnd`, preserved by evaluation -/

def Bnd (x : VarId) (env : Env) : Prop := (env.lookup (.var x)).isSome = true

theorem Bnd.cons {x : VarId} {env : Env} (p : Key × Val) (h : Bnd x env) : Bnd x (p :: env) :=
  isSome_lookup_append_right (l₁ := [p]) h

theorem Bnd.cons_self (x : VarId) (y : Val) (env : Env) : Bnd x ((.var x, y) :: env) := by
  simp [Bnd, List.lookup]

theorem Bnd.append_left {u : VarId} {a : Env} (b : Env) (h : Bnd u a) : Bnd u (a ++ b) :=
  isSome_lookup_append_left b h

theorem not_Bnd_nil (x : VarId) : ¬ Bnd x [] := by simp [Bnd]

theorem Term.root_mem_nodes {t : Term} {x : VarId} (h : t.root = some x) : Key.var x ∈ t.nodes := by
  induction t <;> simp_all [Term.root, Term.nodes]

theorem eval_bnd (w : World) (x : VarId) (e : Expr) (env : Env) (rs : List (Env × Bool))
    (h : eval w e env = .ok rs) (hb : Bnd x env) : ∀ p ∈ rs, Bnd x p.1 :=
  fun p hp => (eval_adds w e env rs h p hp).isSome hb

theorem firstVar_mem_bK {e : Expr} {x : VarId} (hx : firstVar e = some x) (pol : Bool) :
    Key.var x ∈ Expr.bK pol e := by
  induction e generalizing pol with
  | cmp _ l r | contains l r => exact List.mem_append_left _ (Term.root_mem_nodes hx)
  | truth t | hasType t c => exact Term.root_mem_nodes hx
  | and l r ihl _ | elseIf l r ihl _ => cases pol <;> simp [Expr.bK, ihl hx]
  | not e ih => exact ih hx _
  | union l r _ _ | exists_ v e | forAll v e => simp [firstVar] at hx

theorem eval_firstVar_bnd (w : World) (x : VarId) (e : Expr) (hx : firstVar e = some x) (env : Env)
    (rs : List (Env × Bool)) (h : eval w e env = .ok rs) : ∀ p ∈ rs, Bnd x p.1 :=
  -- `Expr.bK pol e` (`Model/EqlQuantFrag.lean`): keys bound in every result of `e` with flag `pol`; `x` is one for both flags
  fun p hp => bK_sound w e env rs h p hp p.2 rfl _ (firstVar_mem_bK hx p.2)

/-! ### independence of a bound variable's domain -/

theorem evalVar_indep (w : World) (cp : Bool) (x : VarId) (d1 d2 : List Val) (v : VarId) (env : Env) (hb : Bnd x env) :
    evalVarAt (w.setDom x d1) cp v env = evalVarAt (w.setDom x d2) cp v env := by
  unfold evalVarAt
  by_cases hv : v = x
  · subst hv
    unfold Bnd at hb
    cases hl : env.lookup (.var v) with
    | some y => rfl
    | none => simp [hl] at hb
  · rw [setDom_dom_ne _ _ _ _ hv, setDom_dom_ne _ _ _ _ hv]

theorem evalTerm_indep (w : World) (x : VarId) (d1 d2 : List Val) (c : Bool) (t : Term) (env : Env)
    (hb : Bnd x env) : evalTerm (w.setDom x d1) c t env = evalTerm (w.setDom x d2) c t env := by
  induction t generalizing c env with
  | var v => simp only [evalTerm, evalVar_indep w c x d1 d2 v env hb]
  | lit id y => rfl
  | attr t n ih => simp only [evalTerm, ih _ _ hb, getAttr_setDom]
  | index t i ih => simp only [evalTerm, ih _ _ hb]
  | flatten t ih => simp only [evalTerm, ih _ _ hb]

theorem evalCmp_indep (w : World) (x : VarId) (d1 d2 : List Val) (l r : Term)
    (op : Val → Val → Except Err Bool) (env : Env) (hb : Bnd x env) :
    evalCmp (w.setDom x d1) l r op env = evalCmp (w.setDom x d2) l r op env := by
  simp only [evalCmp]
  rw [evalTerm_indep w x d1 d2 _ _ env hb]
  refine bind_congr_ok _ _ _ fun r1 h1 => flatMapM_congr _ _ _ fun p1 hp1 => ?_
  have hb1 : Bnd x p1.1 := (evalTerm_grows _ _ _ _ _ h1 p1 (List.mem_filter.1 hp1).1).isSome hb
  rw [evalTerm_indep w x d1 d2 _ _ p1.1 hb1]

theorem eval_indep (w : World) (x : VarId) (d1 d2 : List Val) (e : Expr) (hq : e.QF = true) (env : Env)
    (hb : Bnd x env) : eval (w.setDom x d1) e env = eval (w.setDom x d2) e env := by
  induction e generalizing env with
  | cmp op l r =>
    simp only [eval, applyCmp_setDom]
    exact evalCmp_indep w x d1 d2 l r _ env hb
  | contains c i =>
    simp only [eval, applyContains_setDom]
    exact evalCmp_indep w x d1 d2 c i _ env hb
  | truth t => simp only [eval, evalTerm_indep w x d1 d2 _ t env hb]
  | hasType t c => simp only [eval, evalTerm_indep w x d1 d2 _ t env hb, isInstance_setDom]
  | and l r ihl ihr | elseIf l r ihl ihr =>
    simp only [Expr.QF, Bool.and_eq_true] at hq
    simp only [eval]
    rw [ihl hq.1 env hb]
    refine bind_congr_ok _ _ _ fun ls h0 => flatMapM_congr _ _ _ fun p hp => ?_
    rw [ihr hq.2 p.1 (eval_bnd _ x l env ls h0 hb p hp)]
  | union l r ihl ihr =>
    simp only [Expr.QF, Bool.and_eq_true] at hq
    simp only [eval]
    rw [ihl hq.1 env hb, ihr hq.2 env hb]
    refine bind_congr_ok _ _ _ fun ls h0 => ?_
    congr 1
    refine flatMapM_congr _ _ _ fun p hp => ?_
    rw [ihr hq.2 p.1 (eval_bnd _ x l env ls h0 hb p hp)]
  | not e ih =>
    simp only [Expr.QF] at hq
    simp only [eval, ih hq env hb]
  | exists_ v e => simp [Expr.QF] at hq
  | forAll v e => simp [Expr.QF] at hq

/-! ### continuity in the first enumerated domain -/

/-- `X`: a computation on a variable's domain, or on the results of an earlier stage -/
def Continuous {ι α} (X : List ι → Except Err (List α)) : Prop :=
  ∀ d s r, X (d ++ s) = .ok r ↔ ∃ a b, X d = .ok a ∧ X s = .ok b ∧ r = a ++ b

theorem Continuous.ok {ι α} (φ : List ι → List α) (hφ : ∀ a b, φ (a ++ b) = φ a ++ φ b) :
    Continuous fun l => (.ok (φ l) : Except Err (List α)) := by
  intro d s r
  simp only [Except.ok.injEq, hφ]
  constructor
  · rintro rfl
    exact ⟨_, _, rfl, rfl, rfl⟩
  · rintro ⟨_, _, rfl, rfl, rfl⟩
    rfl

theorem Continuous.flatMapM {α β} (f : α → Except Err (List β)) : Continuous fun l => flatMapM l f := by
  intro xs ys zs
  induction xs generalizing zs with
  | nil =>
    simp only [List.nil_append, flatMapM_nil, Except.ok.injEq]
    constructor
    · intro h
      exact ⟨[], zs, rfl, h, rfl⟩
    · rintro ⟨a, b, rfl, hb, rfl⟩
      exact hb
  | cons x xs ih =>
    simp only [List.cons_append, flatMapM_cons_eq_ok, ih]
    constructor
    · rintro ⟨a, _, ha, ⟨b, c, hb, hc, rfl⟩, rfl⟩
      exact ⟨a ++ b, c, ⟨a, b, ha, hb, rfl⟩, hc, by simp⟩
    · rintro ⟨_, c, ⟨a, b, ha, hb, rfl⟩, hc, rfl⟩
      exact ⟨a, b ++ c, ha, ⟨b, c, hb, hc, rfl⟩, by simp⟩

theorem Continuous.mapM {α β} (f : α → Except Err β) : Continuous fun l => l.mapM f := by
  intro xs ys zs
  simp only [List.mapM_append, bind_eq_ok, pure_eq_ok]
  constructor
  · rintro ⟨a, ha, b, hb, rfl⟩
    exact ⟨a, b, ha, hb, rfl⟩
  · rintro ⟨a, b, ha, hb, rfl⟩
    exact ⟨a, ha, b, hb, rfl⟩

/-- Continuous stages compose. The second stage `Φ D` may itself depend on the domain `D`, as long as it does not on
the results that the first stage actually hands it (there the variable is bound, and its domain not consulted). -/
theorem Continuous.bind {ι α β} {X : List ι → Except Err (List α)} (hX : Continuous X)
    {Φ : List ι → List α → Except Err (List β)} (hΦ : ∀ D, Continuous (Φ D))
    (hD : ∀ D D' a, X D = .ok a → Φ D a = Φ D' a) :
    Continuous fun D => X D >>= Φ D := by
  intro d s r
  simp only [bind_eq_ok]
  constructor
  · rintro ⟨r0, h0, h1⟩
    obtain ⟨a, b, ha, hb, rfl⟩ := (hX d s r0).1 h0
    obtain ⟨a', b', ha', hb', rfl⟩ := (hΦ _ a b r).1 h1
    exact ⟨a', b', ⟨a, ha, (hD d _ a ha).trans ha'⟩, ⟨b, hb, (hD s _ b hb).trans hb'⟩, rfl⟩
  · rintro ⟨a', b', ⟨a, ha, ha'⟩, ⟨b, hb, hb'⟩, rfl⟩
    exact ⟨a ++ b, (hX d s _).2 ⟨a, b, ha, hb, rfl⟩,
      (hΦ _ a b _).2 ⟨a', b', (hD d _ a ha).symm.trans ha', (hD s _ b hb).symm.trans hb', rfl⟩⟩

theorem evalTerm_continuous (w : World) (x : VarId) (c : Bool) (t : Term) (env : Env)
    (ht : t.root = some x) (hb : ¬ Bnd x env) :
    Continuous fun D => evalTerm (w.setDom x D) c t env := by
  induction t generalizing c with
  | var v =>
    have : v = x := by simpa [Term.root] using ht
    subst this
    have hl : env.lookup (.var v) = none := Option.not_isSome_iff_eq_none.1 hb
    simp only [evalTerm, evalVarAt, hl, setDom_dom_self]
    exact Continuous.ok _ fun _ _ => List.map_append
  | lit id y => simp [Term.root] at ht
  | attr t _ ih | index t _ ih =>
    simp only [evalTerm]
    exact (ih false ht).bind (fun _ => Continuous.mapM _) fun _ _ _ _ => rfl
  | flatten t ih =>
    simp only [evalTerm]
    exact (ih false ht).bind (fun _ => Continuous.flatMapM _) fun _ _ _ _ => rfl

theorem evalCmp_continuous (w : World) (x : VarId) (l r : Term) (op : Val → Val → Except Err Bool)
    (hl : l.root = some x) : Continuous fun D => evalCmp (w.setDom x D) l r op [] := by
  simp only [evalCmp, List.isEmpty_nil, Bool.not_true, Bool.false_and, Bool.false_eq_true, if_false]
  refine (evalTerm_continuous w x false l [] hl (not_Bnd_nil x)).bind
    (fun D a b => by rw [List.filter_append]; exact Continuous.flatMapM _ _ _) fun D D' a ha => ?_
  -- the second operand is evaluated from results of the first, which all bind `x`: its domain is not consulted
  refine flatMapM_congr _ _ _ fun p1 hp1 => ?_
  rw [evalTerm_indep w x D D' _ _ p1.1 (evalTerm_binds _ l _ _ _ ha p1 (List.mem_filter.1 hp1).1 _ (Term.root_mem_nodes hl))]

theorem eval_continuous (w : World) (x : VarId) (e : Expr) (hq : e.QF = true)
    (hx : firstVar e = some x) : Continuous fun D => eval (w.setDom x D) e [] := by
  induction e with
  | cmp op l r =>
    simp only [eval, applyCmp_setDom]
    exact evalCmp_continuous w x l r _ hx
  | contains c i =>
    simp only [eval, applyContains_setDom]
    exact evalCmp_continuous w x c i _ hx
  | truth t | hasType t c =>
    simp only [eval]
    exact (evalTerm_continuous w x _ t [] hx (not_Bnd_nil x)).bind
      (fun _ => Continuous.ok _ fun _ _ => List.map_append) fun _ _ _ _ => rfl
  | and l r ihl _ | elseIf l r ihl _ =>
    simp only [Expr.QF, Bool.and_eq_true] at hq
    simp only [eval]
    refine (ihl hq.1 hx).bind (fun _ => Continuous.flatMapM _) fun D D' a ha => ?_
    refine flatMapM_congr _ _ _ fun p hp => ?_
    rw [eval_indep w x D D' r hq.2 p.1 (eval_firstVar_bnd _ x l hx [] a ha p hp)]
  | union l r _ _ => simp [firstVar] at hx
  | not e ih =>
    simp only [Expr.QF] at hq
    simp only [eval]
    exact (ih hq hx).bind (fun _ => Continuous.ok _ fun _ _ => List.map_append) fun _ _ _ _ => rfl
  | exists_ v e => simp [Expr.QF] at hq
  | forAll v e => simp [Expr.QF] at hq

theorem evalQuery_continuous (w : World) (x : VarId) (q : Query) (c : Expr)
    (hc : q.cond = some c) (hq : c.QF = true) (hx : firstVar c = some x) :
    Continuous fun D => evalQuery (w.setDom x D) q := by
  simp only [evalQuery, hc, pure_bind]
  refine (eval_continuous w x c hq hx).bind
    (fun D a b => by simp only [List.filter_append, List.map_append]; exact Continuous.flatMapM _ _ _)
    fun D D' rs hrs => flatMapM_congr _ _ _ fun env henv => ?_
  simp only [List.mem_map, List.mem_filter] at henv
  obtain ⟨p, ⟨hp, _⟩, rfl⟩ := henv
  have hb := eval_firstVar_bnd _ x c hx [] rs hrs p hp
  rw [mapM_congr' q.sel _ _ fun t _ => by rw [evalTerm_indep w x D D' false t p.1 hb]]

/-! ### streams of results -/

/-- The walks over streams of results treat pulls, reads and exceptions alike: they share the case `other`. -/
theorem stream_induction {motive : List Ev → Prop} (nil : motive [])
    (row : ∀ r evs, motive evs → motive (.row r :: evs))
    (other : ∀ e evs, e.isRow = false → motive evs → motive (e :: evs)) (evs : List Ev) : motive evs := by
  induction evs with
  | nil => exact nil
  | cons e evs ih =>
    cases e with
    | row r => exact row r evs ih
    | pull v i | read o n | err x => exact other _ evs rfl ih

theorem rowsOf_cons_of_not_row {e : Ev} (he : e.isRow = false) (evs : List Ev) : rowsOf (e :: evs) = rowsOf evs := by
  cases e <;> first | rfl | cases he

theorem evInv_notRow (w : World) : EvInv w (fun _ => True) fun e => e.isRow = false :=
  ⟨fun _ _ => rfl, fun _ => rfl, fun _ _ _ _ _ _ _ => rfl, fun _ _ _ => trivial, fun _ _ _ => trivial⟩

theorem rowsOf_eq_nil_of_noRow (evs : List Ev) (h : NoRow evs) : rowsOf evs = [] := by
  induction evs using stream_induction with
  | nil => rfl
  | row r evs ih => exact absurd (allEv_cons.1 h).1 (by simp [Ev.isRow])
  | other e evs he ih =>
    rw [rowsOf_cons_of_not_row he]
    exact ih (allEv_cons.1 h).2

theorem uptoRow_noRow_append (n : Nat) (a l : List Ev) (ha : NoRow a) :
    uptoRow (n + 1) (a ++ l) = a ++ uptoRow (n + 1) l := by
  induction a with
  | nil => rfl
  | cons e a ih =>
    simp only [List.cons_append, uptoRow_succ_cons, ha e (List.mem_cons_self ..), Bool.false_eq_true, if_false,
      ih fun x hx => ha x (List.mem_cons_of_mem _ hx)]

theorem uptoRow_one_append (l m : List Ev) (h : rowsOf l ≠ []) : uptoRow 1 (l ++ m) = uptoRow 1 l := by
  induction l using stream_induction with
  | nil => simp at h
  | row r l ih => simp only [List.cons_append, uptoRow_succ_cons, Ev.isRow, if_true, uptoRow_zero]
  | other e l he ih =>
    rw [rowsOf_cons_of_not_row he] at h
    simp only [List.cons_append, uptoRow_succ_cons, he, Bool.false_eq_true, if_false, ih h]

/-! ### `NoPull` of a bound variable -/

def NoPull (u : VarId) (evs : List Ev) : Prop := ∀ i, Ev.pull u i ∉ evs

theorem noPull_iff_allEv (u : VarId) (evs : List Ev) : NoPull u evs ↔ AllEv (fun e => ∀ i, e ≠ .pull u i) evs := by
  constructor
  · intro h e he i hei
    subst hei
    exact h i he
  · intro h i hi
    exact h _ hi i rfl

theorem NoPull.append {u : VarId} {a b : List Ev} (ha : NoPull u a) (hb : NoPull u b) : NoPull u (a ++ b) :=
  fun i h => (List.mem_append.1 h).elim (ha i) (hb i)
theorem NoPull.flatMap {α} {u : VarId} (xs : List α) (f : α → List Ev) (h : ∀ x ∈ xs, NoPull u (f x)) :
    NoPull u (xs.flatMap f) := by
  intro i hi
  obtain ⟨x, hx, hx'⟩ := List.mem_flatMap.1 hi
  exact h x hx i hx'

theorem foldl_pullStep_noPull (u : VarId) (evs : List Ev) (m : Nat) (h : NoPull u evs) :
    evs.foldl (pullStep u) m = m :=
  Nat.le_antisymm ((foldl_pullStep_le_iff u m evs m).2 ⟨Nat.le_refl m, fun i hi => absurd hi (h i)⟩)
    ((foldl_pullStep_le_iff u _ evs m).1 (Nat.le_refl _)).1

theorem pulled_noPull (u : VarId) (evs : List Ev) (h : NoPull u evs) : pulled u evs = 0 :=
  foldl_pullStep_noPull u evs 0 h

theorem evInv_noPull (w : World) (u : VarId) : EvInv w (Bnd u) fun e => ∀ i, e ≠ .pull u i where
  read := fun _ _ _ h => by cases h
  err := fun _ _ h => by cases h
  pull := by
    rintro env v i _ hb hl _ j ⟨⟩
    simp [Bnd, hl] at hb
  cons := fun _ p hb => Bnd.cons p hb
  append := fun _ b hb => Bnd.append_left b hb

/-! ### `NoPull` of a variable that does not occur -/

theorem evInvOn_ne (w : World) (u : VarId) : EvInvOn w (· ≠ u) (fun _ => True) fun e => ∀ i, e ≠ .pull u i where
  read := fun _ _ _ h => by cases h
  err := fun _ _ h => by cases h
  pull := by
    rintro _ v _ hv _ _ _ _ ⟨⟩
    exact hv rfl
  cons := fun _ _ _ => trivial
  append := fun _ _ _ => trivial

theorem traceSel_noPull (w : World) (u : VarId) (env : Env) (sel : List Term) (acc : List (List Val))
    (h : ∀ t ∈ sel, u ∉ t.vars) : NoPull u (traceSel w env sel acc) :=
  (noPull_iff_allEv u _).2 (traceSel_inv (evInvOn_ne w u) (fun _ _ h => by cases h) env trivial sel acc
    fun t ht _ hv hvu => h t ht (hvu ▸ hv))

/-! ### reading `pulled` through a filter -/

def nonRow (evs : List Ev) : List Ev := evs.filter fun e => !e.isRow

@[simp] theorem nonRow_nil : nonRow [] = [] := rfl

theorem nonRow_eq_self_of_noRow (evs : List Ev) (h : AllEv (fun e => e.isRow = false) evs) : nonRow evs = evs := by
  simp only [nonRow, List.filter_eq_self]
  intro e he
  simp [h e he]

def isPullOf (v : VarId) : Ev → Bool
  | .pull v' _ => v' == v
  | _ => false

theorem isPullOf_false_of_noPull (v : VarId) (evs : List Ev) (h : NoPull v evs) :
    ∀ e ∈ evs, isPullOf v e = false := by
  intro e he
  cases e with
  | pull v' i =>
    by_cases hv : v' = v
    · subst hv
      exact absurd he (h i)
    · simpa [isPullOf] using hv
  | read o n => rfl
  | row r => rfl
  | err x => rfl

theorem pulled_filter (v : VarId) (keep : Ev → Bool) (hkeep : ∀ i, keep (.pull v i) = true) (evs : List Ev) :
    pulled v (evs.filter keep) = pulled v evs :=
  Nat.le_antisymm (pulled_mono_sublist v List.filter_sublist)
    ((pulled_le_iff v _ evs).2 fun i hi =>
      (pulled_le_iff v _ _).1 (Nat.le_refl _) i (List.mem_filter.2 ⟨hi, hkeep i⟩))

/-- `t` a query trace, `s` its condition's own stream: as far as `keep` sees, the consumer that stops after `k` results of
`t` has performed a prefix of `s` (`(uptoRow_prefix k t).filter keep`). -/
theorem streaming_of_filter_eq (v : VarId) (keep : Ev → Bool) (hkeep : ∀ i, keep (.pull v i) = true)
    {t s : List Ev} (h : t.filter keep = s.filter keep) (k : Nat) :
    pulled v (uptoRow k t) ≤ pulled v s ∧ pulled v t = pulled v s := by
  constructor
  · rw [← pulled_filter v keep hkeep (uptoRow k t), ← pulled_filter v keep hkeep s, ← h]
    exact pulled_mono_prefix v ((uptoRow_prefix k t).filter keep)
  · rw [← pulled_filter v keep hkeep t, h, pulled_filter v keep hkeep]

end KrroodVerif.Eql
