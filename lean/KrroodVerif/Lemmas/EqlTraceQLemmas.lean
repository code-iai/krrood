import KrroodVerif.Model.EqlTraceQ
import KrroodVerif.Lemmas.EqlTraceNLemmas
/-!
Lemmas for C10Q about `Model/EqlTraceQ.lean` (a quantifier at the root of a query): `existsWalk` against `existsFilter`
and what the walk leaves untouched; the first pass of `for_all`, the events of `forAllLoop`, and the list model's
`ForAll` from the empty bindings unfolded (`eval_forAll_nil_ok`); pulls of `traceExistsRoot` / `traceForAllRoot` in range.
Core Lean only.
-/
namespace KrroodVerif.Eql

/-! ### unfolding `existsWalk` -/

theorem existsWalk_nil (w : World) (sel : List Term) (u : VarId) (envs : List Env) (seen : List Val) :
    existsWalk w sel u [] envs seen = [] := by
  cases envs <;> rfl

theorem existsWalk_row_nil (w : World) (sel : List Term) (u : VarId) (r : List Val) (evs : List Ev)
    (seen : List Val) : existsWalk w sel u (Ev.row r :: evs) [] seen = [] := rfl

theorem existsWalk_row_cons (w : World) (sel : List Term) (u : VarId) (r : List Val) (evs : List Ev)
    (env : Env) (envs : List Env) (seen : List Val) :
    existsWalk w sel u (Ev.row r :: evs) (env :: envs) seen =
      (match env.lookup (.var u) with
      | some x =>
        if valIn w x seen then existsWalk w sel u evs envs seen
        else traceSel w env sel [] ++ existsWalk w sel u evs envs (seen ++ [x])
      | none => [Ev.err .keyError]) := rfl

theorem existsWalk_cons_of_not_row (w : World) (sel : List Term) (u : VarId) {e : Ev} (he : e.isRow = false)
    (evs : List Ev) (envs : List Env) (seen : List Val) :
    existsWalk w sel u (e :: evs) envs seen = e :: existsWalk w sel u evs envs seen := by
  cases e with
  | row r => cases he
  | _ => cases envs <;> rfl

/-! ### the walk against `existsFilter` -/

/-- Two steps from `existsWalk` to `existsFilter`: to the consumer the walk shows what it shows over the markers alone
(the `i`-th marker meets the `i`-th true cell); over the markers alone it is computed in `existsWalk_markers`. -/
theorem existsWalk_vis (w : World) (sel : List Term) (u : VarId) (evs : List Ev) (envs : List Env)
    (seen : List Val) (h : vis evs = envs.map fun _ => Ev.row []) :
    vis (existsWalk w sel u evs envs seen) = vis (existsWalk w sel u (envs.map fun _ => Ev.row []) envs seen) := by
  induction evs generalizing envs seen with
  | nil =>
    cases envs with
    | nil => rfl
    | cons env envs => simp at h
  | cons e evs ih =>
    cases e with
    | pull v i | read o n =>
      rw [existsWalk_cons_of_not_row w sel u rfl]
      exact ih _ _ (by simpa using h)
    | err e => cases envs <;> simp at h
    | row r =>
      cases envs with
      | nil => simp at h
      | cons env envs =>
        simp only [vis_cons_row, List.map_cons, List.cons.injEq] at h
        rw [List.map_cons, existsWalk_row_cons, existsWalk_row_cons]
        split
        · split
          · exact ih _ _ h.2
          · rw [vis_append, vis_append, ih _ _ h.2]
        · rfl

theorem existsWalk_markers (w : World) (sel : List Term) (u : VarId) (rs : List (Env × Bool))
    (seen : List Val) (rs' : List (Env × Bool)) (h : existsFilter w u rs seen = .ok rs') :
    existsWalk w sel u (((rs.filter (·.2)).map (·.1)).map fun _ => Ev.row []) ((rs.filter (·.2)).map (·.1)) seen =
      ((rs'.filter (·.2)).map (·.1)).flatMap fun env => traceSel w env sel [] := by
  induction rs generalizing seen rs' with
  | nil =>
    cases h
    rfl
  | cons p rest ih =>
    obtain ⟨env1, t⟩ := p
    obtain ⟨x, hl, h⟩ := existsFilter_cons_ok h
    cases t with
    | false =>
      simp only [Bool.false_and, Bool.false_eq_true, if_false] at h
      simpa using ih _ _ h
    | true =>
      simp only [List.filter_cons_of_pos, List.map_cons, existsWalk_row_cons, hl]
      cases hv : valIn w x seen with
      | true =>
        simp only [hv, Bool.not_true, Bool.and_false, Bool.false_eq_true, if_false] at h
        simp only [if_true]
        exact ih _ _ h
      | false =>
        simp only [hv, Bool.not_false, Bool.and_true, if_true] at h
        obtain ⟨r, hr, rfl⟩ := h
        simp only [Bool.false_eq_true, if_false, List.filter_cons_of_pos, List.map_cons, List.flatMap_cons]
        rw [ih _ _ hr]

theorem childTrue_ok (w : World) (c : Expr) (env : Env) (rs : List (Env × Bool)) (h : eval w c env = .ok rs) :
    childTrue w c env = (rs.filter (·.2)).map (·.1) := by
  simp [childTrue, h]

theorem childTrace_vis (w : World) (c : Expr) (hq : c.QF = true) (env : Env) (rs : List (Env × Bool))
    (h : eval w c env = .ok rs) :
    vis (childTrace w c env) = (childTrue w c env).map fun _ => Ev.row [] := by
  unfold childTrace
  -- the consumer shows one marker for a true cell and nothing for a false one: a `map` over the true cells
  rw [traceE_vis w c hq env rs h, childTrue_ok w c env rs h]
  simp only [apply_ite vis, vis_nil]
  rw [flatMap_ite_filter rs (fun p => p.2) (fun _ => vis [Ev.row []])]
  simp only [vis_cons_row, vis_nil, List.map_map]
  rw [← List.map_eq_flatMap]
  rfl

/-! ### what `existsWalk` leaves untouched -/

/-- `keep` is a class of events that holds neither results nor events of the selection: `isPullOf v` for a variable the
selection does not mention, `fun e => !e.isRow` for a selection of bound variables -/
theorem existsWalk_filter (keep : Ev → Bool) (hrow : ∀ r, keep (.row r) = false)
    (w : World) (sel : List Term) (u : VarId) (evs : List Ev) (envs : List Env)
    (seen : List Val) (hlen : (rowsOf evs).length ≤ envs.length) (hb : ∀ env ∈ envs, Bnd u env)
    (hsel : ∀ env ∈ envs, ∀ e ∈ traceSel w env sel [], keep e = false) :
    (existsWalk w sel u evs envs seen).filter keep = evs.filter keep := by
  induction evs using stream_induction generalizing envs seen with
  | nil => rw [existsWalk_nil]
  | other e evs he ih =>
    rw [rowsOf_cons_of_not_row he] at hlen
    rw [existsWalk_cons_of_not_row w sel u he, List.filter_cons, List.filter_cons, ih _ _ hlen hb hsel]
  | row r evs ih =>
    cases envs with
    | nil => simp at hlen
    | cons env envs =>
      have ih' := fun seen => ih envs seen (by simpa using hlen) (fun e he => hb e (List.mem_cons_of_mem _ he))
        fun e he => hsel e (List.mem_cons_of_mem _ he)
      obtain ⟨x, hl⟩ := Option.isSome_iff_exists.1 (hb env (List.mem_cons_self ..))
      have hs : (traceSel w env sel []).filter keep = [] :=
        List.filter_eq_nil_iff.2 fun e he => by simp [hsel env (List.mem_cons_self ..) e he]
      rw [existsWalk_row_cons, List.filter_cons, hrow r, hl]
      simp only [Bool.false_eq_true, if_false]
      split
      · exact ih' _
      · rw [List.filter_append, hs, List.nil_append]
        exact ih' _

theorem traceExistsRoot_filter (keep : Ev → Bool) (hrow : ∀ r, keep (.row r) = false)
    (w : World) (sel : List Term) (u : VarId) (c : Expr) (hq : c.QF = true)
    (res : List (Env × Bool)) (h : eval w (.exists_ u c) [] = .ok res)
    (hsel : ∀ env ∈ childTrue w c [], ∀ e ∈ traceSel w env sel [], keep e = false) :
    (traceExistsRoot w sel u c).filter keep = (childTrace w c []).filter keep := by
  obtain ⟨rs, hrs, hex⟩ := eval_exists_inv h
  refine existsWalk_filter keep hrow w sel u _ _ _ ?_ ?_ hsel
  · rw [← rowsOf_vis, childTrace_vis w c hq [] rs hrs]
    exact Nat.le_trans (List.length_filterMap_le _ _) (Nat.le_of_eq (List.length_map _))
  · intro env henv
    rw [childTrue_ok w c [] rs hrs] at henv
    simp only [List.mem_map, List.mem_filter] at henv
    obtain ⟨p, ⟨hp, _⟩, rfl⟩ := henv
    exact (existsFilter_ok_iff w u rs []).1 ⟨res, hex⟩ p hp

/-! ### `for_all`: the first pass (`first` of `traceForAllRoot`), `forAllLoop`, the list model's `ForAll` -/

theorem rowsOf_traceE_silent (w : World) (c : Expr) (env : Env) : rowsOf (traceE w c env fun _ _ => []) = [] :=
  rowsOf_eq_nil_of_noRow _ (traceE_inv (evInv_notRow w) c env trivial _ fun _ _ _ => AllEv.nil _)

theorem first_pass_noPull (w : World) (u : VarId) (c : Expr) (v1 : Val) :
    NoPull u (traceE w c [(Key.var u, v1)] fun _ _ => []) :=
  (noPull_iff_allEv u _).2
    (traceE_inv (evInv_noPull w u) c _ (Bnd.cons_self u v1 []) _ fun _ _ _ => AllEv.nil _)

theorem forAllLoop_nil_sols (w : World) (u : VarId) (c : Expr) (rest : List (Nat × Val)) :
    forAllLoop w u c rest [] = ([], []) := by
  cases rest with
  | nil => rfl
  | cons p rest =>
    obtain ⟨i, v⟩ := p
    rfl

theorem forAllLoop_fst_prefix (w : World) (u : VarId) (c : Expr) (rest : List (Nat × Val)) (sols : List Env) :
    (forAllLoop w u c rest sols).1 <+: rest.map fun p => Ev.pull u p.1 := by
  induction rest generalizing sols with
  | nil => exact List.prefix_refl _
  | cons p rest ih =>
    obtain ⟨i, v⟩ := p
    simp only [forAllLoop]
    split
    · exact List.nil_prefix
    · simp only [List.map_cons]
      exact (List.prefix_cons_inj _).2 (ih _)

theorem forAllLoop_fst_allEv {P : Ev → Prop} (w : World) (u : VarId) (c : Expr) (rest : List (Nat × Val))
    (sols : List Env) (h : ∀ p ∈ rest, P (.pull u p.1)) : AllEv P (forAllLoop w u c rest sols).1 := by
  intro ev hev
  have := (forAllLoop_fst_prefix w u c rest sols).subset hev
  simp only [List.mem_map] at this
  obtain ⟨p, hp, rfl⟩ := this
  exact h p hp

theorem forAllLoop_fst_vis (w : World) (u : VarId) (c : Expr) (rest : List (Nat × Val)) (sols : List Env) :
    vis (forAllLoop w u c rest sols).1 = [] :=
  List.filter_eq_nil_iff.2 fun e he => by
    rw [forAllLoop_fst_allEv (P := fun e => e.isVis = false) w u c rest sols (fun _ _ => rfl) e he]
    exact Bool.false_ne_true

theorem filter_snd_map_true {α} (l : List α) : ((l.map fun a => (a, true)).filter (·.2)).map (·.1) = l := by
  induction l with
  | nil => rfl
  | cons a l ih => simpa using ih

/-- the loop emits the consecutive indices `s, s + 1, …`, so folding `pullStep` from `s` counts them -/
theorem forAllLoop_fst_foldl (w : World) (u : VarId) (c : Expr) (vals : List Val) (s : Nat) (sols : List Env) :
    (forAllLoop w u c (enumFrom s vals) sols).1.foldl (pullStep u) s =
      s + (forAllLoop w u c (enumFrom s vals) sols).1.length := by
  induction vals generalizing s sols with
  | nil => rfl
  | cons v vs ih =>
    simp only [enumFrom, forAllLoop]
    split
    · rfl
    · simp only [List.foldl_cons, List.length_cons]
      have : pullStep u s (Ev.pull u s) = s + 1 := by simp [pullStep]
      rw [this, ih]
      omega

theorem enumFrom_length {α} (l : List α) (s : Nat) : (enumFrom s l).length = l.length := by
  induction l generalizing s with
  | nil => rfl
  | cons a l ih => simp [enumFrom, ih]

theorem eval_forAll_nil_ok (w : World) (u : VarId) (c : Expr) (res : List (Env × Bool))
    (h : eval w (.forAll u c) [] = .ok res) :
    ∃ v1 vs c0 final, w.dom u = v1 :: vs ∧ eval w c [(.var u, v1)] = .ok c0 ∧
      (vs.map fun x => (((Key.var u, x) :: [] : Env), x, true)).foldlM (forAllStep w c)
        ((c0.filter (·.2)).map fun p => restrict p.1 (c.nodes.filter (· != .var u))) = .ok final ∧
      res = final.map fun sol => (sol, true) := by
  obtain ⟨first, rest, c0, final, hev, hc0, hfinal, rfl⟩ := eval_forAll_inv h
  obtain ⟨v1, vs, hd, rfl, rfl⟩ := List.map_eq_cons_iff.mp hev
  exact ⟨v1, vs, c0, final, hd, hc0, hfinal, by simp [merge]⟩

/-! ### pulls of the root-quantifier traces in range -/

theorem existsWalk_pullOk (w : World) (sel : List Term) (u : VarId) (evs : List Ev) (envs : List Env)
    (seen : List Val) (h : AllPullOk w evs) : AllPullOk w (existsWalk w sel u evs envs seen) := by
  induction evs using stream_induction generalizing envs seen with
  | nil =>
    rw [existsWalk_nil]
    exact AllEv.nil _
  | other e evs he ih =>
    rw [existsWalk_cons_of_not_row w sel u he]
    exact allEv_cons.2 ⟨(allEv_cons.1 h).1, ih _ _ (allEv_cons.1 h).2⟩
  | row r evs ih =>
    have h' := (allEv_cons.1 h).2
    cases envs with
    | nil =>
      rw [existsWalk_row_nil]
      exact AllEv.nil _
    | cons env envs =>
      rw [existsWalk_row_cons]
      split
      · split
        · exact ih _ _ h'
        · exact AllPullOk.append (traceSel_pullOk _ _ _ _) (ih _ _ h')
      · exact AllEv.single trivial

theorem traceExistsRoot_pullOk (w : World) (sel : List Term) (u : VarId) (c : Expr) :
    AllPullOk w (traceExistsRoot w sel u c) := by
  unfold traceExistsRoot childTrace
  refine existsWalk_pullOk _ _ _ _ _ _ (traceE_pullOk _ _ _ _ fun e b => ?_)
  split
  · exact AllEv.single trivial
  · exact AllEv.nil _

theorem traceForAllRoot_pullOk (w : World) (sel : List Term) (u : VarId) (c : Expr) :
    AllPullOk w (traceForAllRoot w sel u c) := by
  unfold traceForAllRoot
  cases hd : w.dom u with
  | nil =>
    simp only [enumFrom]
    exact AllEv.single trivial
  | cons v1 vs =>
    have hlen : ∀ p ∈ enumFrom 0 (v1 :: vs), PullOk w (.pull u p.1) := fun p hp => by
      have := mem_enumFrom _ _ _ hp
      show p.1 < (w.dom u).length
      rw [hd]
      omega
    simp only [enumFrom] at hlen ⊢
    refine allEv_cons.2 ⟨hlen _ (List.mem_cons_self ..), AllPullOk.append (AllPullOk.append ?_ ?_) ?_⟩
    · exact traceE_pullOk _ _ _ _ fun _ _ => AllEv.nil _
    · exact forAllLoop_fst_allEv w u c _ _ fun p hp => hlen p (List.mem_cons_of_mem _ hp)
    · exact AllEv.flatMap _ _ fun _ _ => traceSel_pullOk _ _ _ _

end KrroodVerif.Eql
