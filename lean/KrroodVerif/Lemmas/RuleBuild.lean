import KrroodVerif.Lemmas.RuleLayoutShape
import KrroodVerif.Model.RuleTables
/-!
# The pointer store of the builder represents the layout tree

`build_today_tree` : for every program `p`, `(build Quirks.today p).bind BState.tree = some p.layout`, and
`p.layout.ids.Nodup` (`build_split_tree`: also with the base rule's `Add` statements between two branches).
Proof: a store/tree representation invariant (`Inv`), read at the place where the builder works (`InvAt`,
`inv_plug`); both surgeries are one operation on the store (`graft`, written with `relinkWith` of
`Model/RuleTables.lean`, specified by `GraftSpec`); induction over the program, in which a block acts on the path
from its condition leaf to the top of its scope (`Kids.path`).
-/
namespace KrroodVerif.Rdr
open BState

/-! ## reading the store -/

theorem node_modify {s : BState} {i : Nat} {f : Node → Node} (j : Nat) (h : i < s.nodes.length) :
    (s.modify i f).node j = if j = i then f (s.node i) else s.node j := by
  unfold BState.modify BState.node
  simp only [List.getD_eq_getElem?_getD, List.getElem?_set]
  by_cases hj : j = i
  · subst hj; simp [h]
  · have : ¬ i = j := fun e => hj e.symm
    simp [hj, this]

@[simp] theorem modify_length (s : BState) (i : Nat) (f : Node → Node) :
    (s.modify i f).nodes.length = s.nodes.length := by
  simp [BState.modify]

theorem node_alloc (s : BState) (nd : Node) (j : Nat) :
    (s.alloc nd).1.node j = if j = s.nodes.length then nd else s.node j := by
  unfold BState.alloc BState.node
  simp only [List.getD_eq_getElem?_getD]
  by_cases hj : j = s.nodes.length
  · subst hj; simp
  · simp only [hj, ↓reduceIte]
    by_cases hlt : j < s.nodes.length
    · rw [List.getElem?_append_left hlt]
    · rw [List.getElem?_eq_none (by simp; omega), List.getElem?_eq_none (by omega)]

@[simp] theorem alloc_length (s : BState) (nd : Node) : (s.alloc nd).1.nodes.length = s.nodes.length + 1 := by
  simp [BState.alloc]

@[simp] theorem alloc_snd (s : BState) (nd : Node) : (s.alloc nd).2 = s.nodes.length := rfl

/-! ## what no surgery touches: the stack and the cached conditions root (any quirk setting) -/

@[simp] theorem modify_stack (s : BState) (i : Nat) (f : Node → Node) : (s.modify i f).stack = s.stack := rfl
@[simp] theorem modify_cached (s : BState) (i : Nat) (f : Node → Node) :
    (s.modify i f).cachedRoot = s.cachedRoot := rfl
@[simp] theorem alloc_stack (s : BState) (n : Node) : (s.alloc n).1.stack = s.stack := rfl
@[simp] theorem alloc_cached (s : BState) (n : Node) : (s.alloc n).1.cachedRoot = s.cachedRoot := rfl
@[simp] theorem mkBinop_stack (s : BState) (k : NK) (l r : Nat) : (s.mkBinop k l r).1.stack = s.stack := rfl
@[simp] theorem mkBinop_cached (s : BState) (k : NK) (l r : Nat) :
    (s.mkBinop k l r).1.cachedRoot = s.cachedRoot := rfl
@[simp] theorem setParent_stack (s : BState) (i : Nat) (p : Option Nat) : (s.setParent i p).stack = s.stack := by
  cases p <;> rfl
@[simp] theorem setParent_cached (s : BState) (i : Nat) (p : Option Nat) :
    (s.setParent i p).cachedRoot = s.cachedRoot := by
  cases p <;> rfl

theorem doRefinement_frame (q : Quirks) (s s' : BState) (b : Nat) (h : s.doRefinement q b = some s') :
    s'.stack = s.stack ∧ s'.cachedRoot = s.cachedRoot := by
  cases hst : s.stack with
  | nil => simp [BState.doRefinement, hst] at h
  | cons cur st =>
    simp only [BState.doRefinement, hst, Option.some.injEq] at h
    subst h
    rw [← hst]
    cases ((s.alloc { kind := .leaf, blk := b }).1.node cur).parent <;>
      simp only [apply_ite BState.stack, apply_ite BState.cachedRoot, modify_stack, modify_cached, alloc_stack,
        alloc_cached, mkBinop_stack, mkBinop_cached, setParent_stack, setParent_cached, ite_self, and_self]

theorem doAltOrNext_frame (q : Quirks) (s s' : BState) (k : NK) (b : Nat)
    (h : s.doAltOrNext q k b = some s') : s'.stack = s.stack ∧ s'.cachedRoot = s.cachedRoot := by
  cases hst : s.stack with
  | nil => simp [BState.doAltOrNext, hst] at h
  | cons top st =>
    simp only [BState.doAltOrNext, hst, Option.some.injEq] at h
    subst h
    rw [← hst]
    split <;>
      simp only [apply_ite BState.stack, apply_ite BState.cachedRoot, modify_stack, modify_cached, alloc_stack,
        alloc_cached, mkBinop_stack, mkBinop_cached, setParent_stack, setParent_cached, ite_self, and_self]

/-! ## the surgery on the store -/

/-- the part of the two surgeries after the climb and the allocation of the new leaf `nb` -/
def graftAt (s1 : BState) (k : NK) (cur nb : Nat) : BState × Nat :=
  let pp := (s1.node cur).parent
  let s := s1.modify cur fun n => { n with parent := none }
  let r := s.mkBinop k cur nb
  (r.1.setParent r.2 pp, r.2)

theorem graftAt_snd (s1 : BState) (k : NK) (cur nb : Nat) : (graftAt s1 k cur nb).2 = s1.nodes.length := by
  simp [graftAt, BState.mkBinop]

theorem graftAt_length (s1 : BState) (k : NK) (cur nb : Nat) :
    (graftAt s1 k cur nb).1.nodes.length = s1.nodes.length + 1 := by
  simp only [graftAt, BState.mkBinop, BState.setParent]
  split <;> simp

theorem graftAt_node (s1 : BState) (k : NK) (cur nb p : Nat) (hc : cur < s1.nodes.length)
    (hn : nb < s1.nodes.length) (hp : p < s1.nodes.length) (hpp : (s1.node cur).parent = some p)
    (h1 : cur ≠ nb) (h2 : p ≠ cur) (h3 : p ≠ nb) (j : Nat) :
    (graftAt s1 k cur nb).1.node j =
      if j = s1.nodes.length then { kind := k, left := some cur, right := some nb, parent := some p }
      else if j = p then { s1.node p with child := some s1.nodes.length }
      else if j = cur then { s1.node cur with parent := some s1.nodes.length }
      else if j = nb then { s1.node nb with parent := some s1.nodes.length }
      else s1.node j := by
  have hc' : cur < s1.nodes.length + 1 := by omega
  have hn' : nb < s1.nodes.length + 1 := by omega
  have hp' : p < s1.nodes.length + 1 := by omega
  simp only [graftAt, BState.mkBinop, BState.setParent, hpp, alloc_snd, modify_length]
  simp only [node_modify, modify_length, alloc_length, hc, hc', hn', hp', Nat.lt_add_one, node_alloc]
  -- the modifications are at the pairwise distinct indices `cur`, `nb`, `p` and the new one: case split on `j`
  grind

theorem sideOf_child (n : Node) (c : Option Nat) (sd : Side) : sideOf { n with child := c } sd = sideOf n sd := by
  cases sd <;> rfl

theorem relinkTests_node (s : BState) (p cur e : Nat) (hp : p < s.nodes.length) :
    ∀ tests : List (Side × Side), (∀ t ∈ tests, t.1 = t.2) →
      (∀ j, j ≠ p → (relinkTests s p cur e tests).node j = s.node j) ∧
      (((relinkTests s p cur e tests).node p = s.node p ∧ ∀ t ∈ tests, sideOf (s.node p) t.1 ≠ some cur) ∨
        ∃ sd, sideOf (s.node p) sd = some cur ∧ (relinkTests s p cur e tests).node p = setSide sd e (s.node p))
  | [], _ => ⟨fun _ _ => rfl, Or.inl ⟨rfl, by simp⟩⟩
  | (tst, asg) :: rest, h => by
    obtain rfl : tst = asg := h (tst, asg) (by simp)
    unfold relinkTests
    split
    · rename_i hit
      exact ⟨fun j hj => by rw [node_modify j hp, if_neg hj], Or.inr ⟨tst, hit, by rw [node_modify p hp, if_pos rfl]⟩⟩
    · rename_i miss
      obtain ⟨h1, h2⟩ := relinkTests_node s p cur e hp rest (fun t ht => h t (by simp [ht]))
      refine ⟨h1, h2.imp (fun ⟨a, b⟩ => ⟨a, ?_⟩) id⟩
      intro t ht
      rcases List.mem_cons.mp ht with rfl | ht
      · exact miss
      · exact b t ht

theorem relinkTests_length (s : BState) (p cur e : Nat) : ∀ tests : List (Side × Side),
    (relinkTests s p cur e tests).nodes.length = s.nodes.length
  | [] => rfl
  | _ :: rest => by
    unfold relinkTests
    split
    · exact modify_length _ _ _
    · exact relinkTests_length s p cur e rest

theorem relinkWith_length (rl : Relink) (s : BState) (pp : Option Nat) (cur e : Nat) :
    (relinkWith rl s pp cur e).nodes.length = s.nodes.length := by
  unfold relinkWith
  split
  · split
    · exact relinkTests_length _ _ _ _ _
    · rfl
  · rfl

/-- what re-linking `prev_parent.left/right` does to the store, whatever the order of the tests: `refinement`
(`_replace_operand`, 6d59379) tests `left` first, `alternative_or_next` (5ccefb5) `right` first -/
structure Relinked (s s' : BState) (p cur e : Nat) : Prop where
  other : ∀ j, j ≠ p → s'.node j = s.node j
  plain : s.isBinop p = false → s'.node p = s.node p
  side : ∀ sd, s.isBinop p = true → sideOf (s.node p) sd = some cur →
    (∀ sd', sd' ≠ sd → sideOf (s.node p) sd' ≠ some cur) → s'.node p = setSide sd e (s.node p)

theorem relinkWith_spec (s : BState) (tests : List (Side × Side)) (p cur e : Nat) (hp : p < s.nodes.length)
    (ht : ∀ t ∈ tests, t.1 = t.2) (hl : (Side.left, Side.left) ∈ tests) (hr : (Side.right, Side.right) ∈ tests) :
    Relinked s (relinkWith ⟨true, tests⟩ s (some p) cur e) p cur e := by
  unfold relinkWith
  simp only [Bool.not_true, Bool.false_or]
  split
  · rename_i hb
    obtain ⟨h1, h2⟩ := relinkTests_node s p cur e hp tests ht
    refine ⟨h1, fun h => absurd hb (by simp [h]), fun sd _ hsd hoth => ?_⟩
    rcases h2 with ⟨_, hn⟩ | ⟨sd', hs, h2⟩
    · cases sd
      · exact absurd hsd (hn _ hl)
      · exact absurd hsd (hn _ hr)
    · by_cases hd : sd' = sd
      · exact hd ▸ h2
      · exact absurd hs (hoth sd' hd)
  · rename_i hb
    exact ⟨fun _ _ => rfl, fun _ => rfl, fun _ h => absurd h hb⟩

/-- what `rule.refinement` (`k = .exceptIf`, `cur` = the top of the stack) and `rule.alternative_or_next` (`cur` =
where the climb ends) do to the store at `Quirks.today`, `tests` being the order in which `prev_parent` is re-linked -/
def graft (s : BState) (tests : List (Side × Side)) (k : NK) (cur b : Nat) : BState :=
  let s1 := (s.alloc { kind := .leaf, blk := b }).1
  let w := graftAt s1 k cur s.nodes.length
  { relinkWith ⟨true, tests⟩ w.1 (s1.node cur).parent cur w.2 with last := some s.nodes.length }

theorem doRefinement_eq (s : BState) (cur : Nat) (st : List Nat) (b : Nat) (hs : s.stack = cur :: st) :
    s.doRefinement Quirks.today b = some (graft s [(.left, .left), (.right, .right)] .exceptIf cur b) := by
  simp only [BState.doRefinement, hs, Quirks.today]
  rfl

theorem doAltOrNext_eq (s : BState) (top : Nat) (st : List Nat) (k : NK) (b : Nat) (hs : s.stack = top :: st) :
    s.doAltOrNext Quirks.today k b =
      let s1 := (s.alloc { kind := .leaf, blk := b }).1
      some (graft s [(.right, .right), (.left, .left)] k (s1.climb s1.nodes.length top) b) := by
  simp only [BState.doAltOrNext, hs, Quirks.today, Bool.false_or, decide_eq_true_eq, Bool.false_eq_true,
    ↓reduceIte]
  rfl

/-- the store after `graft`, node by node; `p` = the parent `cur` had, `par_plain` / `par_side` as in `Relinked` -/
structure GraftSpec (s s' : BState) (k : NK) (cur p b : Nat) : Prop where
  len : s'.nodes.length = s.nodes.length + 2
  leaf : s'.node s.nodes.length = { kind := .leaf, blk := b, parent := some (s.nodes.length + 1) }
  bin : s'.node (s.nodes.length + 1) =
    { kind := k, left := some cur, right := some s.nodes.length, parent := some p }
  cur_node : s'.node cur = { s.node cur with parent := some (s.nodes.length + 1) }
  par_plain : s.isBinop p = false → s'.node p = { s.node p with child := some (s.nodes.length + 1) }
  par_side : ∀ sd, s.isBinop p = true → sideOf (s.node p) sd = some cur →
    (∀ sd', sd' ≠ sd → sideOf (s.node p) sd' ≠ some cur) →
    s'.node p = setSide sd (s.nodes.length + 1) { s.node p with child := some (s.nodes.length + 1) }
  other : ∀ j, j ≠ cur → j ≠ p → j ≠ s.nodes.length → j ≠ s.nodes.length + 1 → s'.node j = s.node j

theorem graft_spec (s : BState) (tests : List (Side × Side)) (k : NK) (cur p b : Nat) (ht : ∀ t ∈ tests, t.1 = t.2)
    (hL : (Side.left, Side.left) ∈ tests) (hR : (Side.right, Side.right) ∈ tests) (hc : cur < s.nodes.length)
    (hp : p < s.nodes.length) (hne : p ≠ cur) (hpp : (s.node cur).parent = some p) :
    GraftSpec s (graft s tests k cur b) k cur p b := by
  let s1 := (s.alloc { kind := .leaf, blk := b }).1
  let w := graftAt s1 k cur s.nodes.length
  have hL1 : s1.nodes.length = s.nodes.length + 1 := alloc_length _ _
  have hs1 : ∀ j, j ≠ s.nodes.length → s1.node j = s.node j := fun j hj => by
    rw [node_alloc, if_neg hj]
  have hs1L : s1.node s.nodes.length = { kind := .leaf, blk := b } := by
    rw [node_alloc, if_pos rfl]
  have hpp1 : (s1.node cur).parent = some p := by
    rw [hs1 cur (by omega)]
    exact hpp
  have hw : ∀ j, w.1.node j = _ :=
    graftAt_node s1 k cur s.nodes.length p (by omega) (by omega) (by omega) hpp1 (by omega) hne (by omega)
  have hw2 : w.2 = s.nodes.length + 1 := by
    rw [graftAt_snd, hL1]
  have hwl : w.1.nodes.length = s.nodes.length + 2 := by
    rw [graftAt_length, hL1]
  have hwp : w.1.node p = { s.node p with child := some (s.nodes.length + 1) } := by
    rw [hw, hL1, if_neg (by omega), if_pos rfl, hs1 p (by omega)]
  have hb : w.1.isBinop p = s.isBinop p := by
    simp only [BState.isBinop, hwp]
  have hr := relinkWith_spec w.1 tests p cur (s.nodes.length + 1) (by omega) ht hL hR
  have hn : ∀ j, (graft s tests k cur b).node j =
      (relinkWith ⟨true, tests⟩ w.1 (some p) cur (s.nodes.length + 1)).node j := by
    intro j
    rw [← hpp1, ← hw2]
    -- `graft` is this `relinkWith` with `last` set, and `node` reads `nodes` only
    rfl
  -- every field is a lookup in the tables `hr` (after the re-link), `hw` (after `graftAt`), `hs1` (after `alloc`)
  refine ⟨(relinkWith_length _ _ _ _ _).trans hwl, ?_, ?_, ?_, ?_, ?_, ?_⟩
  · rw [hn, hr.other _ (by omega), hw, hL1, if_neg (by omega), if_neg (by omega), if_neg (by omega), if_pos rfl,
      hs1L]
  · rw [hn, hr.other _ (by omega), hw, hL1, if_pos rfl]
  · rw [hn, hr.other _ hne.symm, hw, hL1, if_neg (by omega), if_neg hne.symm, if_pos rfl, hs1 cur (by omega)]
  · intro h
    rw [hn, hr.plain (hb.trans h), hwp]
  · intro sd h hsd hoth
    simp only [← sideOf_child (s.node p) (some (s.nodes.length + 1)), ← hwp] at hsd hoth
    rw [hn, hr.side sd (hb.trans h) hsd hoth, hwp]
  · intro j j1 j2 j3 j4
    rw [hn, hr.other j j2, hw, hL1, if_neg j4, if_neg j2, if_neg j1, if_neg j3, hs1 j j3]

/-! ## the store represents a tree -/

def SK.toNK : SK → NK
  | .exceptIf => .exceptIf
  | .alt => .alt
  | .next => .next

/-- the store holds the tree `t` (through `left`/`right`, what `_evaluate__` follows), the rx parent pointers agree
with it, and the rx parent of its root is `par` -/
def RepT (s : BState) (par : Nat) : Sel → Prop
  | .leaf i b cs =>
    (s.node i).kind = .leaf ∧ (s.node i).blk = b ∧ (s.node i).concl = cs ∧ (s.node i).parent = some par
  | .node k i l r =>
    (s.node i).kind = k.toNK ∧ (s.node i).left = some l.id ∧ (s.node i).right = some r.id ∧
      (s.node i).parent = some par ∧ RepT s i l ∧ RepT s i r

/-- the node above the hole of a path (`1` = the `Entity`) -/
def pid : List Frame → Nat
  | [] => 1
  | f :: _ => f.id

/-- the nodes of a path: its frames and their sibling subtrees -/
def pathIds : List Frame → List Nat
  | [] => []
  | f :: P => f.id :: (f.sib.ids ++ pathIds P)

/-- the store holds the path `P` above a hole whose root node is `h`, up to `Entity._child_` -/
def Seg (s : BState) : List Frame → Nat → Prop
  | [], h => (s.node 1).child = some h
  | f :: P, h =>
    (s.node f.id).kind = f.k.toNK ∧
    (if f.holeLeft then (s.node f.id).left = some h ∧ (s.node f.id).right = some f.sib.id
     else (s.node f.id).left = some f.sib.id ∧ (s.node f.id).right = some h) ∧
    (s.node f.id).parent = some (pid P) ∧ RepT s f.id f.sib ∧ Seg s P f.id

theorem rep_plug (s : BState) : ∀ (P : List Frame) (u : Sel),
    (RepT s 1 (plug P u) ∧ (s.node 1).child = some (plug P u).id) ↔ (RepT s (pid P) u ∧ Seg s P u.id)
  | [], u => by simp [plug, pid, Seg]
  | f :: P, u => by
    rw [plug, rep_plug s P (f.fill u), Frame.fill_id]
    cases hf : f.holeLeft
    · simp only [Frame.fill, hf, RepT, Seg, pid, Bool.false_eq_true, ↓reduceIte]
      constructor
      · rintro ⟨⟨h1, h2, h3, h4, h5, h6⟩, h7⟩; exact ⟨h6, h1, ⟨h2, h3⟩, h4, h5, h7⟩
      · rintro ⟨h6, h1, ⟨h2, h3⟩, h4, h5, h7⟩; exact ⟨⟨h1, h2, h3, h4, h5, h6⟩, h7⟩
    · simp only [Frame.fill, hf, RepT, Seg, pid, ↓reduceIte]
      constructor
      · rintro ⟨⟨h1, h2, h3, h4, h5, h6⟩, h7⟩; exact ⟨h5, h1, ⟨h2, h3⟩, h4, h6, h7⟩
      · rintro ⟨h5, h1, ⟨h2, h3⟩, h4, h6, h7⟩; exact ⟨⟨h1, h2, h3, h4, h5, h6⟩, h7⟩

theorem ids_fill (f : Frame) (u : Sel) : (f.fill u).ids.Perm (u.ids ++ (f.id :: f.sib.ids)) := by
  unfold Frame.fill
  split
  · simp only [Sel.ids]
    exact (List.perm_middle (l₁ := u.ids) (a := f.id) (l₂ := f.sib.ids)).symm
  · simp only [Sel.ids]
    refine List.Perm.trans (List.Perm.cons _ List.perm_append_comm) ?_
    exact (List.perm_middle (l₁ := u.ids) (a := f.id) (l₂ := f.sib.ids)).symm

theorem ids_plug : ∀ (P : List Frame) (u : Sel), (plug P u).ids.Perm (u.ids ++ pathIds P)
  | [], u => by simp [plug, pathIds]
  | f :: P, u => by
    rw [plug, pathIds]
    refine (ids_plug P (f.fill u)).trans ?_
    refine ((ids_fill f u).append_right _).trans ?_
    simp [List.append_assoc]

theorem RepT_congr (s s' : BState) : ∀ (t : Sel) (par : Nat), (∀ j ∈ t.ids, s'.node j = s.node j) →
    RepT s par t → RepT s' par t
  | .leaf i b cs, par, h, hr => by
    simp only [RepT] at hr ⊢
    rw [h i (by simp [Sel.ids])]; exact hr
  | .node k i l r, par, h, hr => by
    simp only [RepT] at hr ⊢
    rw [h i (by simp [Sel.ids])]
    obtain ⟨h1, h2, h3, h4, h5, h6⟩ := hr
    exact ⟨h1, h2, h3, h4, RepT_congr s s' l i (fun j hj => h j (by simp [Sel.ids, hj])) h5,
      RepT_congr s s' r i (fun j hj => h j (by simp [Sel.ids, hj])) h6⟩

theorem Seg_congr (s s' : BState) : ∀ (P : List Frame) (h : Nat), s'.node 1 = s.node 1 →
    (∀ j ∈ pathIds P, s'.node j = s.node j) → Seg s P h → Seg s' P h
  | [], h, h1, _, hs => by
    simp only [Seg] at hs ⊢
    rw [h1]
    exact hs
  | f :: P, h, h1, hp, hs => by
    simp only [Seg] at hs ⊢
    rw [hp f.id (by simp [pathIds])]
    obtain ⟨a, b, c, d, e⟩ := hs
    exact ⟨a, b, c, RepT_congr s s' f.sib f.id (fun j hj => hp j (by simp [pathIds, hj])) d,
      Seg_congr s s' P f.id h1 (fun j hj => hp j (by simp [pathIds, hj])) e⟩

theorem RepT_reparent (s s' : BState) (t : Sel) (par par' : Nat) (hn : t.ids.Nodup)
    (hroot : s'.node t.id = { s.node t.id with parent := some par' })
    (hrest : ∀ j ∈ t.ids, j ≠ t.id → s'.node j = s.node j) (hr : RepT s par t) : RepT s' par' t := by
  cases t with
  | leaf i b cs =>
    simp only [RepT, Sel.id] at hr hroot ⊢
    rw [hroot]; exact ⟨hr.1, hr.2.1, hr.2.2.1, rfl⟩
  | node k i l r =>
    simp only [RepT, Sel.id] at hr hroot ⊢
    simp only [Sel.ids, List.nodup_cons, List.mem_append, not_or] at hn
    rw [hroot]
    obtain ⟨h1, h2, h3, h4, h5, h6⟩ := hr
    refine ⟨h1, h2, h3, rfl, ?_, ?_⟩
    · exact RepT_congr s s' l i (fun j hj => hrest j (by simp [Sel.ids, hj])
        (by rintro rfl; exact hn.1.1 hj)) h5
    · exact RepT_congr s s' r i (fun j hj => hrest j (by simp [Sel.ids, hj])
        (by rintro rfl; exact hn.1.2 hj)) h6

theorem id_mem_ids (t : Sel) : t.id ∈ t.ids := by cases t <;> simp [Sel.id, Sel.ids]

/-- `ids` are the nodes of the store from 2 on (0 is the `An`, 1 the `Entity`), each once -/
structure Owns (s : BState) (ids : List Nat) : Prop where
  nodup : ids.Nodup
  bound : ∀ j ∈ ids, 2 ≤ j ∧ j < s.nodes.length
  len : ids.length + 2 = s.nodes.length

theorem Owns.perm {s : BState} {l l' : List Nat} (h : Owns s l) (hp : l'.Perm l) : Owns s l' :=
  ⟨hp.nodup_iff.mpr h.nodup, fun j hj => h.bound j (hp.mem_iff.mp hj), by rw [hp.length_eq]; exact h.len⟩

theorem Owns.of_length {s s' : BState} {l : List Nat} (h : Owns s l) (hl : s'.nodes.length = s.nodes.length) :
    Owns s' l :=
  ⟨h.nodup, fun j hj => hl ▸ h.bound j hj, hl ▸ h.len⟩

theorem Owns.alloc2 {s s' : BState} {l l' : List Nat} (h : Owns s l) (hl : s'.nodes.length = s.nodes.length + 2)
    (hp : l'.Perm ((s.nodes.length + 1) :: s.nodes.length :: l)) : Owns s' l' := by
  have hL := h.len
  refine Owns.perm ⟨?_, ?_, ?_⟩ hp
  · simp only [List.nodup_cons, List.mem_cons, not_or]
    refine ⟨⟨by omega, fun hm => ?_⟩, fun hm => ?_, h.nodup⟩
    · have := h.bound _ hm; omega
    · have := h.bound _ hm; omega
  · intro j hj
    simp only [List.mem_cons] at hj
    rcases hj with rfl | rfl | hj
    · omega
    · omega
    · have := h.bound j hj; omega
  · simp only [List.length_cons, hl, ← h.len]

/-- the invariant of the builder: the store represents the selector tree `T` below the `Entity`
(`nodup`, `bound`, `len` together: `Owns s T.ids`) -/
structure Inv (s : BState) (T : Sel) : Prop where
  rep : RepT s 1 T
  top : (s.node 1).child = some T.id
  k1 : (s.node 1).kind = .entity
  p1 : (s.node 1).parent = some 0
  p0 : (s.node 0).parent = none
  nodup : T.ids.Nodup
  bound : ∀ j ∈ T.ids, 2 ≤ j ∧ j < s.nodes.length
  len : T.ids.length + 2 = s.nodes.length

theorem Inv.owns {s : BState} {T : Sel} (hi : Inv s T) : Owns s T.ids :=
  ⟨hi.nodup, hi.bound, hi.len⟩

theorem Inv.of_owns {s : BState} {T : Sel} (rep : RepT s 1 T) (top : (s.node 1).child = some T.id)
    (k1 : (s.node 1).kind = .entity) (p1 : (s.node 1).parent = some 0) (p0 : (s.node 0).parent = none)
    (o : Owns s T.ids) : Inv s T :=
  ⟨rep, top, k1, p1, p0, o.nodup, o.bound, o.len⟩

theorem Inv.of_nodes {s : BState} {T : Sel} (hi : Inv s T) (s' : BState) (h : s'.nodes = s.nodes) : Inv s' T := by
  have hn : ∀ j, s'.node j = s.node j := fun j => by
    simp [BState.node, h]
  refine Inv.of_owns (RepT_congr s s' T 1 (fun j _ => hn j) hi.rep) ?_ ?_ ?_ ?_ (hi.owns.of_length (by rw [h]))
  · rw [hn]
    exact hi.top
  · rw [hn]
    exact hi.k1
  · rw [hn]
    exact hi.p1
  · rw [hn]
    exact hi.p0

/-! ## the invariant seen from a hole -/

theorem length_le_pathIds : ∀ P : List Frame, P.length ≤ (pathIds P).length
  | [] => by simp
  | f :: P => by
    have := length_le_pathIds P
    simp only [pathIds, List.length_cons, List.length_append]; omega

/-- what `Inv s (plug P u)` says of the subtree `u` and of the path `P` above it -/
structure InvAt (s : BState) (P : List Frame) (u : Sel) : Prop where
  rep : RepT s (pid P) u
  seg : Seg s P u.id
  k1 : (s.node 1).kind = .entity
  p1 : (s.node 1).parent = some 0
  p0 : (s.node 0).parent = none
  owns : Owns s (u.ids ++ pathIds P)

theorem inv_plug {s : BState} {P : List Frame} {u : Sel} : Inv s (plug P u) ↔ InvAt s P u := by
  constructor
  · intro hi
    obtain ⟨hu, hseg⟩ := (rep_plug s P u).mp ⟨hi.rep, hi.top⟩
    exact ⟨hu, hseg, hi.k1, hi.p1, hi.p0, hi.owns.perm (ids_plug P u).symm⟩
  · intro hi
    obtain ⟨hr, ht⟩ := (rep_plug s P u).mpr ⟨hi.rep, hi.seg⟩
    exact Inv.of_owns hr ht hi.k1 hi.p1 hi.p0 (hi.owns.perm (ids_plug P u))

theorem pid_cases : ∀ P : List Frame, pid P = 1 ∨ pid P ∈ pathIds P
  | [] => Or.inl rfl
  | f :: P => Or.inr (by simp [pid, pathIds])

namespace InvAt
variable {s : BState} {P : List Frame} {u : Sel} (hi : InvAt s P u)
include hi

theorem id_bound : 2 ≤ u.id ∧ u.id < s.nodes.length :=
  hi.owns.bound _ (List.mem_append_left _ (id_mem_ids u))

theorem pid_bound : 1 ≤ pid P ∧ pid P < s.nodes.length := by
  have := hi.id_bound
  rcases pid_cases P with h | h
  · omega
  · have := hi.owns.bound _ (List.mem_append_right _ h); omega

theorem pid_notin : pid P ∉ u.ids := by
  intro hm
  rcases pid_cases P with h | h
  · have := hi.owns.bound _ (List.mem_append_left _ hm); omega
  · exact (List.nodup_append.mp hi.owns.nodup).2.2 _ hm _ h rfl

theorem pid_ne : pid P ≠ u.id := fun h => hi.pid_notin (h ▸ id_mem_ids u)

theorem parent : (s.node u.id).parent = some (pid P) := by
  have h := hi.rep
  cases u with
  | leaf i b cs => exact h.2.2.2
  | node k i l r => exact h.2.2.2.1

theorem length_lt : P.length + 3 ≤ s.nodes.length := by
  have h1 := hi.owns.len
  have h2 := List.length_pos_of_mem (id_mem_ids u)
  have h3 := length_le_pathIds P
  simp only [List.length_append] at h1
  omega

end InvAt

theorem InvAt.graft {s s' : BState} {P : List Frame} {u : Sel} (hi : InvAt s P u) (k : SK) (b : Nat)
    (hw : GraftSpec s s' k.toNK u.id (pid P) b) :
    InvAt s' P (.node k (s.nodes.length + 1) u (.leaf s.nodes.length b [])) := by
  obtain ⟨hnd, hbd, hlen⟩ := hi.owns
  obtain ⟨hndu, hndp, hdisj⟩ := List.nodup_append.mp hnd
  have hcur := id_mem_ids u
  have hcb := hi.id_bound
  have hpb := hi.pid_bound
  have hold : ∀ j ∈ u.ids ++ pathIds P, j ≠ s.nodes.length ∧ j ≠ s.nodes.length + 1 := fun j hj => by
    have := hbd j hj
    omega
  -- the nodes of `u` below its root, and those of the path other than the one above the hole, are untouched
  have hun_u : ∀ j ∈ u.ids, j ≠ u.id → s'.node j = s.node j := fun j hj hne =>
    hw.other j hne (by rintro rfl; exact hi.pid_notin hj) (hold j (by simp [hj])).1 (hold j (by simp [hj])).2
  have hun_p : ∀ j ∈ pathIds P, j ≠ pid P → s'.node j = s.node j := fun j hj hne =>
    hw.other j (by rintro rfl; exact hdisj _ hcur _ hj rfl) hne (hold j (by simp [hj])).1 (hold j (by simp [hj])).2
  have hun0 : s'.node 0 = s.node 0 := hw.other 0 (by omega) (by omega) (by omega) (by omega)
  have hun1 : pid P ≠ 1 → s'.node 1 = s.node 1 := fun h =>
    hw.other 1 (by omega) (fun e => h e.symm) (by omega) (by omega)
  -- the path: the node above the hole points to the new selector, the rest is untouched
  have hpath : Seg s' P (s.nodes.length + 1) ∧ (s'.node 1).kind = .entity ∧ (s'.node 1).parent = some 0 := by
    cases P with
    | nil =>
      have h1 := hw.par_plain (by simp [BState.isBinop, pid, hi.k1])
      simp only [pid] at h1
      simp only [Seg]
      rw [h1]
      exact ⟨rfl, hi.k1, hi.p1⟩
    | cons f P' =>
      have hseg := hi.seg
      simp only [Seg, pid] at hseg hw hun1 hun_p ⊢
      obtain ⟨hk, hside, hpar, hsib, hrest⟩ := hseg
      have hb : s.isBinop f.id = true := by
        unfold BState.isBinop
        rw [hk]
        cases f.k <;> rfl
      have hsibne : some f.sib.id ≠ some u.id := fun e =>
        hdisj _ hcur f.sib.id (by simp [pathIds, id_mem_ids]) (Option.some.inj e).symm
      simp only [pathIds, List.nodup_cons, List.mem_append, not_or, List.nodup_append] at hndp
      have h1 := hun1 (by have := hbd f.id (by simp [pathIds]); omega)
      refine ⟨?_, h1 ▸ hi.k1, h1 ▸ hi.p1⟩
      have hsib' : RepT s' f.id f.sib := RepT_congr s s' f.sib f.id (fun j hj => hun_p j (by simp [pathIds, hj])
        (by rintro rfl; exact hndp.1.1 hj)) hsib
      have hrest' : Seg s' P' f.id := Seg_congr s s' P' f.id h1
        (fun j hj => hun_p j (by simp [pathIds, hj]) (by rintro rfl; exact hndp.1.2 hj)) hrest
      -- exactly the side of the hole pointed to `u`: the sibling is another node
      cases hf : f.holeLeft
      · simp only [hf, Bool.false_eq_true, ↓reduceIte] at hside ⊢
        rw [hw.par_side .right hb hside.2 (fun sd' hne => by
          cases sd'
          · exact fun e => hsibne (hside.1.symm.trans e)
          · exact absurd rfl hne)]
        exact ⟨hk, ⟨hside.1, rfl⟩, hpar, hsib', hrest'⟩
      · simp only [hf, ↓reduceIte] at hside ⊢
        rw [hw.par_side .left hb hside.1 (fun sd' hne => by
          cases sd'
          · exact absurd rfl hne
          · exact fun e => hsibne (hside.2.symm.trans e))]
        exact ⟨hk, ⟨rfl, hside.2⟩, hpar, hsib', hrest'⟩
  refine ⟨?_, hpath.1, hpath.2.1, hpath.2.2, hun0 ▸ hi.p0, ?_⟩
  · simp only [RepT, hw.bin, hw.leaf, Sel.id, true_and, and_true]
    exact RepT_reparent s s' u (pid P) _ hndu hw.cur_node hun_u hi.rep
  · refine hi.owns.alloc2 hw.len ?_
    simp only [Sel.ids, List.cons_append, List.append_assoc, List.nil_append]
    exact List.Perm.cons _ List.perm_middle

/-- `refinement` on the invariant: the current condition leaf is wrapped in place -/
theorem ref_step (s : BState) (P : List Frame) (i b : Nat) (cs st : List Nat) (b' : Nat)
    (hi : Inv s (plug P (.leaf i b cs))) (hs : s.stack = i :: st) :
    ∃ s', s.doRefinement Quirks.today b' = some s' ∧
      Inv s' (plug P (.node .exceptIf (s.nodes.length + 1) (.leaf i b cs) (.leaf s.nodes.length b' []))) ∧
      s'.nodes.length = s.nodes.length + 2 ∧ s'.stack = s.stack ∧ s'.cachedRoot = s.cachedRoot ∧
      s'.last = some s.nodes.length := by
  have ha := inv_plug.mp hi
  have hw := graft_spec s [(.left, .left), (.right, .right)] .exceptIf i (pid P) b' (by simp) (by simp) (by simp)
    ha.id_bound.2 ha.pid_bound.2 ha.pid_ne ha.parent
  have he := doRefinement_eq s i st b' hs
  obtain ⟨h1, h2⟩ := doRefinement_frame _ s _ b' he
  exact ⟨_, he, inv_plug.mpr (ha.graft .exceptIf b' hw), hw.len, h1, h2, rfl⟩

/-! ## the climb of `alternative_or_next` -/

/-- a frame the climb passes: `Alternative` / `Next` from either side, `ExceptIf` from the left -/
def Frame.climbable (f : Frame) : Bool := f.k != .exceptIf || f.holeLeft

/-- where the climb stops: below the `Entity`, or at the right operand of an `ExceptIf` -/
def stopAt : List Frame → Prop
  | [] => True
  | f :: _ => f.k = .exceptIf ∧ f.holeLeft = false

/-- the node at the top of the path `D` over a hole whose root is `h` -/
def topId : List Frame → Nat → Nat
  | [], h => h
  | f :: D, _ => topId D f.id

theorem plug_id : ∀ (D : List Frame) (u : Sel), (plug D u).id = topId D u.id
  | [], u => rfl
  | f :: D, u => by rw [plug, plug_id D, Frame.fill_id]; rfl

/-- `fuel` only has to exceed the length of `D`; `hnd` keeps the node above apart from the sibling when the climb
tests `parent.left is current` -/
theorem climb_path (s : BState) (C : List Frame) (hk1 : (s.node 1).kind = .entity) (hC : stopAt C) :
    ∀ (D : List Frame) (h fuel : Nat), D.length < fuel → (s.node h).parent = some (pid (D ++ C)) →
      Seg s (D ++ C) h → (∀ f ∈ D, f.climbable = true) → (h :: pathIds (D ++ C)).Nodup →
      s.climb fuel h = topId D h
  | [], h, fuel + 1, _, hp, hseg, _, hnd => by
    simp only [BState.climb, topId]
    have : s.climbStep h = h := by
      unfold BState.climbStep
      simp only [List.nil_append] at hp hseg hnd
      rw [hp]
      cases C with
      | nil => simp [pid, hk1]
      | cons f C' =>
        simp only [Seg, pid, stopAt] at hseg hC ⊢
        obtain ⟨hk, hside, _⟩ := hseg
        rw [hC.2] at hside
        simp only [Bool.false_eq_true, ↓reduceIte] at hside
        have hne : f.sib.id ≠ h := by
          intro e
          simp only [pathIds, List.nodup_cons, List.mem_cons, List.mem_append, not_or] at hnd
          exact hnd.1.2.1 (e ▸ id_mem_ids f.sib)
        simp only [hk, hC.1, SK.toNK, hside.1]
        simp [hne]
    simp [this]
  | f :: D, h, fuel + 1, hfuel, hp, hseg, hcl, hnd => by
    simp only [List.cons_append, Seg, pid] at hp hseg
    obtain ⟨hk, hside, hpar, _, hrest⟩ := hseg
    have hfc := hcl f (by simp)
    have hne : f.id ≠ h := by
      intro e
      simp only [List.cons_append, pathIds, List.nodup_cons, List.mem_cons, not_or] at hnd
      exact hnd.1.1 e.symm
    have hstep : s.climbStep h = f.id := by
      unfold BState.climbStep
      rw [hp]
      simp only [hk]
      cases hfk : f.k
      · simp only [Frame.climbable, hfk, bne_self_eq_false, Bool.false_or] at hfc
        rw [hfc] at hside
        simp only [↓reduceIte] at hside
        simp [SK.toNK, hside.1]
      · simp [SK.toNK]
      · simp [SK.toNK]
    simp only [BState.climb, hstep, hne, ↓reduceIte, topId]
    refine climb_path s C hk1 hC D f.id fuel (by simp at hfuel; omega) hpar hrest
      (fun g hg => hcl g (by simp [hg])) ?_
    simp only [List.cons_append, pathIds, List.nodup_cons, List.mem_cons, List.mem_append, not_or,
      List.nodup_append] at hnd ⊢
    exact ⟨hnd.2.1.2, hnd.2.2.2.1⟩

/-- `alternative` / `next_rule` on the invariant: the whole scope is wrapped -/
theorem alt_step (s : BState) (D C : List Frame) (i b : Nat) (cs st : List Nat) (k : SK) (b' : Nat)
    (hi : Inv s (plug (D ++ C) (.leaf i b cs))) (hs : s.stack = i :: st)
    (hD : ∀ f ∈ D, f.climbable = true) (hC : stopAt C) :
    ∃ s', s.doAltOrNext Quirks.today k.toNK b' = some s' ∧
      Inv s' (plug C (.node k (s.nodes.length + 1) (plug D (.leaf i b cs)) (.leaf s.nodes.length b' []))) ∧
      s'.nodes.length = s.nodes.length + 2 ∧ s'.stack = s.stack ∧ s'.cachedRoot = s.cachedRoot ∧
      s'.last = some s.nodes.length := by
  have ha := inv_plug.mp hi
  have hc : InvAt s C (plug D (.leaf i b cs)) := inv_plug.mp (plug_append D C _ ▸ hi)
  have hL := ha.length_lt
  -- the climb happens in the state `s1` after the allocation of the new leaf
  obtain ⟨s1, hs1e⟩ : ∃ s1, s1 = (s.alloc { kind := .leaf, blk := b' }).1 := ⟨_, rfl⟩
  have hs1 : ∀ j, j < s.nodes.length → s1.node j = s.node j := by
    intro j hj
    rw [hs1e, node_alloc, if_neg (by omega)]
  have hclimb : s1.climb s1.nodes.length i = (plug D (.leaf i b cs)).id := by
    rw [plug_id]
    refine climb_path s1 C ((congrArg Node.kind (hs1 1 (by omega))).trans ha.k1) hC D i _ ?_
      ((congrArg Node.parent (hs1 i ha.id_bound.2)).trans ha.parent) ?_ hD ha.owns.nodup
    · rw [hs1e, alloc_length]
      simp only [List.length_append] at hL
      omega
    · exact Seg_congr s _ (D ++ C) i (hs1 1 (by omega))
        (fun j hj => hs1 j (ha.owns.bound j (List.mem_append_right _ hj)).2) ha.seg
  have hw := graft_spec s [(.right, .right), (.left, .left)] k.toNK _ (pid C) b' (by simp) (by simp) (by simp)
    hc.id_bound.2 hc.pid_bound.2 hc.pid_ne hc.parent
  have he : s.doAltOrNext Quirks.today k.toNK b' =
      some (graft s [(.right, .right), (.left, .left)] k.toNK (plug D (.leaf i b cs)).id b') := by
    rw [doAltOrNext_eq s i st k.toNK b' hs, ← hs1e]
    simp only [hclimb]
  obtain ⟨h1, h2⟩ := doAltOrNext_frame _ s _ _ b' he
  exact ⟨_, he, inv_plug.mpr (hc.graft k b' hw), hw.len, h1, h2, rfl⟩

/-! ## `Add` and `with` -/

/-- the `Add` statements of a block are attached to its condition leaf -/
theorem add_step (s : BState) (P : List Frame) (i b : Nat) (cs st : List Nat) (b' : Nat)
    (hi : Inv s (plug P (.leaf i b cs))) (hs : s.stack = i :: st) :
    ∃ s', s.step Quirks.today (.add b') = some s' ∧ Inv s' (plug P (.leaf i b (cs ++ [b']))) ∧
      s'.nodes.length = s.nodes.length ∧ s'.stack = s.stack ∧ s'.cachedRoot = s.cachedRoot := by
  refine ⟨s.modify i fun n => { n with concl := n.concl ++ [b'] }, by simp [BState.step, hs], ?_, by simp, rfl, rfl⟩
  have ha := inv_plug.mp hi
  have hb : 2 ≤ i ∧ i < s.nodes.length := ha.id_bound
  have hnm : ∀ j, j ≠ i → (s.modify i fun n => { n with concl := n.concl ++ [b'] }).node j = s.node j := by
    intro j hj; rw [node_modify _ hb.2, if_neg hj]
  have hip : i ∉ pathIds P := fun h => (List.nodup_append.mp ha.owns.nodup).2.2 i (by simp [Sel.ids]) i h rfl
  obtain ⟨r1, r2, r3, r4⟩ := ha.rep
  refine inv_plug.mpr ⟨?_, ?_, ?_, ?_, ?_, ha.owns.of_length (modify_length _ _ _)⟩
  · simp only [RepT]
    rw [node_modify _ hb.2, if_pos rfl]
    exact ⟨r1, r2, by rw [r3], r4⟩
  · exact Seg_congr s _ P i (hnm 1 (by omega)) (fun j hj => hnm j (by rintro rfl; exact hip hj)) ha.seg
  · rw [hnm 1 (by omega)]; exact ha.k1
  · rw [hnm 1 (by omega)]; exact ha.p1
  · rw [hnm 0 (by omega)]; exact ha.p0

theorem rootOf_path (s : BState) (hp1 : (s.node 1).parent = some 0) (hp0 : (s.node 0).parent = none) :
    ∀ (P : List Frame) (h fuel : Nat), P.length + 2 ≤ fuel → (s.node h).parent = some (pid P) → Seg s P h →
      s.rootOf fuel h = 0
  | [], h, fuel + 2, _, hp, _ => by
    simp only [BState.rootOf, hp, pid, hp1]
    cases fuel <;> simp [BState.rootOf, hp0]
  | f :: P, h, fuel + 1, hf, hp, hseg => by
    simp only [Seg, pid] at hp hseg
    simp only [BState.rootOf, hp]
    exact rootOf_path s hp1 hp0 P f.id fuel (by simp at hf; omega) hseg.2.2.1 hseg.2.2.2.2

/-- `with <branch>:` pushes the branch's condition leaf -/
theorem enter_step (s : BState) (f : Frame) (P : List Frame) (n b : Nat) (cs : List Nat)
    (hi : Inv s (plug (f :: P) (.leaf n b cs))) (hl : s.last = some n) :
    s.step Quirks.today .enter = some { s with stack := n :: s.stack } := by
  have ha := inv_plug.mp hi
  have hn := ha.id_bound
  have hf := ha.pid_bound
  have hpar : (s.node n).parent = some f.id := ha.parent
  have hroot : s.rootOf s.nodes.length n = 0 :=
    rootOf_path s ha.p1 ha.p0 (f :: P) n _ (by have := ha.length_lt; omega) hpar ha.seg
  simp only [BState.step, hl, hroot, hpar]
  have h1 : ¬ n = 0 := by
    have := hn.1
    simp only [Sel.id] at this
    omega
  have h2 : ¬ f.id = 0 := by
    have := hf.1
    simp only [pid] at this
    omega
  simp [h1, h2]

theorem exit_step (s : BState) (n : Nat) (st : List Nat) (hs : s.stack = n :: st) :
    s.step Quirks.today .exit = some { s with stack := st } := by
  simp [BState.step, hs]

/-! ## induction over the program -/

theorem run_app (q : Quirks) (xs ys : List Op) : ∀ s : BState,
    BState.run q s (xs ++ ys) = (BState.run q s xs).bind fun s' => BState.run q s' ys := by
  induction xs with
  | nil => intro s; simp [BState.run]
  | cons x xs ih =>
    intro s
    simp only [List.cons_append, BState.run]
    cases BState.step q s x with
    | none => simp
    | some s1 => simp [ih]

theorem run_cons_of {q : Quirks} {s s1 : BState} {op : Op} {ops : List Op} (h : s.step q op = some s1) :
    BState.run q s (op :: ops) = BState.run q s1 ops := by
  simp only [BState.run, h]

theorem run_append_of {q : Quirks} {s s1 : BState} {xs ys : List Op} (h : BState.run q s xs = some s1) :
    BState.run q s (xs ++ ys) = BState.run q s1 ys := by
  rw [run_app, h]
  rfl

theorem run_cons_some {q : Quirks} {s s' : BState} {op : Op} {ops : List Op}
    (h : BState.run q s (op :: ops) = some s') : ∃ s1, s.step q op = some s1 ∧ BState.run q s1 ops = some s' := by
  simp only [BState.run] at h
  cases h1 : s.step q op with
  | none => simp [h1] at h
  | some s1 => exact ⟨s1, rfl, by simpa [h1] using h⟩

theorem run_append_some {q : Quirks} {s s' : BState} {xs ys : List Op}
    (h : BState.run q s (xs ++ ys) = some s') : ∃ s1, BState.run q s xs = some s1 ∧ BState.run q s1 ys = some s' := by
  rw [run_app] at h
  exact Option.bind_eq_some_iff.mp h

/-- running `ops` from `s` ends in `s'`, whose store holds `T` in `n` nodes; the stack is as before -/
structure Runs (s s' : BState) (ops : List Op) (T : Sel) (n : Nat) : Prop where
  run : BState.run Quirks.today s ops = some s'
  inv : Inv s' T
  len : s'.nodes.length = n
  stack : s'.stack = s.stack

theorem Runs.cons {s s1 s' : BState} {op : Op} {ops : List Op} {T : Sel} {n : Nat}
    (h1 : s.step Quirks.today op = some s1) (st1 : s1.stack = s.stack) (h : Runs s1 s' ops T n) :
    Runs s s' (op :: ops) T n :=
  ⟨(run_cons_of h1).trans h.run, h.inv, h.len, h.stack.trans st1⟩

theorem Runs.append {s s1 s' : BState} {xs ys : List Op} {T1 T : Sel} {n1 n : Nat} (h1 : Runs s s1 xs T1 n1)
    (h : Runs s1 s' ys T n) : Runs s s' (xs ++ ys) T n :=
  ⟨(run_append_of h1.run).trans h.run, h.inv, h.len, h.stack.trans h1.stack⟩

def Kind.sk : Kind → SK
  | .ref => .exceptIf
  | .alt => .alt
  | .next => .next

def Kind.op (k : Kind) (b : Nat) : Op :=
  match k with
  | .ref => .refinement b
  | .alt => .alternative b
  | .next => .next b

theorem kidOps_eq (k : Kind) (p : Prog) : kidOps k p = k.op p.blk :: Op.enter :: (p.ops ++ [Op.exit]) := by
  cases k <;> rfl

theorem Kids.ops_cons (k : Kind) (p : Prog) (rest : Kids) : (Kids.cons k p rest).ops = kidOps k p ++ rest.ops := by
  simp [Kids.ops, kidOps]

theorem step_op (k : Kind) (hk : k ≠ .ref) (s : BState) (b : Nat) :
    s.step Quirks.today (k.op b) = s.doAltOrNext Quirks.today k.sk.toNK b := by
  cases k
  · exact absurd rfl hk
  · rfl
  · rfl

theorem Kids.lay_cons (k : Kind) (hk : k ≠ .ref) (p : Prog) (rest : Kids) (n : Nat) :
    (Kids.cons k p rest).lay n =
      ((rest.lay (p.layBranch (n + 2) n).2.2).1,
        (k.sk, n + 1, (p.layBranch (n + 2) n).1) ::
          ((p.layBranch (n + 2) n).2.1 ++ (rest.lay (p.layBranch (n + 2) n).2.2).2.1),
        (rest.lay (p.layBranch (n + 2) n).2.2).2.2) := by
  cases k
  · exact absurd rfl hk
  · rfl
  · rfl

/-- the path from the condition leaf of a block to the top of its scope once the branches `kids` are written in the
block, `D` being that path before: the refinements' frames go inside `D`, the alternatives' and next_rules' outside -/
def Kids.path (kids : Kids) (n : Nat) (D : List Frame) : List Frame :=
  (kids.lay n).1 ++ D ++ itemFrames (kids.lay n).2.1

theorem plug_path (kids : Kids) (n : Nat) (D C : List Frame) (u : Sel) :
    plug (kids.path n D ++ C) u = plug C (attach (plug D (plug (kids.lay n).1 u)) (kids.lay n).2.1) := by
  simp only [Kids.path, plug_append, plug_itemFrames]

theorem Kids.path_ref (p : Prog) (rest : Kids) (n : Nat) (D : List Frame) :
    (Kids.cons .ref p rest).path n D =
      rest.path (p.layScope (n + 2) n).2 (⟨.exceptIf, n + 1, true, (p.layScope (n + 2) n).1⟩ :: D) := by
  simp [Kids.path, Kids.lay, Prog.layScope]

theorem Kids.path_branch (k : Kind) (hk : k ≠ .ref) (p : Prog) (rest : Kids) (n : Nat) (D : List Frame) :
    (Kids.cons k p rest).path n D =
      rest.path (p.layBranch (n + 2) n).2.2
        (D ++ ⟨k.sk, n + 1, true, (p.layBranch (n + 2) n).1⟩ :: itemFrames (p.layBranch (n + 2) n).2.1) := by
  simp [Kids.path, Kids.lay_cons k hk, itemFrames]

theorem climbable_branch (k : Kind) (hk : k ≠ .ref) (D : List Frame) (hD : ∀ f ∈ D, f.climbable = true)
    (n : Nat) (hl : Bool) (t : Sel) (its : List LItem) :
    ∀ f ∈ D ++ ⟨k.sk, n, hl, t⟩ :: itemFrames its, f.climbable = true := by
  intro f hf
  simp only [List.mem_append, List.mem_cons, itemFrames, List.mem_map] at hf
  rcases hf with hf | rfl | ⟨it, _, rfl⟩
  · exact hD f hf
  · cases k
    · exact absurd rfl hk
    · rfl
    · rfl
  · simp [Frame.climbable]

theorem Kids.path_climbable : ∀ (kids : Kids) (n : Nat) (D : List Frame), (∀ f ∈ D, f.climbable = true) →
    ∀ f ∈ kids.path n D, f.climbable = true
  | .nil, n, D, h => by
    simpa [Kids.path, Kids.lay, itemFrames] using h
  | .cons k p rest, n, D, h => by
    by_cases hk : k = .ref
    · subst hk
      rw [Kids.path_ref]
      exact Kids.path_climbable rest _ _ (List.forall_mem_cons.mpr ⟨rfl, h⟩)
    · rw [Kids.path_branch k hk]
      exact Kids.path_climbable rest _ _ (climbable_branch k hk D h _ _ _ _)

/-- what running the branch blocks `kids` written in the block with condition leaf `i` does: the leaf stays where it
is, the path `D` from it to the top of its scope becomes `kids.path _ D` -/
def KidsOK (kids : Kids) : Prop :=
  ∀ (s : BState) (D C : List Frame) (i b : Nat) (cs st : List Nat),
    Inv s (plug (D ++ C) (.leaf i b cs)) → s.stack = i :: st → (∀ f ∈ D, f.climbable = true) → stopAt C →
    ∃ s', Runs s s' kids.ops (plug (kids.path s.nodes.length D ++ C) (.leaf i b cs)) (kids.lay s.nodes.length).2.2

theorem KidsOK.nil : KidsOK .nil := by
  intro s D C i b cs st hi hs hD hC
  refine ⟨s, rfl, ?_, rfl, rfl⟩
  simpa [Kids.path, Kids.lay, itemFrames] using hi

/-- the `with` block of a branch `p` whose condition leaf `n` the surgery allocated last (`hl`), `D` being the path from
it to the top of its scope: the leaf becomes the body of the branch, and the alternatives / next_rules the branch
contributes to the scope are attached over `D` -/
theorem with_block (p : Prog) (ih : KidsOK p.kids) (s : BState) (n : Nat) (D C : List Frame) (hne : D ++ C ≠ [])
    (hi : Inv s (plug (D ++ C) (.leaf n p.blk []))) (hl : s.last = some n)
    (hD : ∀ g ∈ D, g.climbable = true) (hC : stopAt C) :
    ∃ s', Runs s s' (Op.enter :: (p.ops ++ [Op.exit]))
      (plug C (attach (plug D (p.layBranch s.nodes.length n).1) (p.layBranch s.nodes.length n).2.1))
      (p.layBranch s.nodes.length n).2.2 := by
  obtain ⟨b, kids⟩ := p
  obtain ⟨f, P, hP⟩ := List.exists_cons_of_ne_nil hne
  have e0 := enter_step s f P n b [] (hP ▸ hi) hl
  obtain ⟨s1, e1, i1, l1, st1, _⟩ := add_step { s with stack := n :: s.stack } (D ++ C) n b [] s.stack b
    (hi.of_nodes _ rfl) rfl
  obtain ⟨s2, h2⟩ := (show KidsOK kids from ih) s1 D C n b [b] s.stack i1 st1 hD hC
  rw [l1, plug_path] at h2
  refine ⟨{ s2 with stack := s.stack }, ?_, h2.inv.of_nodes _ rfl, h2.len, rfl⟩
  rw [run_cons_of e0, Prog.ops, List.cons_append, run_cons_of e1, run_append_of h2.run,
    run_cons_of (exit_step s2 _ _ (h2.stack.trans st1))]
  rfl

theorem KidsOK.ref (p : Prog) (rest : Kids) (ihp : KidsOK p.kids) (ihr : KidsOK rest) : KidsOK (.cons .ref p rest) := by
  intro s D C i b cs st hi hs hD hC
  obtain ⟨s1, e1, i1, l1, st1, _, la1⟩ := ref_step s (D ++ C) i b cs st p.blk hi hs
  -- the new leaf is the right operand of the new `ExceptIf`: the climb from it stops at once
  obtain ⟨s2, h2⟩ := with_block p ihp s1 s.nodes.length []
    (⟨.exceptIf, s.nodes.length + 1, false, .leaf i b cs⟩ :: (D ++ C)) (by simp) i1 la1 (by simp) ⟨rfl, rfl⟩
  rw [l1] at h2
  -- back at the leaf of the enclosing block, the scope of the branch is the right operand
  obtain ⟨s3, h3⟩ := ihr s2
    (⟨.exceptIf, s.nodes.length + 1, true, (p.layScope (s.nodes.length + 2) s.nodes.length).1⟩ :: D) C i b cs st
    h2.inv (h2.stack.trans (st1.trans hs)) (List.forall_mem_cons.mpr ⟨rfl, hD⟩) hC
  rw [h2.len] at h3
  rw [Kids.ops_cons, kidOps_eq, Kids.path_ref]
  exact ⟨s3, (h2.append h3).cons e1 st1⟩

theorem KidsOK.branch (k : Kind) (hk : k ≠ .ref) (p : Prog) (rest : Kids) (ihp : KidsOK p.kids) (ihr : KidsOK rest) :
    KidsOK (.cons k p rest) := by
  intro s D C i b cs st hi hs hD hC
  obtain ⟨s1, e1, i1, l1, st1, _, la1⟩ := alt_step s D C i b cs st k.sk p.blk hi hs hD hC
  -- the new leaf is the right operand of the new selector, which the climb from it passes
  obtain ⟨s2, h2⟩ := with_block p ihp s1 s.nodes.length
    [⟨k.sk, s.nodes.length + 1, false, plug D (.leaf i b cs)⟩] C (by simp) i1 la1
    (climbable_branch k hk [] (by simp) _ _ _ []) hC
  -- back at the leaf of the enclosing block: the selector, then the branch's own items, lie above `D`
  have hback : ∀ t its, plug C (attach (plug [⟨k.sk, s.nodes.length + 1, false, plug D (.leaf i b cs)⟩] t) its) =
      plug ((D ++ ⟨k.sk, s.nodes.length + 1, true, t⟩ :: itemFrames its) ++ C) (.leaf i b cs) := by
    intro t its
    simp [plug_append, plug, Frame.fill, plug_itemFrames]
  rw [l1, hback] at h2
  obtain ⟨s3, h3⟩ := ihr s2 _ C i b cs st h2.inv (h2.stack.trans (st1.trans hs))
    (climbable_branch k hk D hD _ _ _ _) hC
  rw [h2.len] at h3
  rw [Kids.ops_cons, kidOps_eq, Kids.path_branch k hk, Kids.lay_cons k hk]
  exact ⟨s3, (h2.append h3).cons ((step_op k hk s p.blk).trans e1) st1⟩

mutual
theorem Prog.run_lay : ∀ p : Prog, KidsOK p.kids
  | .mk _ kids => Kids.run_lay kids
theorem Kids.run_lay : ∀ kids : Kids, KidsOK kids
  | .nil => KidsOK.nil
  | .cons .ref p rest => KidsOK.ref p rest (Prog.run_lay p) (Kids.run_lay rest)
  | .cons .alt p rest => KidsOK.branch .alt (by decide) p rest (Prog.run_lay p) (Kids.run_lay rest)
  | .cons .next p rest => KidsOK.branch .next (by decide) p rest (Prog.run_lay p) (Kids.run_lay rest)
end

/-! ## reading the tree back -/

theorem extract_of_rep (s : BState) : ∀ (t : Sel) (par fuel : Nat), RepT s par t → t.ids.length ≤ fuel →
    extractFrom s.nodes fuel t.id = some t
  | .leaf i b cs, par, 0, _, hf => by simp [Sel.ids] at hf
  | .leaf i b cs, par, fuel + 1, hr, _ => by
    simp only [RepT, BState.node] at hr
    simp only [extractFrom, Sel.id, hr.1, hr.2.1, hr.2.2.1]
  | .node k i l r, par, 0, _, hf => by simp [Sel.ids] at hf
  | .node k i l r, par, fuel + 1, hr, hf => by
    simp only [RepT] at hr
    obtain ⟨h1, h2, h3, _, h5, h6⟩ := hr
    simp only [Sel.ids, List.length_cons, List.length_append] at hf
    have el := extract_of_rep s l i fuel h5 (by omega)
    have er := extract_of_rep s r i fuel h6 (by omega)
    simp only [BState.node] at h1 h2 h3
    show extractFrom s.nodes (fuel + 1) i = _
    cases k
    all_goals
      simp only [SK.toNK] at h1
      simp only [extractFrom, h1, h2, h3, el, er]

theorem Inv.tree {s : BState} {T : Sel} (hi : Inv s T) : s.tree = some T := by
  simp only [BState.tree, hi.top]
  exact extract_of_rep s T 1 _ hi.rep (by have := hi.len; omega)

theorem enterQuery_init (q : Quirks) (b : Nat) : (BState.init b).step q Op.enterQuery =
    some { BState.init b with stack := [2], cachedRoot := some 2 } := by
  simp [BState.step, BState.conditionsRoot, BState.init, BState.condLoop, BState.rootOf, BState.node]

theorem init_inv (b : Nat) : Inv { BState.init b with stack := [2], cachedRoot := some 2 } (.leaf 2 b []) := by
  refine ⟨?_, ?_, ?_, ?_, ?_, ?_, ?_, ?_⟩
  all_goals simp [RepT, BState.init, BState.node, Sel.id, Sel.ids]

theorem query_tree (b : Nat) (ops : List Op) (s' : BState) (T : Sel) (n : Nat)
    (h : Runs { BState.init b with stack := [2], cachedRoot := some 2 } s' ops T n) :
    ((BState.init b).run Quirks.today (Op.enterQuery :: (ops ++ [Op.exit]))).bind BState.tree = some T ∧
      T.ids.Nodup := by
  refine ⟨?_, h.inv.nodup⟩
  rw [run_cons_of (enterQuery_init _ b), run_append_of h.run, run_cons_of (exit_step s' 2 [] h.stack)]
  exact (h.inv.of_nodes { s' with stack := [] } rfl).tree

/-! ## the whole builder, the base rule's `Add` statements between any two branches -/

def Kids.append : Kids → Kids → Kids
  | .nil, ys => ys
  | .cons k p rest, ys => .cons k p (rest.append ys)

theorem Kids.ops_append : ∀ xs ys : Kids, (xs.append ys).ops = xs.ops ++ ys.ops
  | .nil, ys => rfl
  | .cons k p rest, ys => by simp [Kids.append, Kids.ops, Kids.ops_append rest ys]

theorem Kids.lay_append : ∀ (xs ys : Kids) (n : Nat),
    (xs.append ys).lay n =
      ((ys.lay (xs.lay n).2.2).1 ++ (xs.lay n).1, (xs.lay n).2.1 ++ (ys.lay (xs.lay n).2.2).2.1,
        (ys.lay (xs.lay n).2.2).2.2)
  | .nil, ys, n => by simp [Kids.append, Kids.lay]
  | .cons k p rest, ys, n => by
    cases k <;> simp [Kids.append, Kids.lay, Kids.lay_append rest ys]

/-- running `xs`, then the base rule's `Add` statements, then `ys` in one `with rule:` block leaves behind the
layout of the program whose branches are `xs` followed by `ys` -/
theorem build_split_tree (b : Nat) (xs ys : Kids) :
    ((BState.init b).run Quirks.today (Op.enterQuery :: ((xs.ops ++ Op.add b :: ys.ops) ++ [Op.exit]))).bind
        BState.tree = some (Prog.mk b (xs.append ys)).layout ∧ (Prog.mk b (xs.append ys)).layout.ids.Nodup := by
  obtain ⟨s1, h1⟩ := Kids.run_lay xs _ [] [] 2 b [] [] (init_inv b) rfl (by simp) trivial
  obtain ⟨s2, e2, i2, l2, st2, _⟩ := add_step s1 _ 2 b [] [] b h1.inv h1.stack
  obtain ⟨s3, h3⟩ := Kids.run_lay ys s2 _ [] 2 b [b] [] i2 (st2.trans h1.stack)
    (Kids.path_climbable xs _ [] (by simp)) trivial
  have hpath : ∀ n D, ys.path (xs.lay n).2.2 (xs.path n D) = (xs.append ys).path n D := by
    intro n D
    simp [Kids.path, Kids.lay_append, itemFrames]
  rw [l2, h1.len, hpath, plug_path] at h3
  exact query_tree b _ s3 _ _ (h1.append (h3.cons e2 st2))

theorem build_today_tree (p : Prog) :
    (build Quirks.today p).bind BState.tree = some p.layout ∧ p.layout.ids.Nodup := by
  obtain ⟨b, kids⟩ := p
  exact build_split_tree b .nil kids

end KrroodVerif.Rdr
