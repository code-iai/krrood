import KrroodVerif.Lemmas.EqlCount
import KrroodVerif.Model.EqlFindings
/-!
The larger fragment **F1** and the selection. F1: conditions built from atoms with `and_`, `or_` between conditions
over the same variables and **arbitrarily nested** `not_`; it is built into the cover fragment (`build_F1`).
Selections of attribute/index chains over variables, including variables that do not occur in the condition: the
projection of every assignment compatible with a cell is among the rows of its product (`select_complete`; the converse,
`select_sound`, needs that no variable feeds two selected expressions and is in `Lemmas/EqlQuant.lean`). Core Lean only.
-/
namespace KrroodVerif.Eql

/-! ## Fragment F1 -/

def Term.noLit : Term → Bool
  | .var _ => true
  | .lit _ _ => false
  | .attr t _ => t.noLit
  | .index t _ => t.noLit
  | .flatten t => t.noLit

/-- surface fragment F1: `F2` with `not_` allowed on arbitrary sub-conditions -/
def SExpr.F1 : SExpr → Bool
  | .cmp _ l r => l.noFlat && r.noFlat
  | .contains c i => c.noFlat && i.noFlat
  | .hasType t _ => t.noFlat
  | .truth t => t.isChain
  | .and l r => l.F1 && r.F1
  | .or l r => l.F1 && r.F1 && sameSet l.freeVars r.freeVars
  | .not e => e.F1
  | .exists_ _ _ => false
  | .forAll _ _ => false

def selF1 (sel : List Term) : Bool := sel.all fun s => s.noFlat && s.noLit

theorem SExpr.F2_F1 {s : SExpr} (h : s.F2 = true) : s.F1 = true := by
  induction s with
  | and l r ihl ihr =>
    simp only [SExpr.F2, Bool.and_eq_true] at h
    simp [SExpr.F1, ihl h.1, ihr h.2]
  | or l r ihl ihr =>
    simp only [SExpr.F2, Bool.and_eq_true] at h
    simp [SExpr.F1, ihl h.1.1, ihr h.1.2, h.2]
  | not e _ =>
    simp only [SExpr.F2] at h
    cases e <;> simp_all [SExpr.isAtom, SExpr.F1]
  | _ => simp_all [SExpr.F2, SExpr.F1]

theorem build_F1 {s : SExpr} (h : s.F1 = true) : (build s).Fc = true := by
  induction s with
  | and l r ihl ihr =>
    simp only [SExpr.F1, Bool.and_eq_true] at h
    simp [build, Expr.Fc, ihl h.1, ihr h.2]
  | or l r ihl ihr =>
    simp only [SExpr.F1, Bool.and_eq_true] at h
    have hv : sameSet (build l).vars (build r).vars = true := by
      rw [build_vars_qf (Expr.Fc_noQuant (ihl h.1.1)), build_vars_qf (Expr.Fc_noQuant (ihr h.1.2))]
      exact h.2
    simp [build, mkOr, hv, Expr.Fc, ihl h.1.1, ihr h.1.2]
  | not e ih =>
    simp only [SExpr.F1] at h
    simp only [build, invert_qf (Expr.Fc_noQuant (ih h)), Expr.Fc]
    exact ih h
  | _ => simp_all [SExpr.F1, build, Expr.Fc]

/-! ## The selection -/

theorem hasDup_false_iff {xs : List VarId} : hasDup xs = false ↔ xs.Nodup := by
  induction xs with
  | nil => simp [hasDup]
  | cons x r ih => simp [hasDup, ih]

theorem Term.nodes_noLit {t : Term} (h : t.noLit = true) {k : Key} (hk : k ∈ t.nodes) :
    ∃ u, k = .var u ∧ u ∈ t.vars := by
  induction t with
  | var v => simp only [Term.nodes, List.mem_singleton] at hk; exact ⟨v, hk, by simp [Term.vars]⟩
  | lit i x => simp [Term.noLit] at h
  | attr t n ih => exact ih h hk
  | index t i ih => exact ih h hk
  | flatten t ih => exact ih h hk

theorem mem_product_nil {α} {r : List α} : r ∈ product ([] : List (List α)) ↔ r = [] := by
  simp [product]

theorem mem_product_cons {α} {l : List α} {ls : List (List α)} {r : List α} :
    r ∈ product (l :: ls) ↔ ∃ x r', r = x :: r' ∧ x ∈ l ∧ r' ∈ product ls := by
  simp only [product, List.mem_flatMap, List.mem_map]
  constructor
  · rintro ⟨x, hx, r', hr', rfl⟩; exact ⟨x, r', rfl, hx, hr'⟩
  · rintro ⟨x, r', rfl, hx, hr'⟩; exact ⟨x, hx, r', hr', rfl⟩

theorem litFresh_noLit {t : Term} (h : t.noLit = true) (env : Env) : LitFresh t.nodes env := by
  intro i hi
  obtain ⟨u, hu, _⟩ := Term.nodes_noLit h hi
  cases hu

theorem select_complete (w : World) (τ : Asg) : ∀ (sel : List Term) (env : Env) (per : List (List Val))
    (ys : List Val), (∀ s ∈ sel, s.noFlat = true ∧ s.noLit = true) → agreesB τ env = true →
    Covers w τ (sel.flatMap Term.vars) → sel.mapM (selVals w env) = .ok per →
    sel.mapM (tval w τ) = .ok ys → ys ∈ product per := by
  intro sel
  induction sel with
  | nil =>
    intro env per ys _ _ _ hper hys
    rw [List.mapM_nil] at hper hys
    rw [← pure_ok hper, ← pure_ok hys, mem_product_nil]
  | cons s rest ih =>
    intro env per ys hsel hag hcov hper hys
    rw [List.mapM_cons] at hper hys
    obtain ⟨vs, hvs, hper⟩ := bind_ok hper
    obtain ⟨per', hper', hper⟩ := bind_ok hper
    obtain ⟨y, hy, hys⟩ := bind_ok hys
    obtain ⟨ys', hys', hys⟩ := bind_ok hys
    obtain ⟨rs, hrs, hvs⟩ := bind_ok hvs
    obtain ⟨hs1, hs2⟩ := hsel s (List.mem_cons_self)
    obtain ⟨a, _, hav, ham, _⟩ :=
      filter_single (evalTerm_cover w τ s false env rs y hs1 hcov.left (litFresh_noLit hs2 env) hag hrs hy)
    rw [← pure_ok hper, ← pure_ok hys, mem_product_cons]
    refine ⟨y, ys', rfl, ?_,
      ih env per' ys' (fun t ht => hsel t (List.mem_cons_of_mem _ ht)) hag hcov.right hper' hys'⟩
    rw [← pure_ok hvs]
    exact List.mem_map.mpr ⟨a, ham, hav⟩

end KrroodVerif.Eql
