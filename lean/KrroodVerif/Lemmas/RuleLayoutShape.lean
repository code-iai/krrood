import KrroodVerif.Lemmas.RuleLayout
/-!
# Shape of the layout tree of an unambiguous program = `Rule.compile`

`layScope_shape` : `p.unambiguous = true → (p.layScope n i).1.shape = p.toRule.compile`.
In an unambiguous program all alternatives of a scope are written before all its next_rules (the last three
conjuncts of `KS`), so the left fold over the scope's branches in textual order (what the surgery builds) is the
fold "alternatives first, then next_rules" of `Rule.compile` (`Kids.ks`).
-/
namespace KrroodVerif.Rdr

/-! ## plugging and attaching -/

@[simp] theorem Frame.fill_id (f : Frame) (u : Sel) : (f.fill u).id = f.id := by
  unfold Frame.fill
  split <;> rfl

theorem plug_append (P Q : List Frame) (u : Sel) : plug (P ++ Q) u = plug Q (plug P u) := by
  induction P generalizing u with
  | nil => rfl
  | cons f P ih => simp [plug, ih]

theorem plug_itemFrames (its : List LItem) (t : Sel) : plug (itemFrames its) t = attach t its := by
  induction its generalizing t with
  | nil => rfl
  | cons it its ih =>
    simp only [itemFrames, List.map_cons, plug, attach, List.foldl_cons, Frame.fill, ↓reduceIte]
    exact ih _

/-! ## shapes -/

/-- `attach` on shapes -/
def attachS (t : Sel) (l : List (SK × Sel)) : Sel := l.foldl (fun t it => .node it.1 0 t it.2) t

/-- items as `attachS` takes them: node identities forgotten -/
def shapes (its : List LItem) : List (SK × Sel) := its.map fun it => (it.1, it.2.2.shape)

theorem shape_attach (its : List LItem) : ∀ t : Sel, (attach t its).shape = attachS t.shape (shapes its) := by
  induction its with
  | nil =>
    intro t
    rfl
  | cons it its ih =>
    intro t
    simp only [attach, List.foldl_cons, shapes, List.map_cons, attachS] at ih ⊢
    rw [ih]
    rfl

theorem attachS_append (t : Sel) (a b : List (SK × Sel)) : attachS t (a ++ b) = attachS (attachS t a) b := by
  simp [attachS, List.foldl_append]

theorem attachS_map (k : SK) (l : List Sel) (t : Sel) :
    attachS t (l.map fun b => (k, b)) = l.foldl (fun t b => .node k 0 t b) t := by
  simp [attachS, List.foldl_map]

theorem shapes_append (a b : List LItem) : shapes (a ++ b) = shapes a ++ shapes b := by simp [shapes]

theorem shape_fill (f : Frame) (u : Sel) :
    (f.fill u).shape = if f.holeLeft then .node f.k 0 u.shape f.sib.shape else .node f.k 0 f.sib.shape u.shape := by
  unfold Frame.fill
  split <;> rfl

/-! ## the layout of an unambiguous program -/

/-- the induction statement of `layScope_shape` for the branches written in one block. The last three conjuncts say what
`Kids.unamb` checks (`sn`: a next_rule of the scope was already written; `(kids.unamb sn).2`: one is written when the
block ends): no alternative after a next_rule -/
def KS (kids : Kids) : Prop :=
  ∀ (n : Nat) (sn : Bool), (kids.unamb sn).1 = true →
    (∀ inner, (plug (kids.lay n).1 inner).shape = (kids.pick .ref).wrap inner.shape) ∧
    shapes (kids.lay n).2.1 =
      ((kids.pick .alt).chainItemsL.map fun b => (SK.alt, b)) ++
        (((kids.pick .alt).nextItemsA ++ (kids.pick .next).nextItemsN).map fun b => (SK.next, b)) ∧
    (sn = true → kids.pick .alt = .nil) ∧
    ((kids.unamb sn).2 = false → (kids.pick .alt).nextItemsA = [] ∧ kids.pick .next = .nil) ∧
    (sn = true → (kids.unamb sn).2 = true)

/-- the same for the block of a branch -/
def PS (p : Prog) : Prop :=
  ∀ (n i : Nat) (sn : Bool), (p.unambIn sn).1 = true →
    (p.layBranch n i).1.shape = p.toRule.body ∧
    shapes (p.layBranch n i).2.1 =
      (p.toRule.chainItems.map fun b => (SK.alt, b)) ++ (p.toRule.nextItems.map fun b => (SK.next, b)) ∧
    (sn = true → p.toRule.chainItems = []) ∧
    ((p.unambIn sn).2 = false → p.toRule.nextItems = []) ∧
    (sn = true → (p.unambIn sn).2 = true)

theorem compile_eq (r : Rule) :
    r.compile = attachS r.body ((r.chainItems.map fun b => (SK.alt, b)) ++ (r.nextItems.map fun b => (SK.next, b))) := by
  cases r with
  | mk b refs alts nexts =>
    rw [attachS_append, attachS_map, attachS_map]
    simp [Rule.compile, Rule.body, Rule.chainItems, Rule.nextItems]

theorem PS.scope {p : Prog} (h : PS p) (hu : p.unambiguous = true) (n i : Nat) :
    (p.layScope n i).1.shape = p.toRule.compile := by
  have hu' : (p.unambIn false).1 = true := by
    cases p with
    | mk b kids => simpa [Prog.unambiguous, Prog.unambiguousScope, Prog.unambIn] using hu
  obtain ⟨h1, h2, _⟩ := h n i false hu'
  simp only [Prog.layScope, shape_attach, h1, h2, compile_eq]

theorem PS.mk (b : Nat) (kids : Kids) (ih : KS kids) : PS (.mk b kids) := by
  intro n i sn hu
  simp only [Prog.unambIn] at hu ⊢
  obtain ⟨h1, h2, h3, h4, h5⟩ := ih n sn hu
  refine ⟨?_, ?_, ?_, ?_, h5⟩
  · simp only [Prog.layBranch, h1, Prog.toRule, Rule.body]
    rfl
  · simp only [Prog.layBranch, h2, Prog.toRule, Rule.chainItems, Rule.nextItems]
  · intro hs
    simp only [Prog.toRule, Rule.chainItems, h3 hs, Rules.chainItemsL]
  · intro hf
    obtain ⟨a, c⟩ := h4 hf
    simp only [Prog.toRule, Rule.nextItems, a, c, Rules.nextItemsN, List.append_nil]

theorem KS.nil : KS .nil := by
  intro n sn hu
  refine ⟨?_, ?_, ?_⟩
  · simp [Kids.lay, plug, Kids.pick, Rules.wrap]
  · simp [Kids.lay, Kids.pick, shapes, Rules.chainItemsL, Rules.nextItemsA, Rules.nextItemsN]
  · simp [Kids.pick, Rules.nextItemsA, Kids.unamb]

theorem KS.ref (p : Prog) (rest : Kids) (ihp : PS p) (ihr : KS rest) : KS (.cons .ref p rest) := by
  intro n sn hu
  simp only [Kids.unamb, Bool.and_eq_true] at hu ⊢
  obtain ⟨h1, h2, h3⟩ := ihr (p.layBranch (n + 2) n).2.2 sn hu.2
  have hp := ihp.scope hu.1 (n + 2) n
  simp only [Prog.layScope] at hp
  refine ⟨?_, ?_, ?_⟩
  · intro inner
    simp only [Kids.lay, plug_append, plug, shape_fill, ↓reduceIte, h1, hp, Kids.pick, Rules.wrap]
  · simpa [Kids.lay, Kids.pick] using h2
  · simpa [Kids.pick] using h3

theorem KS.alt (p : Prog) (rest : Kids) (ihp : PS p) (ihr : KS rest) : KS (.cons .alt p rest) := by
  intro n sn hu
  simp only [Kids.unamb, Bool.and_eq_true, Bool.not_eq_true'] at hu ⊢
  obtain ⟨⟨hsn, hu1⟩, hu2⟩ := hu
  subst hsn
  obtain ⟨p1, p2, _, p4, _⟩ := ihp (n + 2) n false hu1
  obtain ⟨h1, h2, h3, h4, h5⟩ := ihr (p.layBranch (n + 2) n).2.2 (p.unambIn false).2 hu2
  refine ⟨?_, ?_, by simp, ?_, by simp⟩
  · intro inner
    simpa [Kids.lay, Kids.pick] using h1 inner
  · simp only [Kids.lay, shapes, List.map_cons, List.map_append] at p2 h2 ⊢
    simp only [Kids.pick, ↓reduceIte, Rules.chainItemsL, Rules.nextItemsA, reduceCtorEq,
      List.map_append, List.map_cons, List.cons_append, p1, p2, h2]
    -- the items in textual order are: this alternative, its next_rules, the later alternatives. If the branch
    -- wrote no next_rule, nothing stands between the alternatives; if it did, there is no later alternative
    cases hs1 : (p.unambIn false).2
    · simp [p4 hs1]
    · simp [h3 hs1, Rules.chainItemsL, Rules.nextItemsA]
  · intro hf
    -- no next_rule at the end: none after the branch, so the branch had written none either
    have hs1 : (p.unambIn false).2 = false := by
      cases hs1 : (p.unambIn false).2
      · rfl
      · rw [h5 hs1] at hf
        exact absurd hf (by decide)
    obtain ⟨a, c⟩ := h4 hf
    simp [Kids.pick, Rules.nextItemsA, p4 hs1, a, c]

theorem KS.next (p : Prog) (rest : Kids) (ihp : PS p) (ihr : KS rest) : KS (.cons .next p rest) := by
  intro n sn hu
  simp only [Kids.unamb, Bool.and_eq_true] at hu ⊢
  obtain ⟨p1, p2, p3, _, p5⟩ := ihp (n + 2) n true hu.1
  rw [p5 rfl] at hu ⊢
  obtain ⟨h1, h2, h3, _, h5⟩ := ihr (p.layBranch (n + 2) n).2.2 true hu.2
  refine ⟨?_, ?_, ?_, ?_, fun _ => h5 rfl⟩
  · intro inner
    simpa [Kids.lay, Kids.pick] using h1 inner
  · -- after a next_rule the rest has no alternative (`h3`) and the branch itself no chain (`p3`): the items are
    -- next_rules only, in textual order
    simp only [Kids.lay, shapes, List.map_cons, List.map_append] at p2 h2 ⊢
    simp only [Kids.pick, ↓reduceIte, reduceCtorEq, h3 rfl, Rules.chainItemsL, Rules.nextItemsA, Rules.nextItemsN,
      List.map_append, List.map_cons, List.cons_append, List.map_nil, List.nil_append, p1, p2, h2, p3 rfl,
      List.foldl_nil]
  · intro _
    simpa [Kids.pick] using h3 rfl
  · intro hf
    rw [h5 rfl] at hf
    exact absurd hf (by decide)

mutual
theorem Prog.ps : ∀ p : Prog, PS p
  | .mk b kids => PS.mk b kids (Kids.ks kids)
theorem Kids.ks : ∀ kids : Kids, KS kids
  | .nil => KS.nil
  | .cons .ref p rest => KS.ref p rest (Prog.ps p) (Kids.ks rest)
  | .cons .alt p rest => KS.alt p rest (Prog.ps p) (Kids.ks rest)
  | .cons .next p rest => KS.next p rest (Prog.ps p) (Kids.ks rest)
end

theorem layScope_shape (p : Prog) (hu : p.unambiguous = true) (n i : Nat) :
    (p.layScope n i).1.shape = p.toRule.compile :=
  (Prog.ps p).scope hu n i

end KrroodVerif.Rdr
