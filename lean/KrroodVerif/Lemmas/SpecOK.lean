import KrroodVerif.Lemmas.HeapReach
/-!
The invariant of the specification machine (`Spec`, `specStep` of `Model/SymbolGraph.lean`): everything a state mentions is
alive and nothing is alive that the user cannot reach (`SpecOK`), kept by every operation (`specStep_ok`). `SpecInv`
(Props/C14.lean) and `HK` at every point of a history (Props/C20Run.lean) are read off it.
-/
namespace KrroodVerif.SG

/-- `rec` keeps `I` when both ends of the relation satisfy `E` -/
def InvRec (I : Spec → Prop) (E : R → Prop) (rec : Spec → Fld → R → R → Spec) : Prop :=
  ∀ s f a b, I s → E a → E b → I (rec s f a b)

theorem inv_foldFields {I : Spec → Prop} {E : R → Prop} {rec} (hrec : InvRec I E rec) (fs : List Fld) {a b : R}
    (ha : E a) (hb : E b) {s : Spec} (h : I s) : I (fs.foldl (fun s f' => rec s f' a b) s) :=
  List.foldlRecOn (motive := I) fs _ h fun s' h' f' _ => hrec s' f' a b h' ha hb

theorem inv_inferTakerSupers {S : Schema} {I : Spec → Prop} {E : R → Prop} {rec} (hrec : InvRec I E rec)
    (hensure : ∀ s y, I s → y ∈ s.h.live → I (s.ensure y) ∧ E ⟨y.obj, y.cls⟩) (f : Fld) (a : R) {b : R} {s : Spec}
    (h : I s) (hb : E b) : I (Spec.inferTakerSupers S rec s f a b) := by
  unfold Spec.inferTakerSupers
  split
  · exact h
  · split
    · exact h
    · rename_i y hy
      have he := hensure s y h (takerOf_live hy)
      exact inv_foldFields hrec _ he.2 hb he.1

theorem inv_inferSupers {S : Schema} {I : Spec → Prop} {E : R → Prop} {rec} (hrec : InvRec I E rec)
    (hensure : ∀ s y, I s → y ∈ s.h.live → I (s.ensure y) ∧ E ⟨y.obj, y.cls⟩) (f : Fld) {a b : R} {s : Spec}
    (h : I s) (ha : E a) (hb : E b) : I (Spec.inferSupers S rec s f a b) :=
  inv_inferTakerSupers hrec hensure f a (inv_foldFields hrec _ ha hb h) hb

theorem inv_inferInverse {S : Schema} {I : Spec → Prop} {E : R → Prop} {rec} (hrec : InvRec I E rec)
    (hensure : ∀ s y, I s → y ∈ s.h.live → I (s.ensure y) ∧ E ⟨y.obj, y.cls⟩) (f : Fld) {a b : R} {s : Spec}
    (h : I s) (ha : E a) (hb : E b) : I (Spec.inferInverse S rec s f a b) := by
  unfold Spec.inferInverse
  split
  · exact hrec _ _ _ _ h hb ha
  · split
    · exact h
    · split
      · exact h
      · rename_i y hy
        have he := hensure s y h (takerOf_live hy)
        exact hrec _ _ _ _ he.1 he.2 ha

/-- the shape of both transitive inferences -/
theorem inv_edgeFold {I : Spec → Prop} {E : R → Prop} {rec} (hrec : InvRec I E rec) (u v : AEdge → R)
    (l : List AEdge) (hl : ∀ e ∈ l, E (u e) ∧ E (v e)) {s : Spec} (h : I s) :
    I (l.foldl (fun s e => rec s e.fld (u e) (v e)) s) :=
  List.foldlRecOn (motive := I) l _ h fun s' h' e he => hrec s' e.fld _ _ h' (hl e he).1 (hl e he).2

theorem inv_inferTransitive {S : Schema} {I : Spec → Prop} {E : R → Prop} {rec} (hrec : InvRec I E rec)
    (hedge : ∀ s e, I s → e ∈ s.edges → E e.src ∧ E e.tgt) (f : Fld) {a b : R} {s : Spec}
    (h : I s) (ha : E a) (hb : E b) : I (Spec.inferTransitive S rec s f a b) := by
  unfold Spec.inferTransitive
  split
  · have h4 : I (Spec.inferOut S rec s f a b) :=
      inv_edgeFold hrec (fun _ => a) AEdge.tgt _
        (fun e he => ⟨ha, (hedge s e h (List.mem_filter.1 (List.mem_reverse.1 he)).1).2⟩) h
    exact inv_edgeFold hrec AEdge.src (fun _ => b) _
      (fun e he => ⟨(hedge _ e h4 (List.mem_filter.1 (List.mem_reverse.1 he)).1).1, hb⟩) h4
  · exact h

/-- a property `I` of specification states that `record` and `ensure` preserve is preserved by the whole inference;
`E`: what the ends of the relations it asserts are known to satisfy -/
theorem specAddFact_inv (S : Schema) (I : Spec → Prop) (E : R → Prop)
    (hrecord : ∀ s f a b inf, I s → E a → E b → I (s.record S f a b inf))
    (hensure : ∀ s y, I s → y ∈ s.h.live → I (s.ensure y) ∧ E ⟨y.obj, y.cls⟩)
    (hedge : ∀ s e, I s → e ∈ s.edges → E e.src ∧ E e.tgt) :
    ∀ (fuel : Nat) (s : Spec) (f : Fld) (a b : R) (inf : Bool), I s → E a → E b →
      I (specAddFact S fuel s f a b inf)
  | 0, _, _, _, _, _, h, _, _ => h
  | fuel + 1, s, f, a, b, inf, h, ha, hb => by
    unfold specAddFact
    split
    · exact h
    have hrec : InvRec I E (fun s f a b => specAddFact S fuel s f a b true) :=
      fun s f a b h ha hb => specAddFact_inv S I E hrecord hensure hedge fuel s f a b true h ha hb
    have h1 := inv_inferSupers (S := S) hrec hensure f (hrecord s f a b inf h ha hb) ha hb
    have h2 := inv_inferInverse (S := S) hrec hensure f h1 ha hb
    exact inv_inferTransitive hrec hedge f h2 ha hb

/-- the inference only writes field contents and the ghost list of registered labels -/
theorem assert_live (S : Schema) (s : Spec) (f : Fld) (a b : R) : (s.assert S f a b).h.live = s.h.live :=
  specAddFact_inv S (fun s' => s'.h.live = s.h.live) (fun _ => True) (fun _ _ _ _ _ h _ _ => (record_live ..).trans h)
    (fun _ _ h _ => ⟨h, trivial⟩) (fun _ _ _ _ => ⟨trivial, trivial⟩) S.fuel s f a b false rfl trivial trivial

/-- `HK` (the heap is kept clean): the heap-level invariant of a history — well-formed; no root, no live instance; and,
under `C`, no garbage. `C` is `True` at every point of a history; the first two parts also hold of a heap in which an
assignment has left garbage until the next collection. -/
def HK (q : Quirks) (C : Prop) (h : Heap) : Prop :=
  h.WF q ∧ (h.roots q = [] → h.live = []) ∧ (C → h.Tight q)

theorem HK.of_tight {q : Quirks} {C : Prop} {h : Heap} (hw : h.WF q) (ht : h.Tight q) : HK q C h :=
  ⟨hw, ht.live_nil, fun _ => ht⟩

theorem HK.collect {q : Quirks} {C : Prop} {h : Heap} (hw : h.WF q) : HK q C (h.collect q) :=
  HK.of_tight hw.collect hw.collect_tight

/-- a step without a collection: what is there stays, and what is new is held by the user or mentions live instances -/
structure Heap.Grows (h h' : Heap) : Prop where
  live : ∀ x ∈ h.live, x ∈ h'.live
  newLive : ∀ x ∈ h'.live, x ∈ h.live ∨ x.obj ∈ h'.held
  held : ∀ o ∈ h.held, o ∈ h'.held
  newHeld : ∀ o ∈ h'.held, o ∈ h.held ∨ h'.isLive o = true
  qvars : ∀ v ∈ h.qvars, v ∈ h'.qvars
  newQvars : ∀ v ∈ h'.qvars, v ∈ h.qvars ∨ (v.held = true ∧ ∀ o ∈ v.cache.getD [], h'.isLive o = true)
  fields : ∀ e ∈ h.fields, e ∈ h'.fields
  newFields : ∀ e ∈ h'.fields, e ∈ h.fields ∨ (h'.isLive e.owner = true ∧ h'.isLive e.val = true)

theorem HK.grows {q : Quirks} {h h' : Heap} (hk : HK q True h) (g : h.Grows h') : HK q True h' := by
  have hroots : ∀ o ∈ h.roots q, o ∈ h'.roots q := by
    intro o ho
    rcases mem_roots.1 ho with h1 | ⟨v, h1, h2, h3⟩
    · exact mem_roots.2 (Or.inl (g.held o h1))
    · exact mem_roots.2 (Or.inr ⟨v, g.qvars v h1, h2, h3⟩)
  refine HK.of_tight (hk.1.of g.live ?_ g.newFields ?_)
    ((hk.2.2 trivial).of (fun o ho => .root (hroots o ho)) g.fields ?_)
  · intro o ho
    rcases mem_roots.1 ho with h1 | ⟨v, h1, h2, h3⟩
    · rcases g.newHeld o h1 with h4 | h4
      · exact Or.inl (mem_roots.2 (Or.inl h4))
      · exact Or.inr h4
    · rcases g.newQvars v h1 with h4 | h4
      · exact Or.inl (mem_roots.2 (Or.inr ⟨v, h4, h2, h3⟩))
      · exact Or.inr (h4.2 o h3)
  · intro v hv
    rcases g.newQvars v hv with h4 | h4
    · exact hk.1.qheld v h4
    · simp [h4.1]
  · intro x hx
    rcases g.newLive x hx with h1 | h1
    · exact Or.inl h1
    · exact Or.inr (.root (mem_roots.2 (Or.inl h1)))

/-- only field contents change. Tightness (under `C`) needs every old reference to stay; the first two parts of `HK` do
not, roots and live instances being the same -/
theorem HK.fields {q : Quirks} {C : Prop} {h h' : Heap} (hk : HK q C h) (e1 : h'.live = h.live)
    (e2 : h'.held = h.held) (e3 : h'.qvars = h.qvars)
    (hf' : ∀ e ∈ h'.fields, e ∈ h.fields ∨ (h.isLive e.owner = true ∧ h.isLive e.val = true))
    (hf : C → ∀ e ∈ h.fields, e ∈ h'.fields) : HK q C h' := by
  have hr : h'.roots q = h.roots q := by
    simp only [Heap.roots, e2, e3]
  refine ⟨hk.1.fields e1 e2 e3 hf', ?_, fun hc => ?_⟩
  · rw [hr, e1]
    exact hk.2.1
  · exact (hk.2.2 hc).of (fun o ho => .root (hr ▸ ho)) (hf hc) (fun x hx => Or.inl (e1 ▸ hx))

theorem HK.congr {q : Quirks} {C : Prop} {h h' : Heap} (hk : HK q C h) (e1 : h'.live = h.live)
    (e2 : h'.held = h.held) (e3 : h'.fields = h.fields) (e4 : h'.qvars = h.qvars) : HK q C h' :=
  hk.fields e1 e2 e4 (fun _ he => Or.inl (e3 ▸ he)) (fun _ _ he => e3 ▸ he)

/-- a new instance, held by the user, whose constructor may have stored live instances in its fields -/
theorem HK.alloc {q : Quirks} {h h' : Heap} (hk : HK q True h) (x : HObj) (stored : List FEntry)
    (hst : ∀ e ∈ stored, e.owner = x.obj ∧ h.isLive e.val = true) (e1 : h'.live = h.live ++ [x])
    (e2 : h'.held = h.held ++ [x.obj]) (e3 : h'.fields = h.fields ++ stored) (e4 : h'.qvars = h.qvars) :
    HK q True h' := by
  have hsub : ∀ y ∈ h.live, y ∈ h'.live := fun y hy => e1 ▸ List.mem_append_left _ hy
  have hx : h'.isLive x.obj = true := isLive_of_mem (e1 ▸ mem_append_singleton.2 (Or.inr rfl))
  refine hk.grows
    { live := hsub
      newLive := ?_
      held := fun o ho => e2 ▸ List.mem_append_left _ ho
      newHeld := ?_
      qvars := fun _ hv => e4 ▸ hv
      newQvars := fun _ hv => Or.inl (e4 ▸ hv)
      fields := fun e he => e3 ▸ List.mem_append_left _ he
      newFields := ?_ }
  · intro y hy
    rcases mem_append_singleton.1 (e1 ▸ hy) with h1 | rfl
    · exact Or.inl h1
    · exact Or.inr (e2 ▸ mem_append_singleton.2 (Or.inr rfl))
  · intro o ho
    rcases mem_append_singleton.1 (e2 ▸ ho) with h1 | rfl
    · exact Or.inl h1
    · exact Or.inr hx
  · intro e he
    rcases List.mem_append.1 (e3 ▸ he) with h1 | h1
    · exact Or.inl h1
    · exact Or.inr ⟨(hst e h1).1 ▸ hx, isLive_mono hsub _ (hst e h1).2⟩

theorem HK_init (q : Quirks) (C : Prop) : HK q C Spec.init.h :=
  HK.of_tight (Heap.WF_iff.2 (by simp [Spec.init, Heap.empty])) (by simp [Heap.Tight, Spec.init, Heap.empty])

/-- the inference writes live instances into fields of live instances (a value it overwrites may be garbage until the
next collection). Carried through `specAddFact_inv`: nothing is created or dies, so "live" keeps its meaning; the ends of
every relation are live; well-formedness. -/
theorem Heap.WF.assert {q : Quirks} {S : Schema} {s : Spec} (hw : s.h.WF q)
    (hed : ∀ e ∈ s.edges, s.h.isLive e.src.obj = true ∧ s.h.isLive e.tgt.obj = true) (f : Fld) (a b : R)
    (ha : s.h.isLive a.obj = true) (hb : s.h.isLive b.obj = true) : (s.assert S f a b).h.WF q := by
  refine (specAddFact_inv S (fun s' => (s'.h.live = s.h.live ∧
      ∀ e ∈ s'.edges, s.h.isLive e.src.obj = true ∧ s.h.isLive e.tgt.obj = true) ∧ s'.h.WF q)
    (fun r => s.h.isLive r.obj = true) ?_ ?_ ?_ S.fuel s f a b false ⟨⟨rfl, hed⟩, hw⟩ ha hb).2
  · -- `record`: one more relation, between live ends; the field it writes, if any, is theirs
    rintro s' f a b inf ⟨⟨hl, he⟩, hw'⟩ ha hb
    refine ⟨⟨(record_live ..).trans hl, fun e hm => ?_⟩, hw'.record S f a b inf (isLive_eq_of_live hl ▸ ha)
      (isLive_eq_of_live hl ▸ hb)⟩
    have hm' : e ∈ s'.edges ++ [⟨f, a, b, inf⟩] := by
      unfold Spec.record at hm
      cases inf
      · exact hm
      · exact hm
    rcases mem_append_singleton.1 hm' with h0 | rfl
    · exact he e h0
    · exact ⟨ha, hb⟩
  · -- `ensure`: only the label of a live instance (a role taker) is registered
    rintro s' y ⟨⟨hl, he⟩, hw'⟩ hy
    exact ⟨⟨⟨hl, he⟩, hw'.ensure y⟩, isLive_of_mem (hl ▸ hy)⟩
  · -- the relations the transitive inference goes through have live ends
    rintro s' e ⟨⟨_, he⟩, _⟩ hm
    exact he e hm

theorem ensure_isLive (s : Spec) (x : HObj) : (s.ensure x).h.isLive = s.h.isLive := isLive_eq_of_live rfl

theorem Heap.WF.wrapAssert {q : Quirks} {S : Schema} {s : Spec} (hw : s.h.WF q)
    (hed : ∀ e ∈ s.edges, s.h.isLive e.src.obj = true ∧ s.h.isLive e.tgt.obj = true) (f : Fld) {x y : HObj}
    (hx : x ∈ s.h.live) (hy : y ∈ s.h.live) :
    (((s.ensure x).ensure y).assert S f ⟨x.obj, x.cls⟩ ⟨y.obj, y.cls⟩).h.WF q := by
  -- rewriting with `hi` spares the unifier the walk through `Spec.ensure` at every use of `isLive`
  have hi : ((s.ensure x).ensure y).h.isLive = s.h.isLive := (ensure_isLive _ y).trans (ensure_isLive s x)
  refine Heap.WF.assert (s := (s.ensure x).ensure y) ((hw.ensure x).ensure y) (fun e hm => ?_) f _ _ ?_ ?_
  · rw [hi]
    exact hed e hm
  · rw [hi]
    exact isLive_of_mem hx
  · rw [hi]
    exact isLive_of_mem hy

/-- everything a specification state mentions is alive (in the heap: `HK`; in the registry and the relation graph: `reg`,
`edges`), and nothing is alive that the user cannot reach (`HK`) -/
structure SpecOK (q : Quirks) (s : Spec) : Prop where
  hk : HK q True s.h
  reg : ∀ r ∈ s.reg, s.h.isLive r.obj = true
  edges : ∀ e ∈ s.edges, s.h.isLive e.src.obj = true ∧ s.h.isLive e.tgt.obj = true

/-- A collection re-establishes `HK` from well-formedness alone, and `prune` filters registry and relation graph by the
very liveness `SpecOK` asks for: nothing is needed of the state before but a well-formed heap. -/
theorem SpecOK.prune {q : Quirks} (s : Spec) {h1 : Heap} (hw : h1.WF q) :
    SpecOK q ({ s with h := h1.collect q } : Spec).prune :=
  ⟨HK.collect hw, fun _ hr => (List.mem_filter.1 hr).2,
    fun _ he => Bool.and_eq_true_iff.1 (List.mem_filter.1 he).2⟩

theorem SpecOK.grow {q : Quirks} {s s' : Spec} (h : SpecOK q s) (hk : HK q True s'.h)
    (hl : ∀ o, s.h.isLive o = true → s'.h.isLive o = true)
    (hreg : ∀ r ∈ s'.reg, r ∈ s.reg ∨ s'.h.isLive r.obj = true)
    (hedges : ∀ e ∈ s'.edges, e ∈ s.edges ∨ s'.h.isLive e.src.obj = true ∧ s'.h.isLive e.tgt.obj = true) :
    SpecOK q s' :=
  ⟨hk, fun r hr => (hreg r hr).elim (fun h0 => hl _ (h.reg r h0)) id,
    fun e he => (hedges e he).elim (fun h0 => ⟨hl _ (h.edges e h0).1, hl _ (h.edges e h0).2⟩) id⟩

theorem SpecOK.ensure {q : Quirks} {s : Spec} (h : SpecOK q s) (x : HObj) (hx : x ∈ s.h.live) :
    SpecOK q (s.ensure x) := by
  refine h.grow (h.hk.congr rfl rfl rfl rfl) (fun _ h0 => h0) (fun r hr => ?_) (fun _ he => Or.inl he)
  have hr' : r ∈ (if s.reg.any (fun r => r.obj == x.obj) then s.reg else s.reg ++ [⟨x.obj, x.cls⟩]) := hr
  split at hr'
  · exact Or.inl hr'
  · refine (mem_append_singleton.1 hr').imp id fun h0 => ?_
    rw [h0]
    exact isLive_of_mem hx

theorem specOK_init (q : Quirks) : SpecOK q Spec.init :=
  ⟨HK_init q _, nofun, nofun⟩

theorem census_live {q : Quirks} {S : Schema} {s : Spec} (hr : ∀ r ∈ s.reg, s.h.isLive r.obj = true) (T : Cls) :
    ∀ o ∈ s.census q S T, s.h.isLive o = true := by
  intro o ho
  unfold Spec.census at ho
  obtain ⟨c, _, hc⟩ := List.mem_flatMap.1 ho
  obtain ⟨r, hr', rfl⟩ := List.mem_map.1 hc
  exact hr r (List.mem_filter.1 hr').1

/-- The operations that can release a reference end with a collection and a pruning (`SpecOK.prune`: all that is asked of
the heap before is well-formedness, component by component: `Heap.WF_iff`); the others only add (`SpecOK.grow`). -/
theorem specStep_ok (q : Quirks) (S : Schema) (s : Spec) (op : Op) (h : SpecOK q s) : SpecOK q (specStep q S s op) := by
  have hk := h.hk
  obtain ⟨hh, hq, hf⟩ := Heap.WF_iff.1 hk.1
  have create : ∀ (o : Obj) (c : Cls) (pid : Nat) (stored fields : List FEntry),
      (∀ e ∈ stored, e.owner = o ∧ s.h.isLive e.val = true) → fields = s.h.fields ++ stored →
      SpecOK q { s with reg := s.reg ++ [⟨o, c⟩],
                        h := { s.h with live := s.h.live ++ [⟨o, c, pid⟩], used := s.h.used ++ [o],
                                        held := s.h.held ++ [o], epoch := s.h.epoch ++ [o], fields := fields } } := by
    intro o c pid stored fields hst hfl
    refine h.grow (hk.alloc ⟨o, c, pid⟩ stored hst rfl rfl hfl rfl)
      (isLive_mono fun x hx => List.mem_append_left _ hx) (fun r hr => ?_) (fun _ he => Or.inl he)
    refine (mem_append_singleton.1 hr).imp id fun h0 => ?_
    rw [h0]
    exact isLive_of_mem (x := ⟨o, c, pid⟩) (mem_append_singleton.2 (Or.inr rfl))
  cases op with
  | new o c pid =>
    simp only [specStep]
    split
    · exact h
    · exact create o c pid [] _ (fun _ he => nomatch he) (List.append_nil _).symm
  | newrole o c pid t =>
    simp only [specStep]
    split
    · exact h
    · rename_i hguard
      have ht : s.h.isLive t = true := by
        simp only [Bool.or_eq_true, not_or] at hguard
        simpa using hguard.2
      refine create o c pid (match S.takerFld c with | some tf => [⟨o, tf, t⟩] | none => []) _ ?_ ?_
      · intro e he
        cases hT : S.takerFld c <;> simp only [hT, List.mem_singleton, List.not_mem_nil] at he
        exact he ▸ ⟨rfl, ht⟩
      · cases S.takerFld c <;> simp
  | sweep => exact h
  | clear => exact ⟨hk.congr rfl rfl rfl rfl, nofun, nofun⟩
  | rel f a b =>
    simp only [specStep]
    split
    · rename_i xa xb hfa hfb
      have hxa := (find_some hfa).1
      have hxb := (find_some hfb).1
      have h2 := (h.ensure xa hxa).ensure xb hxb
      split
      · exact h2
      · refine h2.grow h2.hk (fun _ h0 => h0) (fun _ hr => Or.inl hr) fun e he =>
          (mem_append_singleton.1 he).imp id fun h0 => ?_
        rw [h0]
        exact ⟨isLive_of_mem hxa, isLive_of_mem hxb⟩
    · exact h
  | drop l => exact SpecOK.prune s (Heap.WF_iff.2 ⟨fun o ho => hh o (List.mem_filter.1 ho).1, hq, hf⟩)
  | set f a b =>
    simp only [specStep]
    split
    · rename_i xa xb hfa hfb
      obtain ⟨hxa, rfl⟩ := find_some hfa
      obtain ⟨hxb, rfl⟩ := find_some hfb
      have hla : s.h.isLive xa.obj = true := isLive_of_mem hxa
      have hlb : s.h.isLive xb.obj = true := isLive_of_mem hxb
      split
      · -- a scalar field: the value is written, then the relation asserted
        have hl := write_live S s.h f xa.obj xb.obj
        exact SpecOK.prune _ (Heap.WF.wrapAssert (s := { s with h := s.h.write S f xa.obj xb.obj })
          (hk.1.write S f _ _ hla hlb) (fun e he => isLive_eq_of_live hl ▸ h.edges e he) f (hl.symm ▸ hxa)
          (hl.symm ▸ hxb))
      · -- a container field: the relation is asserted, then the item goes in
        have hl := assert_live S ((s.ensure xa).ensure xb) f ⟨xa.obj, xa.cls⟩ ⟨xb.obj, xb.cls⟩
        exact SpecOK.prune _ ((Heap.WF.wrapAssert hk.1 h.edges f hxa hxb).write S f _ _ (isLive_of_mem (hl.symm ▸ hxa))
          (isLive_of_mem (hl.symm ▸ hxb)))
    · exact h
  | mkq k c dom =>
    simp only [specStep]
    split
    · exact h
    · refine h.grow (hk.grows
        { live := fun _ hx => hx
          newLive := fun _ hx => Or.inl hx
          held := fun _ ho => ho
          newHeld := fun _ ho => Or.inl ho
          qvars := fun _ hv => List.mem_append_left _ hv
          newQvars := ?_
          fields := fun _ he => he
          newFields := fun _ he => Or.inl he }) (fun _ h0 => h0) (fun _ hr => Or.inl hr) (fun _ he => Or.inl he)
      intro v hv
      rcases mem_append_singleton.1 hv with h0 | h0
      · exact Or.inl h0
      · -- the cached domain of the new query object: what is alive of the instances the user passed
        rw [h0]
        refine Or.inr ⟨rfl, fun o ho => ?_⟩
        cases dom with
        | none => simp at ho
        | some d =>
          have h2 := (List.mem_filter.1 ho).2
          cases hfo : s.h.find o with
          | none => simp [hfo] at h2
          | some x => exact (isLive_iff _ _).2 ⟨x, find_some hfo⟩
  | evalq k =>
    simp only [specStep]
    split
    · exact h
    · rename_i v hv
      refine SpecOK.prune s (hk.1.recordEval S k v _ ?_)
      intro o ho
      unfold Spec.evalQuery at ho
      split at ho
      · rename_i c hc
        split at ho
        · exact (hq v (List.mem_of_find?_eq_some hv)).2 o (by simp [hc, ho])
        · exact census_live h.reg _ o ho
      · exact census_live h.reg _ o ho
  | dropq k =>
    simp only [specStep]
    split
    · exact h
    · split
      · exact h
      · exact SpecOK.prune s (hk.1.dropQuery k)

theorem specRun_ok (q : Quirks) (S : Schema) (ops : List Op) : SpecOK q (specRun q S ops) :=
  List.foldlRecOn (motive := SpecOK q) ops _ (specOK_init q) fun s h op _ => specStep_ok q S s op h

end KrroodVerif.SG
