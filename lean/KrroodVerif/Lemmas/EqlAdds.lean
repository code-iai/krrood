import KrroodVerif.Lemmas.EqlCover
import KrroodVerif.Model.EqlQuantFrag
/-!
What an evaluation does to the environment, for EVERY expression, quantifiers included and without side conditions. Core Lean
only.

A result cell is `pre ++ env`; `pre` binds keys of the expression, each binding a copy of one of `env` or a variable inside its
domain (`Adds`, `eval_adds`). `Grows` of `Lemmas/EqlCover.lean` says more (fresh, duplicate-free) but only without quantifiers:
a `ForAll` lists the keys of its candidate twice. What survives is that a functional environment stays functional (`EnvFn`).
On top of it, the keys every cell of a given truth value binds (`bK_sound`, `tb_sound` for `Expr.bK`, `Expr.tb` of
`Model/EqlQuantFrag.lean`).
-/
namespace KrroodVerif.Eql

/-! ## Functional environments -/

/-- `ForAll` re-appends the candidate's copy of outer bindings, so its results may list a key twice; with one value -/
def EnvFn (env : Env) : Prop := ∀ k x y, (k, x) ∈ env → (k, y) ∈ env → x = y

theorem EnvFn.of_nodup {env : Env} (h : (keys env).Nodup) : EnvFn env :=
  fun _ _ _ hx hy => congrArg Prod.snd (nodup_map_inj h hx hy rfl)

theorem EnvFn.append {pre env : Env} (h : EnvFn env) (hn : (keys pre).Nodup) (hf : ∀ b ∈ pre, env.lookup b.1 = none) :
    EnvFn (pre ++ env) := by
  intro k a b ha hb
  rcases List.mem_append.mp ha with ha | ha <;> rcases List.mem_append.mp hb with hb | hb
  · exact EnvFn.of_nodup hn k a b ha hb
  · exact absurd (mem_keys hb) (lookup_eq_none_iff_not_mem_keys.1 (hf _ ha))
  · exact absurd (mem_keys ha) (lookup_eq_none_iff_not_mem_keys.1 (hf _ hb))
  · exact h k a b ha hb

theorem EnvFn.cons {env : Env} (h : EnvFn env) {k : Key} {x : Val} (hk : env.lookup k = none) : EnvFn ((k, x) :: env) :=
  h.append (pre := [(k, x)]) (by simp [keys]) (List.forall_mem_singleton.2 hk)

theorem EnvFn.subset {a b : Env} (h : EnvFn a) (hs : ∀ x ∈ b, x ∈ a) : EnvFn b :=
  fun k x y hx hy => h k x y (hs _ hx) (hs _ hy)

/-! ## What the two quantifiers return -/

theorem existsFilter_cons_ok {w : World} {u : VarId} {env1 : Env} {t : Bool} {rest : List (Env × Bool)}
    {seen : List Val} {rs : List (Env × Bool)} (h : existsFilter w u ((env1, t) :: rest) seen = .ok rs) :
    ∃ x, env1.lookup (.var u) = some x ∧
      if (t && !valIn w x seen) = true then
        ∃ r, existsFilter w u rest (seen ++ [x]) = .ok r ∧ rs = (env1, true) :: r
      else existsFilter w u rest seen = .ok rs := by
  unfold existsFilter at h
  cases hl : env1.lookup (.var u) with
  | none => simp [hl] at h
  | some x =>
    simp only [hl] at h
    refine ⟨x, rfl, ?_⟩
    split at h
    · rename_i hc
      simp only [bind_eq_ok, pure_eq_ok] at h
      obtain ⟨r, hr, rfl⟩ := h
      rw [if_pos hc]
      exact ⟨r, hr, rfl⟩
    · rename_i hc
      rw [if_neg hc]
      exact h

theorem existsFilter_sub (w : World) (q : VarId) : ∀ (rs : List (Env × Bool)) (seen : List Val) (out : List (Env × Bool)),
    existsFilter w q rs seen = .ok out → ∀ p ∈ out, p.2 = true ∧ (p.1, true) ∈ rs := by
  intro rs
  induction rs with
  | nil =>
    intro seen out h
    simp only [existsFilter] at h
    cases h
    simp
  | cons a rest ih =>
    intro seen out h p hp
    obtain ⟨env1, t⟩ := a
    obtain ⟨x, _, h⟩ := existsFilter_cons_ok h
    split at h
    · rename_i hcond
      obtain ⟨r, hr, rfl⟩ := h
      simp only [Bool.and_eq_true] at hcond
      rcases List.mem_cons.mp hp with rfl | hp
      · exact ⟨rfl, by rw [hcond.1]; exact List.mem_cons_self⟩
      · exact ⟨(ih _ _ hr p hp).1, List.mem_cons_of_mem _ (ih _ _ hr p hp).2⟩
    · exact ⟨(ih _ _ h p hp).1, List.mem_cons_of_mem _ (ih _ _ h p hp).2⟩

/-- `Exists` looks its variable up in EVERY condition result, true or false (F-C01-7) -/
theorem existsFilter_ok_iff (w : World) (q : VarId) (rs : List (Env × Bool)) (seen : List Val) :
    (∃ out, existsFilter w q rs seen = .ok out) ↔ ∀ p ∈ rs, (p.1.lookup (.var q)).isSome = true := by
  induction rs generalizing seen with
  | nil => exact ⟨fun _ => nofun, fun _ => ⟨[], rfl⟩⟩
  | cons a rest ih =>
    obtain ⟨env1, t⟩ := a
    rw [List.forall_mem_cons]
    cases hl : env1.lookup (.var q) with
    | none => simp [existsFilter, hl]
    | some x =>
      simp only [existsFilter, hl, Option.isSome_some, true_and]
      split
      · rw [← ih (seen ++ [x])]
        exact ⟨fun ⟨_, h⟩ => (bind_ok h).imp fun _ hr => hr.1,
          fun ⟨r, hr⟩ => ⟨(env1, true) :: r, by rw [hr]; rfl⟩⟩
      · exact ih seen

theorem eval_exists_inv {w : World} {q : VarId} {c : Expr} {env : Env} {out : List (Env × Bool)}
    (h : eval w (.exists_ q c) env = .ok out) :
    ∃ rs0, eval w c env = .ok rs0 ∧ existsFilter w q rs0 [] = .ok out := by
  simp only [eval] at h
  exact bind_ok h

theorem foldlM_filter_ok {α β} (F : β → α → Except Err Bool) : ∀ (rest : List β) (cands final : List α),
    rest.foldlM (fun sols qv => sols.filterM (F qv)) cands = .ok final →
    (∀ sol ∈ final, sol ∈ cands ∧ ∀ qv ∈ rest, F qv sol = .ok true) ∧
    (∀ sol ∈ cands, (∀ qv ∈ rest, ∀ b, F qv sol = .ok b → b = true) → sol ∈ final) := by
  intro rest
  induction rest with
  | nil =>
    intro cands final h
    rw [List.foldlM_nil] at h
    have := pure_ok h
    subst this
    exact ⟨fun sol hs => ⟨hs, by simp⟩, fun sol hs _ => hs⟩
  | cons qv rest ih =>
    intro cands final h
    rw [List.foldlM_cons] at h
    obtain ⟨sols1, h1, h⟩ := bind_ok h
    obtain ⟨g, hg, rfl⟩ := filterM_ok h1
    obtain ⟨ih1, ih2⟩ := ih _ _ h
    constructor
    · intro sol hs
      obtain ⟨hm, hall⟩ := ih1 sol hs
      obtain ⟨hm1, hm2⟩ := List.mem_filter.mp hm
      refine ⟨hm1, ?_⟩
      intro qv' hqv'
      rcases List.mem_cons.mp hqv' with rfl | hqv'
      · rw [hg sol hm1, hm2]
      · exact hall qv' hqv'
    · intro sol hs hall
      apply ih2 sol
      · exact List.mem_filter.mpr ⟨hs, hall qv List.mem_cons_self _ (hg sol hs)⟩
      · intro qv' hqv'
        exact hall qv' (List.mem_cons_of_mem _ hqv')

/-- the step of the list model's `ForAll` (`eval`, clause `.forAll`): a re-check reads the flag of the FIRST result -/
abbrev forAllStep (w : World) (c : Expr) (sols : List Env) (qv : Env × Val × Bool) : Except Err (List Env) :=
  sols.filterM fun sol => do
    let rs ← eval w c (merge sol qv.1)
    pure (match rs with | r :: _ => r.2 | [] => false)

theorem eval_forAll_inv {w : World} {q : VarId} {c : Expr} {env : Env} {out : List (Env × Bool)}
    (h : eval w (.forAll q c) env = .ok out) :
    ∃ first rest c0 final, evalVar w q env = first :: rest ∧ eval w c first.1 = .ok c0 ∧
      rest.foldlM (forAllStep w c)
        ((c0.filter (·.2)).map fun p => restrict p.1 (c.nodes.filter (· != .var q))) = .ok final ∧
      out = final.map fun sol => (merge env sol, true) := by
  simp only [eval] at h
  split at h
  · cases h
  · rename_i first rest hev
    obtain ⟨c0, h0, h⟩ := bind_ok h
    obtain ⟨final, hf, h⟩ := bind_ok h
    exact ⟨first, rest, c0, final, hev, h0, hf, (pure_ok h).symm⟩

theorem foldlM_forAllStep_nil (w : World) (c : Expr) (qs : List (Env × Val × Bool)) (final : List Env)
    (h : qs.foldlM (forAllStep w c) [] = .ok final) : final = [] :=
  List.eq_nil_iff_forall_not_mem.2 fun sol hs => List.not_mem_nil ((foldlM_filter_ok _ _ _ _ h).1 sol hs).1

theorem mem_restrict {env : Env} {ids : List Key} {b : Key × Val} :
    b ∈ restrict env ids ↔ b ∈ env ∧ b.1 ∈ ids := by
  simp [restrict, List.mem_filter]

/-! ## The shape of result cells -/

/-- what ANY evaluation does to the environment: new bindings in front, of keys among `ks`, each a copy of an old
binding or a variable bound inside its domain; functional stays functional -/
def Adds (w : World) (ks : List Key) (env env' : Env) : Prop :=
  ∃ pre, env' = pre ++ env ∧
    (∀ b ∈ pre, b.1 ∈ ks ∧ (b ∈ env ∨ ∀ v, b.1 = Key.var v → b.2 ∈ w.dom v)) ∧ (EnvFn env → EnvFn env')

theorem Adds.refl (w : World) (ks : List Key) (env : Env) : Adds w ks env env := ⟨[], rfl, by simp, id⟩

theorem Adds.trans {w : World} {k1 k2 : List Key} {a b c : Env} (h1 : Adds w k1 a b) (h2 : Adds w k2 b c) :
    Adds w (k1 ++ k2) a c := by
  obtain ⟨p1, rfl, hp1, hf1⟩ := h1
  obtain ⟨p2, rfl, hp2, hf2⟩ := h2
  refine ⟨p2 ++ p1, by simp, fun x hx => ?_, fun h => hf2 (hf1 h)⟩
  rcases List.mem_append.mp hx with hx | hx
  · refine ⟨List.mem_append_right _ (hp2 x hx).1, ?_⟩
    rcases (hp2 x hx).2 with hv | hv
    · exact (List.mem_append.mp hv).elim (fun hv => (hp1 x hv).2) Or.inl
    · exact Or.inr hv
  · exact ⟨List.mem_append_left _ (hp1 x hx).1, (hp1 x hx).2⟩

theorem Adds.mono {w : World} {k1 k2 : List Key} {a b : Env} (h : Adds w k1 a b) (hs : ∀ k ∈ k1, k ∈ k2) :
    Adds w k2 a b := by
  obtain ⟨p, rfl, hp, hf⟩ := h
  exact ⟨p, rfl, fun x hx => ⟨hs _ (hp x hx).1, (hp x hx).2⟩, hf⟩

theorem Adds.envFn {w : World} {ks : List Key} {a b : Env} (h : Adds w ks a b) (hk : EnvFn a) : EnvFn b := by
  obtain ⟨_, _, _, hf⟩ := h
  exact hf hk

theorem Adds.isSome {w : World} {ks : List Key} {a b : Env} (h : Adds w ks a b) {k : Key}
    (hk : (a.lookup k).isSome = true) : (b.lookup k).isSome = true := by
  obtain ⟨p, rfl, _, _⟩ := h
  exact isSome_lookup_append_right hk

theorem Grows.toAdds {w : World} {vs : List VarId} {L : List (Nat × Val)} {ks : List Key} {a b : Env}
    (h : Grows w vs L a b) (hv : ∀ v ∈ vs, Key.var v ∈ ks) (hL : ∀ id x, (id, x) ∈ L → Key.lit id ∈ ks) :
    Adds w ks a b := by
  obtain ⟨pre, rfl, hn, hf, hp⟩ := h
  refine ⟨pre, rfl, fun p hpm => ⟨?_, Or.inr fun v hk => ((hp p hpm).1 v hk).2⟩, fun hk => hk.append hn hf⟩
  cases hk : p.1 with
  | var v => exact hv v ((hp p hpm).1 v hk).1
  | lit id => exact hL id p.2 ((hp p hpm).2 id hk)

theorem evalVar_adds {w : World} {q : VarId} {env : Env} {r : Env × Val × Bool} (hr : r ∈ evalVar w q env) :
    Adds w [.var q] env r.1 := by
  unfold evalVar at hr
  split at hr
  · rw [List.mem_singleton] at hr
    subst hr
    exact Adds.refl w _ _
  · rename_i hq
    obtain ⟨x, hx, rfl⟩ := List.mem_map.mp hr
    refine ⟨[(.var q, x)], rfl, fun b hb => ?_, fun hk => hk.cons hq⟩
    rw [List.mem_singleton] at hb
    subst hb
    exact ⟨List.mem_singleton.mpr rfl, Or.inr fun v hv => by cases hv; exact hx⟩

theorem eval_adds (w : World) (e : Expr) :
    ∀ env rs, eval w e env = .ok rs → ∀ p ∈ rs, Adds w e.nodes env p.1 := by
  induction e with
  | cmp _ l r | contains l r | truth t | hasType t c =>
    intro env rs h p hp
    exact (eval_grows w _ rfl env rs h p hp).toAdds (fun _ hv => Expr.mem_nodes_var.mpr hv) fun _ _ => mem_lits_nodes
  | and l r ihl ihr | elseIf l r ihl ihr =>
    intro env rs h p hp
    obtain ⟨ls, g, h0, rfl, hg⟩ := eval_seq_inv rfl h
    obtain ⟨a, ha, hp⟩ := List.mem_flatMap.mp hp
    exact (ihl env ls h0 a ha).trans (branch_rel (Adds.refl w _) (ihr a.1) (hg a ha).1 (hg a ha).2 p hp)
  | union l r ihl ihr =>
    intro env rs h p hp
    obtain ⟨ls, g, rr, h0, hr, rfl, hg⟩ := eval_union_inv h
    rcases List.mem_append.mp hp with hp | hp
    · obtain ⟨a, ha, hp⟩ := List.mem_flatMap.mp hp
      exact (ihl env ls h0 a ha).trans (branch_rel (Adds.refl w _) (ihr a.1) (hg a ha).1 (hg a ha).2 p hp)
    · exact (ihr env rr hr p hp).mono (List.subset_append_right _ _)
  | not e ih =>
    intro env rs h p hp
    obtain ⟨rs0, h0, rfl⟩ := eval_not_inv h
    obtain ⟨r, hr, rfl⟩ := List.mem_map.mp hp
    exact ih env rs0 h0 r hr
  | exists_ q c ih =>
    intro env rs h p hp
    obtain ⟨rs0, h0, hfil⟩ := eval_exists_inv h
    exact (ih env rs0 h0 _ (existsFilter_sub w q rs0 [] rs hfil p hp).2).mono fun k hk => List.mem_cons_of_mem _ hk
  | forAll q c ih =>
    intro env rs h p hp
    obtain ⟨first, rest, c0, final, hev, h0, hfold, rfl⟩ := eval_forAll_inv h
    obtain ⟨sol, hsol, rfl⟩ := List.mem_map.mp hp
    obtain ⟨a, ha, rfl⟩ := List.mem_map.mp ((foldlM_filter_ok _ _ _ _ hfold).1 sol hsol).1
    -- the cell `a` the candidate was cut from holds every binding of the result
    obtain ⟨pre, hpe, hpre, hfn⟩ :=
      (evalVar_adds (hev ▸ List.mem_cons_self)).trans (ih first.1 c0 h0 a (List.mem_filter.mp ha).1)
    have hsub : ∀ b ∈ restrict a.1 (c.nodes.filter (· != .var q)) ++ env, b ∈ a.1 := fun b hb =>
      (List.mem_append.mp hb).elim (fun hb => (mem_restrict.mp hb).1) fun hb => hpe ▸ List.mem_append_right _ hb
    -- the result `merge env sol` is `sol ++ env` by definition, `sol` being `a` restricted to the keys of `c` other than `q`
    refine ⟨_, rfl, fun b hb => ?_, fun hk => (hfn hk).subset hsub⟩
    obtain ⟨hba, hbo⟩ := mem_restrict.mp hb
    refine ⟨List.mem_cons_of_mem _ (List.mem_filter.mp hbo).1, ?_⟩
    rw [hpe] at hba
    exact (List.mem_append.mp hba).elim (fun hba => (hpre b hba).2) Or.inl

/-! ## Keys bound by every cell of a given flag -/

/-- the cell `a` of `eval_seq_inv` by its flag: refined by the right side, or passed on -/
theorem seq_cases {P Q : Prop} {b c : Bool} (h : (b = c → P) ∧ (b = !c → Q)) : b = c ∧ P ∨ b = !c ∧ Q := by
  by_cases hb : b = c
  · exact .inl ⟨hb, h.1 hb⟩
  · exact .inr ⟨Bool.eq_not_of_ne hb, h.2 (Bool.eq_not_of_ne hb)⟩

/-- one conjunct for each kind of cell flagged `pol` (`seq_cases`): a cell of `l` flagged `c` refined by `r`, and, for
`pol = !c`, a cell of `l` passed on -/
theorem Expr.mem_bK_seq {e l r : Expr} {c : Bool} (he : e.seqFlag = some (c, l, r)) {pol : Bool} {k : Key}
    (hk : k ∈ Expr.bK pol e) : (k ∈ Expr.bK c l ∨ k ∈ Expr.bK pol r) ∧ (pol = !c → k ∈ Expr.bK (!c) l) := by
  cases e <;> cases he <;> cases pol
  all_goals simp only [Expr.bK, List.mem_filter, List.contains_iff_mem, List.mem_append] at hk
  · exact ⟨hk.2, fun _ => hk.1⟩
  · exact ⟨hk, nofun⟩
  · exact ⟨hk, nofun⟩
  · exact ⟨hk.2, fun _ => hk.1⟩

theorem bK_sound (w : World) (e : Expr) : ∀ env rs, eval w e env = .ok rs → ∀ p ∈ rs, ∀ pol, p.2 = pol →
    ∀ k ∈ Expr.bK pol e, (p.1.lookup k).isSome = true := by
  induction e with
  | cmp op l r | contains l r =>
    intro env rs h p hp pol _ k hk
    simp only [eval] at h
    cases pol <;> exact evalCmp_binds h p hp k hk
  | truth t =>
    intro env rs h p hp pol _ k hk
    obtain ⟨rs0, h0, rfl⟩ := eval_truth_inv h
    obtain ⟨r, hr, rfl⟩ := List.mem_map.mp hp
    cases pol <;> exact evalTerm_binds w t true env rs0 h0 r hr k hk
  | hasType t c =>
    intro env rs h p hp pol _ k hk
    obtain ⟨rs0, h0, rfl⟩ := eval_hasType_inv h
    obtain ⟨r, hr, rfl⟩ := List.mem_map.mp hp
    cases pol <;> exact evalTerm_binds w t false env rs0 h0 r hr k hk
  | and l r ihl ihr | elseIf l r ihl ihr =>
    intro env rs h p hp pol hpol k hk
    obtain ⟨ls, g, h0, rfl, hg⟩ := eval_seq_inv rfl h
    obtain ⟨a, ha, hp⟩ := List.mem_flatMap.mp hp
    obtain ⟨hk1, hk2⟩ := Expr.mem_bK_seq rfl hk
    rcases seq_cases (hg a ha) with ⟨ha2, hr⟩ | ⟨ha2, hga⟩
    · -- a cell of `l` refined by `r`: bound by `l` (and kept), or bound by `r`
      exact hk1.elim (fun hk => (eval_adds w r a.1 _ hr p hp).isSome (ihl env ls h0 a ha _ ha2 k hk))
        (ihr a.1 _ hr p hp pol hpol k)
    · rw [hga, List.mem_singleton] at hp
      subst hp
      exact ihl env ls h0 a ha _ ha2 k (hk2 hpol.symm)
  | not e ih =>
    intro env rs h p hp pol hpol k hk
    obtain ⟨rs0, h0, rfl⟩ := eval_not_inv h
    obtain ⟨r, hr, rfl⟩ := List.mem_map.mp hp
    simp only [Expr.bK] at hk
    refine ih env rs0 h0 r hr (!pol) ?_ k hk
    simp only at hpol
    rw [← hpol]
    simp
  | union l r _ _ | exists_ v e _ | forAll v e _ =>
    intro env rs h p hp pol _ k hk
    cases pol <;> simp [Expr.bK] at hk

theorem tb_sound (w : World) (e : Expr) : ∀ env rs, eval w e env = .ok rs → ∀ p ∈ rs, p.2 = true →
    ∀ k ∈ e.tb, (p.1.lookup k).isSome = true := by
  induction e with
  | and l r ihl ihr =>
    intro env rs h p hp hpt k hk
    obtain ⟨ls, g, h0, rfl, hg⟩ := eval_seq_inv rfl h
    obtain ⟨a, ha, hpa⟩ := List.mem_flatMap.mp hp
    rcases seq_cases (hg a ha) with ⟨hat, hr⟩ | ⟨_, hga⟩
    · rcases List.mem_append.mp hk with hk | hk
      · exact (eval_adds w r a.1 _ hr p hpa).isSome (ihl env ls h0 a ha hat k hk)
      · exact ihr a.1 _ hr p hpa hpt k hk
    · rw [hga, List.mem_singleton] at hpa
      rw [hpa] at hpt
      cases hpt
  | exists_ q φ _ =>
    intro env rs h p hp hpt k hk
    obtain ⟨rs0, h0, hfil⟩ := eval_exists_inv h
    exact bK_sound w φ env rs0 h0 _ (existsFilter_sub w q rs0 [] rs hfil p hp).2 true rfl k hk
  | forAll q φ _ =>
    intro env rs h p hp hpt k hk
    simp [Expr.tb] at hk
  | _ =>
    intro env rs h p hp hpt k hk
    exact bK_sound w _ env rs h p hp true hpt k hk

end KrroodVerif.Eql
