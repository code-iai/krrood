import KrroodVerif.Lemmas.SymbolGraphInv
/-!
Reachability in the heap of `Model/SymbolGraph.lean`: the inductive relation `Reach`; the fuelled worklist `Heap.reach` is
sound and complete for it (fuel `live.length + 1` is adequate on a heap whose roots and field values are live, `Heap.WF`);
`Heap.collect` keeps `Heap.WF` and leaves no garbage; the heap operations of the model keep `Heap.WF` (used by the run-level
theorem `C20_no_garbage_run`, Props/C20Run.lean).
-/
namespace KrroodVerif.SG

/-- `o` is reachable from `roots` along strong references held in field contents -/
inductive Reach (h : Heap) (roots : List Obj) : Obj → Prop
  | root {o : Obj} : o ∈ roots → Reach h roots o
  | step {o o' : Obj} : Reach h roots o → o' ∈ h.succ o → Reach h roots o'

theorem mem_succ {h : Heap} {o o' : Obj} : o' ∈ h.succ o ↔ ∃ e ∈ h.fields, e.owner = o ∧ e.val = o' := by
  simp only [Heap.succ, List.mem_map, List.mem_filter, beq_iff_eq]
  constructor
  · rintro ⟨e, ⟨h1, h2⟩, h3⟩
    exact ⟨e, h1, h2, h3⟩
  · rintro ⟨e, h1, h2, h3⟩
    exact ⟨e, ⟨h1, h2⟩, h3⟩

theorem Reach.mono {h h' : Heap} {r r' : List Obj} (hr : ∀ o ∈ r, Reach h' r' o)
    (hf : ∀ e ∈ h.fields, e ∈ h'.fields) {o : Obj} (ho : Reach h r o) : Reach h' r' o := by
  induction ho with
  | root h1 => exact hr _ h1
  | step _ h2 ih =>
    obtain ⟨e, he, h3, h4⟩ := mem_succ.1 h2
    exact .step ih (mem_succ.2 ⟨e, hf e he, h3, h4⟩)

theorem Reach.nil {h : Heap} {o : Obj} (ho : Reach h [] o) : False := by
  induction ho with
  | root h1 => cases h1
  | step _ _ ih => exact ih

theorem reach_round {h : Heap} {seen : List Obj} {x : Obj}
    (hx : x ∈ seen ++ ((seen.flatMap h.succ).filter (fun x => !seen.contains x)).eraseDups) : Reach h seen x := by
  rcases List.mem_append.1 hx with h1 | h1
  · exact .root h1
  · have h2 := List.mem_eraseDups.1 h1
    obtain ⟨h3, _⟩ := List.mem_filter.1 h2
    obtain ⟨y, hy, hxy⟩ := List.mem_flatMap.1 h3
    exact .step (.root hy) hxy

theorem reach_sound (h : Heap) : ∀ (n : Nat) (seen : List Obj) (o : Obj), o ∈ h.reach n seen → Reach h seen o := by
  intro n seen o ho
  fun_induction Heap.reach h n seen with
  | case1 | case2 => exact .root ho
  | case3 n seen nxt _ ih =>
    -- another round: what it returns is reachable from `seen ++ nxt.eraseDups`, and that from `seen`
    exact Reach.mono (fun x hx => reach_round hx) (fun _ he => he) (ih ho)

theorem mem_of_reach_of_closed {h : Heap} {seen : List Obj}
    (hnil : (seen.flatMap h.succ).filter (fun x => !seen.contains x) = []) {o : Obj} (ho : Reach h seen o) :
    o ∈ seen := by
  induction ho with
  | root h1 => exact h1
  | @step o1 o2 _ h2 ih =>
    by_cases hc : o2 ∈ seen
    · exact hc
    · have hmem : o2 ∈ (seen.flatMap h.succ).filter (fun x => !seen.contains x) :=
        List.mem_filter.2 ⟨List.mem_flatMap.2 ⟨o1, ih, h2⟩, by simpa using hc⟩
      rw [hnil] at hmem
      cases hmem

/-- completeness of `Heap.reach`, fuel adequacy: every round but the last adds a new element of `L` -/
theorem reach_complete (h : Heap) (L : List Obj) : ∀ (n : Nat) (seen : List Obj),
    (∀ o, Reach h seen o → o ∈ L) → (L.filter (fun x => !seen.contains x)).length < n →
    ∀ o, Reach h seen o → o ∈ h.reach n seen := by
  intro n seen hL hn o ho
  fun_induction Heap.reach h n seen with
  | case1 => exact absurd hn (Nat.not_lt_zero _)
  | case2 n seen nxt hnil =>
    -- nothing new in this round: `seen` is closed
    exact mem_of_reach_of_closed (List.isEmpty_iff.1 hnil) ho
  | case3 n seen nxt hne ih =>
    -- another round, from `seen ++ nxt.eraseDups`
    have hround : ∀ x ∈ seen ++ nxt.eraseDups, Reach h seen x := fun x hx => reach_round hx
    obtain ⟨y, hy⟩ : ∃ y, y ∈ nxt := List.exists_mem_of_ne_nil _ (by simpa using hne)
    have hy2 : y ∈ seen ++ nxt.eraseDups := List.mem_append_right _ (List.mem_eraseDups.2 hy)
    have hys : y ∉ seen := by simpa using (List.mem_filter.1 hy).2
    -- the larger `seen` reaches what `seen` does, so `L` bounds it too; `y ∈ L` was unseen and is seen: one unseen less
    refine ih (fun x hx => hL x (Reach.mono hround (fun _ he => he) hx)) ?_
      (Reach.mono (fun x hx => .root (List.mem_append_left _ hx)) (fun _ he => he) ho)
    have := unseen_length_lt (L := L) (fun x hx => List.mem_append_left nxt.eraseDups hx) (hL y (hround y hy2))
      hys hy2
    omega

theorem mem_roots {q : Quirks} {h : Heap} {o : Obj} :
    o ∈ h.roots q ↔ o ∈ h.held ∨ ∃ v ∈ h.qvars, (v.held || q.exprTableLeak) = true ∧ o ∈ v.cache.getD [] := by
  simp only [Heap.roots, List.mem_append, List.mem_flatMap, List.mem_filter]
  constructor
  · rintro (h1 | ⟨v, ⟨h1, h2⟩, h3⟩)
    · exact Or.inl h1
    · exact Or.inr ⟨v, h1, h2, h3⟩
  · rintro (h1 | ⟨v, h1, h2, h3⟩)
    · exact Or.inl h1
    · exact Or.inr ⟨v, ⟨h1, h2⟩, h3⟩

/-- everything the heap mentions is alive: roots (the user's references and the cached domains of the query objects
that are still referenced), owners and values of field contents; and every query object in the table is referenced -/
structure Heap.WF (q : Quirks) (h : Heap) : Prop where
  roots : ∀ o ∈ h.roots q, h.isLive o = true
  owner : ∀ e ∈ h.fields, h.isLive e.owner = true
  val : ∀ e ∈ h.fields, h.isLive e.val = true
  qheld : ∀ v ∈ h.qvars, (v.held || q.exprTableLeak) = true

/-- no garbage, stated with the inductive relation -/
def Heap.Tight (q : Quirks) (h : Heap) : Prop := ∀ x ∈ h.live, Reach h (h.roots q) x.obj

/-- component by component: as every query object in the table is referenced (`qheld`), the filter in `roots` keeps all -/
theorem Heap.WF_iff {q : Quirks} {h : Heap} : h.WF q ↔
    (∀ o ∈ h.held, h.isLive o = true) ∧
    (∀ v ∈ h.qvars, (v.held || q.exprTableLeak) = true ∧ ∀ o ∈ v.cache.getD [], h.isLive o = true) ∧
    (∀ e ∈ h.fields, h.isLive e.owner = true ∧ h.isLive e.val = true) := by
  constructor
  · intro hw
    exact ⟨fun o ho => hw.roots o (mem_roots.2 (.inl ho)),
      fun v hv => ⟨hw.qheld v hv, fun o ho => hw.roots o (mem_roots.2 (.inr ⟨v, hv, hw.qheld v hv, ho⟩))⟩,
      fun e he => ⟨hw.owner e he, hw.val e he⟩⟩
  · rintro ⟨hh, hq, hf⟩
    refine ⟨?_, fun e he => (hf e he).1, fun e he => (hf e he).2, fun v hv => (hq v hv).1⟩
    intro o ho
    rcases mem_roots.1 ho with h1 | ⟨v, hv, _, h3⟩
    · exact hh o h1
    · exact (hq v hv).2 o h3

theorem Heap.WF.reach_live {q : Quirks} {h : Heap} (hw : h.WF q) {o : Obj} (ho : Reach h (h.roots q) o) :
    h.isLive o = true := by
  induction ho with
  | root h1 => exact hw.roots _ h1
  | step _ h2 _ =>
    obtain ⟨e, he, _, h4⟩ := mem_succ.1 h2
    exact h4 ▸ hw.val e he

theorem Heap.WF.reach_iff {q : Quirks} {h : Heap} (hw : h.WF q) (o : Obj) :
    o ∈ h.reach (h.live.length + 1) (h.roots q) ↔ Reach h (h.roots q) o := by
  refine ⟨reach_sound h _ _ o, reach_complete h (h.live.map (·.obj)) _ _ ?_ ?_ o⟩
  · intro x hx
    exact List.mem_map.2 ((isLive_iff _ _).1 (hw.reach_live hx))
  · have := List.length_filter_le (fun x => !(h.roots q).contains x) (h.live.map (·.obj))
    simp only [List.length_map] at this
    omega

theorem garbage_nil_iff_mem_reach (q : Quirks) (h : Heap) :
    h.garbage q = [] ↔ ∀ x ∈ h.live, x.obj ∈ h.reach (h.live.length + 1) (h.roots q) := by
  simp [Heap.garbage]

theorem Heap.WF.garbage_nil_iff {q : Quirks} {h : Heap} (hw : h.WF q) : h.garbage q = [] ↔ h.Tight q := by
  rw [garbage_nil_iff_mem_reach]
  exact forall₂_congr fun x _ => hw.reach_iff x.obj

theorem mem_garbage {q : Quirks} {h : Heap} (hw : h.WF q) (o : Obj) :
    o ∈ h.garbage q ↔ h.isLive o = true ∧ ¬ Reach h (h.roots q) o := by
  rw [← hw.reach_iff, isLive_iff]
  simp only [Heap.garbage, List.mem_map, List.mem_filter, Bool.not_eq_eq_eq_not, Bool.not_true,
    List.contains_eq_mem, decide_eq_false_iff_not]
  constructor
  · rintro ⟨x, ⟨h1, h2⟩, rfl⟩
    exact ⟨⟨x, h1, rfl⟩, h2⟩
  · rintro ⟨⟨x, h1, rfl⟩, h2⟩
    exact ⟨x, ⟨h1, h2⟩, rfl⟩

theorem mem_kill_fields {h : Heap} {D : List Obj} {e : FEntry} :
    e ∈ (h.kill D).fields ↔ e ∈ h.fields ∧ e.owner ∉ D := by
  simp [Heap.kill]

/-- the field contents of reachable owners survive -/
theorem Heap.WF.reach_collect {q : Quirks} {h : Heap} (hw : h.WF q) {o : Obj} (ho : Reach h (h.roots q) o) :
    Reach (h.collect q) ((h.collect q).roots q) o := by
  induction ho with
  | root h1 => exact .root h1
  | @step o1 o2 h1 h2 ih =>
    obtain ⟨e, he, h3, h4⟩ := mem_succ.1 h2
    refine .step ih (mem_succ.2 ⟨e, mem_kill_fields.2 ⟨he, ?_⟩, h3, h4⟩)
    rw [mem_garbage hw, h3]
    exact fun hc => hc.2 h1

theorem collect_isLive_iff {q : Quirks} {h : Heap} (hw : h.WF q) (o : Obj) :
    (h.collect q).isLive o = true ↔ h.isLive o = true ∧ Reach h (h.roots q) o := by
  unfold Heap.collect
  rw [kill_isLive]
  simp only [Bool.and_eq_true, Bool.not_eq_true', List.contains_eq_mem, decide_eq_false_iff_not, mem_garbage hw]
  constructor
  · rintro ⟨h1, h2⟩
    exact ⟨h1, Classical.byContradiction fun hc => h2 ⟨h1, hc⟩⟩
  · rintro ⟨h1, h2⟩
    exact ⟨h1, fun hc => hc.2 h2⟩

theorem Heap.WF.collect {q : Quirks} {h : Heap} (hw : h.WF q) : (h.collect q).WF q := by
  -- the field contents that survive are those of reachable owners
  have hf : ∀ e ∈ (h.collect q).fields, e ∈ h.fields ∧ Reach h (h.roots q) e.owner := by
    intro e he
    obtain ⟨h1, h2⟩ := mem_kill_fields.1 he
    exact ⟨h1, Classical.byContradiction fun hc => h2 ((mem_garbage hw _).2 ⟨hw.owner e h1, hc⟩)⟩
  refine ⟨fun o ho => (collect_isLive_iff hw o).2 ⟨hw.roots o ho, .root ho⟩, ?_, ?_, hw.qheld⟩
  · intro e he
    obtain ⟨h1, h2⟩ := hf e he
    exact (collect_isLive_iff hw _).2 ⟨hw.owner e h1, h2⟩
  · intro e he
    obtain ⟨h1, h2⟩ := hf e he
    exact (collect_isLive_iff hw _).2 ⟨hw.val e h1, .step h2 (mem_succ.2 ⟨e, h1, rfl, rfl⟩)⟩

theorem Heap.WF.collect_tight {q : Quirks} {h : Heap} (hw : h.WF q) : (h.collect q).Tight q := by
  intro x hx
  exact hw.reach_collect ((collect_isLive_iff hw _).1 (isLive_of_mem hx)).2

theorem collect_garbage_nil {q : Quirks} {h : Heap} (hw : h.WF q) : (h.collect q).garbage q = [] :=
  hw.collect.garbage_nil_iff.2 hw.collect_tight

theorem reach_from_nil (h : Heap) : ∀ n, h.reach n [] = []
  | 0 => rfl
  | n + 1 => by simp [Heap.reach]

theorem roots_eq_nil {q : Quirks} {h : Heap} (hq : q.exprTableLeak = false) (hheld : h.held = [])
    (hqv : ∀ v ∈ h.qvars, v.held = false) : h.roots q = [] := by
  have : h.qvars.filter (fun v => v.held || q.exprTableLeak) = [] := by
    rw [List.filter_eq_nil_iff]
    intro v hv
    simp [hqv v hv, hq]
  simp [Heap.roots, hheld, this]

theorem Heap.Tight.live_nil {q : Quirks} {h : Heap} (ht : h.Tight q) (hr : h.roots q = []) : h.live = [] := by
  cases hl : h.live with
  | nil => rfl
  | cons x l =>
    have := ht x (hl ▸ List.mem_cons_self)
    rw [hr] at this
    exact this.nil.elim

theorem Heap.Tight.of {q : Quirks} {h h' : Heap} (ht : h.Tight q) (hr : ∀ o ∈ h.roots q, Reach h' (h'.roots q) o)
    (hf : ∀ e ∈ h.fields, e ∈ h'.fields) (hl : ∀ x ∈ h'.live, x ∈ h.live ∨ Reach h' (h'.roots q) x.obj) :
    h'.Tight q := by
  intro x hx
  rcases hl x hx with h1 | h1
  · exact Reach.mono hr hf (ht x h1)
  · exact h1

theorem Heap.WF.of {q : Quirks} {h h' : Heap} (hw : h.WF q) (hl : ∀ x ∈ h.live, x ∈ h'.live)
    (hr : ∀ o ∈ h'.roots q, o ∈ h.roots q ∨ h'.isLive o = true)
    (hf : ∀ e ∈ h'.fields, e ∈ h.fields ∨ (h'.isLive e.owner = true ∧ h'.isLive e.val = true))
    (hq : ∀ v ∈ h'.qvars, (v.held || q.exprTableLeak) = true) : h'.WF q := by
  constructor
  · intro o ho
    rcases hr o ho with h1 | h1
    · exact isLive_mono hl _ (hw.roots o h1)
    · exact h1
  · intro e he
    rcases hf e he with h1 | h1
    · exact isLive_mono hl _ (hw.owner e h1)
    · exact h1.1
  · intro e he
    rcases hf e he with h1 | h1
    · exact isLive_mono hl _ (hw.val e h1)
    · exact h1.2
  · exact hq

/-! ### operations of the model that keep a heap well-formed -/

theorem Heap.WF.fields {q : Quirks} {h h' : Heap} (hw : h.WF q) (e1 : h'.live = h.live) (e2 : h'.held = h.held)
    (e3 : h'.qvars = h.qvars)
    (hf : ∀ e ∈ h'.fields, e ∈ h.fields ∨ (h.isLive e.owner = true ∧ h.isLive e.val = true)) : h'.WF q := by
  obtain ⟨hh, hq, hfl⟩ := Heap.WF_iff.1 hw
  rw [Heap.WF_iff, isLive_eq_of_live e1, e2, e3]
  exact ⟨hh, hq, fun e he => (hf e he).elim (hfl e) id⟩

theorem updateFields_mem {S : Schema} {fields : List FEntry} {f : Fld} {a b : Obj} {e : FEntry}
    (he : e ∈ updateFields S fields f a b) : e ∈ fields ∨ e = ⟨a, f, b⟩ := by
  unfold updateFields at he
  split at he
  · exact (mem_append_singleton.1 he).imp_left fun h => (List.mem_filter.1 h).1
  · split at he
    · exact Or.inl he
    · exact mem_append_singleton.1 he

theorem write_mem {S : Schema} {h : Heap} {f : Fld} {a b : Obj} {e : FEntry}
    (he : e ∈ (h.write S f a b).fields) : e ∈ h.fields ∨ e = ⟨a, f, b⟩ := by
  unfold Heap.write at he
  split at he
  · exact (mem_append_singleton.1 he).imp_left fun h => (List.mem_filter.1 h).1
  · split at he
    · exact Or.inl he
    · exact mem_append_singleton.1 he
  · exact mem_append_singleton.1 he

theorem write_held (S : Schema) (h : Heap) (f : Fld) (a b : Obj) : (h.write S f a b).held = h.held := by
  rw [write_eq]

theorem write_qvars (S : Schema) (h : Heap) (f : Fld) (a b : Obj) : (h.write S f a b).qvars = h.qvars := by
  rw [write_eq]

theorem Heap.WF.write {q : Quirks} {h : Heap} (hw : h.WF q) (S : Schema) (f : Fld) (a b : Obj)
    (ha : h.isLive a = true) (hb : h.isLive b = true) : (h.write S f a b).WF q := by
  refine hw.fields (write_live ..) (write_held ..) (write_qvars ..) fun e he => ?_
  rcases write_mem he with h1 | rfl
  · exact Or.inl h1
  · exact Or.inr ⟨ha, hb⟩

theorem Heap.WF.ensure {q : Quirks} {s : Spec} (hw : s.h.WF q) (x : HObj) : (s.ensure x).h.WF q :=
  hw.fields rfl rfl rfl fun _ he => Or.inl he

theorem record_live (S : Schema) (s : Spec) (f : Fld) (a b : R) (inf : Bool) :
    (s.record S f a b inf).h.live = s.h.live := by
  unfold Spec.record
  cases inf
  · rfl
  · rfl

theorem Heap.WF.record {q : Quirks} {s : Spec} (hw : s.h.WF q) (S : Schema) (f : Fld) (a b : R) (inf : Bool)
    (ha : s.h.isLive a.obj = true) (hb : s.h.isLive b.obj = true) : (s.record S f a b inf).h.WF q := by
  unfold Spec.record
  cases inf with
  | false => exact hw
  | true =>
    refine hw.fields (h' := s.h.updateValue S f a.obj b.obj) rfl rfl rfl fun e he => ?_
    rcases updateFields_mem he with h1 | rfl
    · exact Or.inl h1
    · exact Or.inr ⟨ha, hb⟩

theorem Heap.WF.recordEval {q : Quirks} {h : Heap} (hw : h.WF q) (S : Schema) (k : Nat) (v : QVar) (res : List Obj)
    (hres : ∀ o ∈ res, h.isLive o = true) : (h.recordEval S k v res).WF q := by
  obtain ⟨hh, hq, hf⟩ := Heap.WF_iff.1 hw
  refine Heap.WF_iff.2 ⟨hh, ?_, hf⟩
  intro v' hv'
  obtain ⟨v0, hv0, rfl⟩ := List.mem_map.1 hv'
  split
  · exact ⟨(hq v0 hv0).1, fun o ho => hres o (List.mem_eraseDups.1 ho)⟩
  · exact hq v0 hv0

theorem Heap.WF.dropQuery {q : Quirks} {h : Heap} (hw : h.WF q) (k : Nat) : (h.dropQuery q k).WF q := by
  obtain ⟨hh, hq, hf⟩ := Heap.WF_iff.1 hw
  unfold Heap.dropQuery
  split
  · rename_i hleak
    refine Heap.WF_iff.2 ⟨hh, ?_, hf⟩
    intro v' hv'
    obtain ⟨v0, hv0, rfl⟩ := List.mem_map.1 hv'
    split
    · exact ⟨by simp [hleak], (hq v0 hv0).2⟩
    · exact hq v0 hv0
  · exact Heap.WF_iff.2 ⟨hh, fun v' hv' => hq v' (List.mem_filter.1 hv').1, hf⟩

end KrroodVerif.SG
