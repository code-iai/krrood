import KrroodVerif.Model.EqlRewrites
import KrroodVerif.Lemmas.EqlCover
/-!
The construction-time rewrites as a table (`Model/EqlRewrites.lean`): what building preserves. Core Lean only.

Three languages, `Surface` (n-ary, read by `satS`), `SExpr` (binary, `sat`) and `Expr` (`satE`), and two builders, `buildWith t`
and `build`, form a square. Proved here by induction: for every table passing `RewritesOk`, `satE ∘ buildWith t = satS`
(`satE_buildWith`, on the readings of chains `satE_foldWith` and of `_invert_`, `satE_invertWith`); `buildWith rewrites = build ∘ toS`
(`buildWith_rewrites_eq_build`). That the hand-written `build` and `invert` preserve the first-order reading (`satE_build`,
which the evaluation theorems use, and `satE_invert`) are the instances at the table `rewrites`, and `satS = sat ∘ toS` follows.
`Props/C02Rewrites.lean` has the fragments on which every admissible table builds what `build` builds, and the example tables.
-/
namespace KrroodVerif.Eql

/-! ## First-order reading of the n-ary surface language -/

mutual
/-- the ordinary first-order reading of a surface expression; `and_(c1, …, cn)` / `or_(c1, …, cn)` evaluate EVERY operand
left to right (so the first error in writing order is the error of the whole) and combine the truth values -/
def satS (w : World) : Surface → Asg → Except Err Bool
  | .cmp op l r, σ => do
    let ls ← tvals w σ l; let rs ← tvals w σ r
    anyM ls fun a => anyM rs fun b => applyCmp w op a b
  | .contains c i, σ => do
    let cs ← tvals w σ c; let is ← tvals w σ i
    anyM cs fun a => anyM is fun b => applyContains w a b
  | .isIn i c, σ => do
    let cs ← tvals w σ c; let is ← tvals w σ i
    anyM cs fun a => anyM is fun b => applyContains w a b
  | .truth t, σ => do pure ((← tvals w σ t).any truthy)
  | .hasType t c, σ => do pure ((← tvals w σ t).any fun x => isInstance w x c)
  | .andN f r, σ => do let a ← satS w f σ; satListL w (· && ·) r σ a
  | .orN f r, σ => do let a ← satS w f σ; satListL w (· || ·) r σ a
  | .amp l r, σ => do pure ((← satS w l σ) && (← satS w r σ))
  | .bar l r, σ => do pure ((← satS w l σ) || (← satS w r σ))
  | .not e, σ => do pure (!(← satS w e σ))
  | .exists_ v e, σ => anyM (w.dom v) fun x => satS w e ((v, x) :: σ)
  | .forAll v e, σ => allM (w.dom v) fun x => satS w e ((v, x) :: σ)
def satListL (w : World) (op : Bool → Bool → Bool) : SList → Asg → Bool → Except Err Bool
  | .nil, _, acc => pure acc
  | .cons e r, σ, acc => do let b ← satS w e σ; satListL w op r σ (op acc b)
end

/-- the same left-to-right combination over already built operands -/
def foldAllE (w : World) (σ : Asg) (op : Bool → Bool → Bool) : List Expr → Bool → Except Err Bool
  | [], acc => pure acc
  | e :: r, acc => do let b ← satE w e σ; foldAllE w σ op r (op acc b)

/-! ## chains -/

theorem foldAllE_assoc (w : World) (σ : Asg) (op : Bool → Bool → Bool)
    (hassoc : ∀ x y z, op (op x y) z = op x (op y z)) (x : Bool) :
    ∀ (es : List Expr) (b : Bool),
      (do let y ← foldAllE w σ op es b; pure (op x y)) = foldAllE w σ op es (op x b) := by
  intro es
  induction es with
  | nil =>
    intro b
    rfl
  | cons e r ih =>
    intro b
    simp only [foldAllE]
    cases h : satE w e σ with
    | error err => rfl
    | ok c =>
      have := ih (op b c)
      simp only [bind, Except.bind] at this ⊢
      rw [this, ← hassoc]

theorem satE_foldl (w : World) (σ : Asg) (op : Bool → Bool → Bool) (f : Expr → Expr → Expr)
    (hf : ∀ l r, satE w (f l r) σ = (do pure (op (← satE w l σ) (← satE w r σ)))) :
    ∀ (es : List Expr) (a : Expr),
      satE w (es.foldl f a) σ = (do let x ← satE w a σ; foldAllE w σ op es x) := by
  intro es
  induction es with
  | nil =>
    intro a
    simp only [List.foldl_nil, foldAllE]
    cases satE w a σ <;> rfl
  | cons e r ih =>
    intro a
    simp only [List.foldl_cons, foldAllE]
    rw [ih, hf]
    cases satE w a σ with
    | error err => rfl
    | ok x => cases satE w e σ <;> rfl

theorem satE_rightNest (w : World) (σ : Asg) (op : Bool → Bool → Bool) (f : Expr → Expr → Expr)
    (hassoc : ∀ x y z, op (op x y) z = op x (op y z))
    (hf : ∀ l r, satE w (f l r) σ = (do pure (op (← satE w l σ) (← satE w r σ)))) :
    ∀ (es : List Expr) (a : Expr),
      satE w (rightNest f a es) σ = (do let x ← satE w a σ; foldAllE w σ op es x) := by
  intro es
  induction es with
  | nil =>
    intro a
    simp only [rightNest, foldAllE]
    cases satE w a σ <;> rfl
  | cons b r ih =>
    intro a
    simp only [rightNest, foldAllE]
    rw [hf, ih]
    cases satE w a σ with
    | error err => rfl
    | ok x =>
      cases hb : satE w b σ with
      | error err => rfl
      | ok y =>
        have := foldAllE_assoc w σ op hassoc x r y
        simp only [bind, Except.bind, pure, Except.pure] at this ⊢
        exact this

theorem satE_foldWith (w : World) (σ : Asg) (op : Bool → Bool → Bool) (f : Expr → Expr → Expr) (m : FoldMode)
    (hm : m ≠ .reversedNested)
    (hassoc : ∀ x y z, op (op x y) z = op x (op y z))
    (hf : ∀ l r, satE w (f l r) σ = (do pure (op (← satE w l σ) (← satE w r σ))))
    (a : Expr) (es : List Expr) :
    satE w (foldWith m f a es) σ = (do let x ← satE w a σ; foldAllE w σ op es x) := by
  cases m with
  | leftNested => exact satE_foldl w σ op f hf es a
  | rightNested => exact satE_rightNest w σ op f hassoc hf es a
  | reversedNested => exact absurd rfl hm

/-! ## `optimize_or` -/

theorem contains_map_var (r : List VarId) (x : VarId) : (r.map Key.var).contains (Key.var x) = r.contains x := by
  rw [Bool.eq_iff_iff]
  simp only [List.contains_iff_mem, List.mem_map, Key.var.injEq, exists_eq_right]

theorem mkOrWith_rewrites (l r : Expr) : mkOrWith rewrites.orRule l r = mkOr l r := by
  simp only [mkOrWith, rewrites, operandKeys, VarTest.eval, if_true, List.all_map, Function.comp_def, contains_map_var,
    mkOr, sameSet, OrNode.mk]
  rfl

theorem orRule_eq_of_ok {o : OrRule} (h : okOrRule o = true) : o = rewrites.orRule := by
  obtain ⟨a, b, c, d, e⟩ := o
  simp only [okOrRule, Bool.and_eq_true, beq_iff_eq] at h
  obtain ⟨⟨⟨⟨h1, h2⟩, h3⟩, h4⟩, h5⟩ := h
  subst h1 h2 h3 h4 h5
  rfl

theorem mkBin_optOr {o : OrRule} (h : okOrRule o = true) : mkBin o .optOr = mkOr := by
  rw [orRule_eq_of_ok h]
  funext l r
  exact mkOrWith_rewrites l r

theorem satE_mkOr (w : World) (l r : Expr) (σ : Asg) :
    satE w (mkOr l r) σ = (do pure ((← satE w l σ) || (← satE w r σ))) := by
  simp only [mkOr]
  split <;> simp only [satE]

theorem satE_mkBin_or (w : World) {o : OrRule} (h : okOrRule o = true) {c : BinCtor} (hc : c ≠ .and)
    (l r : Expr) (σ : Asg) :
    satE w (mkBin o c l r) σ = (do pure ((← satE w l σ) || (← satE w r σ))) := by
  cases c with
  | and => exact absurd rfl hc
  | elseIf => simp only [mkBin, satE]
  | union => simp only [mkBin, satE]
  | optOr => simp only [mkBin_optOr h, satE_mkOr]

/-! ## `_invert_` -/

theorem not_not_pure (x : Except Err Bool) : (do pure (!(← (do pure (!(← x)) : Except Err Bool)))) = x := by
  cases x with
  | error e => rfl
  | ok b => cases b <;> rfl

theorem deMorgan {f g : Bool → Bool → Bool} (hfg : ∀ x y, (!g x y) = f (!x) (!y)) (a b : Except Err Bool) :
    (do pure (f (← (do pure (!(← a)) : Except Err Bool)) (← (do pure (!(← b)) : Except Err Bool)))) =
      (do pure (!(← (do pure (g (← a) (← b)) : Except Err Bool))) : Except Err Bool) := by
  cases a with
  | error e => rfl
  | ok x =>
    cases b with
    | error e => rfl
    | ok y => exact congrArg Except.ok (hfg x y).symm

theorem invComparatorWith_cases (rule : InvRule) (k : OpK) (l r : Term) :
    invComparatorWith rule k l r = .not (k.mk l r) ∨
      ∃ tbl k', rule = .opTable tbl ∧ (k, k') ∈ tbl ∧ invComparatorWith rule k l r = k'.mk l r := by
  cases rule with
  | opTable tbl =>
    cases h : tbl.lookup k with
    | none =>
      left
      simp only [invComparatorWith, h]
    | some k' =>
      right
      exact ⟨tbl, k', rfl, mem_of_lookup h, by simp only [invComparatorWith, h]⟩
  | _ =>
    left
    rfl

/-- the only entry an admissible rule has for a `Comparator` the engine builds is `contains ↦ not_contains`, which IS
`Not(contains)` -/
theorem invComparatorWith_of_ok {rule : InvRule} (h : okComparator rule = true)
    (k : OpK) (hk : k ≠ .notContains) (l r : Term) :
    invComparatorWith rule k l r = .not (k.mk l r) := by
  rcases invComparatorWith_cases rule k l r with he | ⟨tbl, k', rfl, hm, he⟩
  · exact he
  · simp only [okComparator, List.all_eq_true] at h
    have := h _ hm
    simp only [Bool.or_eq_true, beq_iff_eq, Prod.mk.injEq] at this
    rcases this with h1 | ⟨h1, h2⟩
    · exact absurd h1 hk
    · subst h1 h2
      exact he

theorem satE_invComparatorWith (w : World) {rule : InvRule} (h : okComparator rule = true)
    (k : OpK) (hk : k ≠ .notContains) (l r : Term) (σ : Asg) :
    satE w (invComparatorWith rule k l r) σ = (do pure (!(← satE w (k.mk l r) σ))) := by
  rw [invComparatorWith_of_ok h k hk]
  rfl

/-- `RewritesOk t = true` with its eighteen conjuncts named (`RewritesOk.unpack`) -/
structure RewritesOkP (t : RewriteTable) : Prop where
  orRule : okOrRule t.orRule = true
  fold : t.fold ≠ .reversedNested
  andOp : t.andOp = .and
  orOp : t.orOp = .optOr
  ampOp : t.ampOp = .and
  barOp : t.barOp = .optOr
  existsCtor : t.existsCtor = .exists_
  forAllCtor : t.forAllCtor = .forAll
  containsSwapped : t.containsSwapped = false
  inSwapped : t.inSwapped = false
  invComparator : okComparator t.invComparator = true
  invTerm : okTerm t.invTerm = true
  invAnd : okInvAnd t.invAnd = true
  invElseIf : okInvOr t.invElseIf = true
  invUnion : okInvOr t.invUnion = true
  invNot : okInvNot t.invNot = true
  invExists : okInvExists t.invExists = true
  invForAll : okInvForAll t.invForAll = true

theorem RewritesOk.unpack {t : RewriteTable} (h : RewritesOk t = true) : RewritesOkP t := by
  simp only [RewritesOk, Bool.and_eq_true, bne_iff_ne, ne_eq, beq_iff_eq, Bool.not_eq_true', and_assoc] at h
  obtain ⟨orRule, fold, andOp, orOp, ampOp, barOp, existsCtor, forAllCtor, containsSwapped, inSwapped, invComparator,
    invTerm, invAnd, invElseIf, invUnion, invNot, invExists, invForAll⟩ := h
  exact { orRule, fold, andOp, orOp, ampOp, barOp, existsCtor, forAllCtor, containsSwapped, inSwapped, invComparator,
          invTerm, invAnd, invElseIf, invUnion, invNot, invExists, invForAll }

theorem satE_invBinWith_and (w : World) {o : OrRule} (ho : okOrRule o = true) {rule : InvRule}
    (h : okInvAnd rule = true) (l r li ri : Expr) (σ : Asg)
    (hl : satE w li σ = (do pure (!(← satE w l σ)))) (hr : satE w ri σ = (do pure (!(← satE w r σ)))) :
    satE w (invBinWith o rule (.and l r) l r li ri) σ = (do pure (!(← satE w (.and l r) σ))) := by
  match rule, h with
  | .wrapNot, _ => simp only [invBinWith, satE]
  | .bin c .leftInv .rightInv, h =>
    have hc : c ≠ .and := by simpa [okInvAnd] using h
    simp only [invBinWith, Arg.pick]
    rw [satE_mkBin_or w ho hc, hl, hr]
    simp only [satE]
    exact deMorgan Bool.not_and _ _

theorem satE_invBinWith_or (w : World) {o : OrRule} {rule : InvRule}
    (h : okInvOr rule = true) (self l r li ri : Expr) (σ : Asg)
    (hself : satE w self σ = (do pure ((← satE w l σ) || (← satE w r σ))))
    (hl : satE w li σ = (do pure (!(← satE w l σ)))) (hr : satE w ri σ = (do pure (!(← satE w r σ)))) :
    satE w (invBinWith o rule self l r li ri) σ = (do pure (!(← satE w self σ))) := by
  match rule, h with
  | .wrapNot, _ => simp only [invBinWith, satE]
  | .bin .and .leftInv .rightInv, _ =>
    simp only [invBinWith, Arg.pick, mkBin, satE]
    rw [hl, hr, hself]
    exact deMorgan Bool.not_or _ _

theorem satE_invertWith (w : World) {t : RewriteTable} (h : RewritesOk t = true) (e : Expr) :
    ∀ σ, satE w (invertWith t e) σ = (do pure (!(← satE w e σ))) := by
  have hp := RewritesOk.unpack h
  induction e with
  | cmp op l r =>
    intro σ
    exact satE_invComparatorWith w hp.invComparator (.cmp op) (by simp) l r σ
  | contains c i =>
    intro σ
    exact satE_invComparatorWith w hp.invComparator .contains (by simp) c i σ
  | truth x | hasType x c =>
    intro σ
    simp only [invertWith, satE]
  | and l r ihl ihr =>
    intro σ
    exact satE_invBinWith_and w hp.orRule hp.invAnd l r _ _ σ (ihl σ) (ihr σ)
  | elseIf l r ihl ihr =>
    intro σ
    exact satE_invBinWith_or w hp.invElseIf (.elseIf l r) l r _ _ σ (by simp only [satE]) (ihl σ) (ihr σ)
  | union l r ihl ihr =>
    intro σ
    exact satE_invBinWith_or w hp.invUnion (.union l r) l r _ _ σ (by simp only [satE]) (ihl σ) (ihr σ)
  | not e ih =>
    intro σ
    simp only [invertWith]
    match t.invNot, hp.invNot with
    | .wrapNot, _ => simp only [invNotWith, satE]
    | .operand false, _ =>
      simp only [invNotWith, satE, Bool.false_eq_true, if_false]
      exact (not_not_pure _).symm
  | exists_ v e ih =>
    intro σ
    simp only [invertWith]
    match t.invExists, hp.invExists with
    | .wrapNot, _ => simp only [invQuantWith, satE]
    | .quant .forAll true, _ =>
      simp only [invQuantWith, QCtor.mk, if_true, satE, ih]
      exact allM_not _ _
  | forAll v e ih =>
    intro σ
    simp only [invertWith]
    match t.invForAll, hp.invForAll with
    | .wrapNot, _ => simp only [invQuantWith, satE]
    | .quant .exists_ true, _ =>
      simp only [invQuantWith, QCtor.mk, if_true, satE, ih]
      exact anyM_not _ _

theorem satE_notWith (w : World) {t : RewriteTable} (h : RewritesOk t = true) (e : Expr) (σ : Asg) :
    satE w (notWith t e) σ = (do pure (!(← satE w e σ))) := by
  simp only [notWith]
  split
  · exact satE_invertWith w h e σ
  · simp only [satE]

/-! ## `buildWith` under an admissible table -/

mutual
/-- For every table that passes `RewritesOk`, the expression the engine builds from a surface expression has the
first-order meaning of the surface expression — for EVERY expression of the construction vocabulary (n-ary
`and_`/`or_`, `not_` of anything, `exists`/`for_all`, `contains`/`in_`), every world and assignment, errors included. -/
theorem satE_buildWith (w : World) {t : RewriteTable} (h : RewritesOk t = true) :
    ∀ (e : Surface) (σ : Asg), satE w (buildWith t e) σ = satS w e σ
  | e, σ => by
    have hp := RewritesOk.unpack h
    cases e with
    | cmp op l r | truth x | hasType x c => simp only [buildWith, satE, satS]
    | contains c i => simp only [buildWith, hp.containsSwapped, Bool.false_eq_true, if_false, satE, satS]
    | isIn i c => simp only [buildWith, hp.inSwapped, Bool.false_eq_true, if_false, satE, satS]
    | andN f r =>
      simp only [buildWith, satS]
      rw [hp.andOp, satE_foldWith w σ (· && ·) _ t.fold hp.fold Bool.and_assoc (fun _ _ => rfl),
            satE_buildWith w h f σ]
      simp only [satE_buildListWith w h (· && ·) r]
    | orN f r =>
      simp only [buildWith, satS]
      rw [hp.orOp, mkBin_optOr hp.orRule, satE_foldWith w σ (· || ·) _ t.fold hp.fold Bool.or_assoc
            (satE_mkOr w · · σ), satE_buildWith w h f σ]
      simp only [satE_buildListWith w h (· || ·) r]
    | amp l r =>
      simp only [buildWith, satS]
      rw [hp.ampOp, ← satE_buildWith w h l σ, ← satE_buildWith w h r σ]
      simp only [mkBin, satE]
    | bar l r =>
      simp only [buildWith, satS]
      rw [hp.barOp, mkBin_optOr hp.orRule, satE_mkOr, satE_buildWith w h l σ, satE_buildWith w h r σ]
    | not e => simp only [buildWith, satS, satE_notWith w h, satE_buildWith w h e σ]
    | exists_ v e | forAll v e =>
      simp only [buildWith, hp.existsCtor, hp.forAllCtor, QCtor.mk, satE, satS]
      congr 1
      funext x
      exact satE_buildWith w h e _
theorem satE_buildListWith (w : World) {t : RewriteTable} (h : RewritesOk t = true) (op : Bool → Bool → Bool) :
    ∀ (r : SList) (σ : Asg) (acc : Bool), foldAllE w σ op (buildListWith t r) acc = satListL w op r σ acc
  | .nil, σ, acc => by simp only [buildListWith, foldAllE, satListL]
  | .cons e r, σ, acc => by
    simp only [buildListWith, foldAllE, satListL, satE_buildWith w h e σ, satE_buildListWith w h op r]
end

/-! ## `buildWith rewrites` and `build` -/

/-- `chained_logic` as `build` transcribes it: n-ary `and_`/`or_` nest to the left -/
def foldChainS (f : SExpr → SExpr → SExpr) (a : SExpr) (es : List SExpr) : SExpr := es.foldl f a

mutual
/-- the binary surface expression of `Model/Eql.lean` an n-ary one stands for: chains nest to the left (`foldChainS`),
`in_(item, container)` is `contains(container, item)`, `&` / `|` are `and_` / `or_` -/
def Surface.toS : Surface → SExpr
  | .cmp op l r => .cmp op l r
  | .contains c i => .contains c i
  | .isIn i c => .contains c i
  | .truth x => .truth x
  | .hasType x c => .hasType x c
  | .andN f r => foldChainS .and f.toS r.toS
  | .orN f r => foldChainS .or f.toS r.toS
  | .amp l r => .and l.toS r.toS
  | .bar l r => .or l.toS r.toS
  | .not e => .not e.toS
  | .exists_ v e => .exists_ v e.toS
  | .forAll v e => .forAll v e.toS
def SList.toS : SList → List SExpr
  | .nil => []
  | .cons e r => e.toS :: r.toS
end

theorem invertWith_rewrites (e : Expr) : invertWith rewrites e = invert e := by
  induction e with
  | exists_ v e ih | forAll v e ih =>
    simp only [invertWith, rewrites, invQuantWith, QCtor.mk, if_true, invert]
    rw [← ih]
    rfl
  | _ => rfl

theorem build_chain {f : SExpr → SExpr → SExpr} {g : Expr → Expr → Expr}
    (hfg : ∀ a b, build (f a b) = g (build a) (build b)) (es : List SExpr) :
    ∀ a, build (foldChainS f a es) = (es.map build).foldl g (build a) := by
  induction es with
  | nil =>
    intro a
    rfl
  | cons e r ih =>
    intro a
    simp only [foldChainS, List.foldl_cons, List.map_cons] at ih ⊢
    rw [ih, hfg]

mutual
/-- The interpreter on the table `rewrites` is the hand-written `build`, for every expression of the whole construction
vocabulary (unbounded: structural induction over the mutually inductive `Surface` / `SList`). -/
theorem buildWith_rewrites_eq_build : ∀ (e : Surface), buildWith rewrites e = build e.toS
  | .cmp op l r | .contains c i | .isIn i c | .truth x | .hasType x c => rfl
  | .andN f r => by
    simp only [buildWith, Surface.toS, build_chain (f := .and) (g := .and) fun _ _ => rfl, ← buildWith_rewrites_eq_build f,
      ← buildListWith_rewrites r]
    rfl
  | .orN f r => by
    simp only [buildWith, Surface.toS, build_chain (f := .or) (g := mkOr) fun _ _ => rfl, ← buildWith_rewrites_eq_build f,
      ← buildListWith_rewrites r]
    show List.foldl (mkBin rewrites.orRule .optOr) _ _ = _
    rw [mkBin_optOr rfl]
  | .amp l r => by
    simp only [buildWith, Surface.toS, build, ← buildWith_rewrites_eq_build l, ← buildWith_rewrites_eq_build r]
    rfl
  | .bar l r => by
    simp only [buildWith, Surface.toS, build, ← buildWith_rewrites_eq_build l, ← buildWith_rewrites_eq_build r]
    show mkBin rewrites.orRule .optOr _ _ = _
    rw [mkBin_optOr rfl]
  | .not e => by
    simp only [buildWith, Surface.toS, build, ← buildWith_rewrites_eq_build e]
    show invertWith rewrites _ = _
    exact invertWith_rewrites _
  | .exists_ v e | .forAll v e => by
    simp only [buildWith, Surface.toS, build, ← buildWith_rewrites_eq_build e]
    rfl
theorem buildListWith_rewrites : ∀ (r : SList), buildListWith rewrites r = r.toS.map build
  | .nil => rfl
  | .cons e r => by
    simp only [buildListWith, SList.toS, List.map_cons, buildWith_rewrites_eq_build e, buildListWith_rewrites r]
end

theorem toS_ofS (s : SExpr) : (Surface.ofS s).toS = s := by
  induction s with
  | and l r ihl ihr | or l r ihl ihr =>
    simp only [Surface.ofS, Surface.toS, SList.toS, foldChainS, List.foldl_cons, List.foldl_nil, ihl, ihr]
  | not e ih | exists_ v e ih | forAll v e ih => simp only [Surface.ofS, Surface.toS, ih]
  | _ => rfl

theorem buildWith_rewrites_ofS (s : SExpr) : buildWith rewrites (Surface.ofS s) = build s := by
  rw [buildWith_rewrites_eq_build, toS_ofS]

theorem rewrites_ok : RewritesOk rewrites = true := by decide +kernel

theorem satS_ofS (w : World) (s : SExpr) : ∀ σ, satS w (Surface.ofS s) σ = sat w s σ := by
  induction s with
  | and l r ihl ihr | or l r ihl ihr =>
    intro σ
    simp only [Surface.ofS, satS, satListL, sat, ihl, ihr]
  | not e ih | exists_ v e ih | forAll v e ih =>
    intro σ
    simp only [Surface.ofS, satS, sat, ih]
  | _ =>
    intro σ
    rfl

/-- the construction-time `not_` / `or_` rewrites of `build` preserve the first-order reading -/
theorem satE_build (w : World) (s : SExpr) : ∀ σ, sat w s σ = satE w (build s) σ := by
  intro σ
  rw [← buildWith_rewrites_ofS, satE_buildWith w rewrites_ok, satS_ofS]

theorem satE_invert (w : World) (e : Expr) : ∀ σ, satE w (invert e) σ = (do pure (!(← satE w e σ))) :=
  invertWith_rewrites e ▸ satE_invertWith w rewrites_ok e

/-- the fourth side of the square -/
theorem satS_toS (w : World) (e : Surface) (σ : Asg) : satS w e σ = sat w e.toS σ := by
  rw [← satE_buildWith w rewrites_ok e σ, buildWith_rewrites_eq_build, ← satE_build]

theorem satListL_toS_and (w : World) : ∀ (r : SList) (σ : Asg) (a : SExpr),
    (do let x ← sat w a σ; satListL w (· && ·) r σ x) = sat w (foldChainS .and a r.toS) σ := by
  intro r σ a
  simpa only [satS, satS_ofS, Surface.toS, toS_ofS] using satS_toS w (.andN (.ofS a) r) σ

theorem satListL_toS_or (w : World) : ∀ (r : SList) (σ : Asg) (a : SExpr),
    (do let x ← sat w a σ; satListL w (· || ·) r σ x) = sat w (foldChainS .or a r.toS) σ := by
  intro r σ a
  simpa only [satS, satS_ofS, Surface.toS, toS_ofS] using satS_toS w (.orN (.ofS a) r) σ

end KrroodVerif.Eql
