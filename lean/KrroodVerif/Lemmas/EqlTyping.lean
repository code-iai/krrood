import KrroodVerif.Lemmas.EqlUnion
/-!
A simple, decidable **type discipline** for M-EQL (`Model/Eql.lean`) and the *progress* lemmas it buys: on
well-typed worlds and well-typed quantifier-free expressions neither the evaluator (`eval_ok`) nor the first-order
specification (`satE_ok`) can return an error; the two query-level theorems (`eval_no_error`, `spec_no_error`) are in
`Props/C01Typed.lean`.

The theorems of `Props/C01.lean`, `Props/C02.lean`, `Props/C01Union.lean` are conditional on both sides returning
`.ok`; `Props/C01Typed.lean` discharges these hypotheses with the lemmas of this file.

Every progress statement has the form `∃ y, x = .ok y ∧ Q y` and is obtained by composing such statements along the
`do`-block of the definition (`bind_okP`, `mapM_okP`, `flatMapM_okP`). Terms go by induction on the typing rules
(`TermTy`), expressions by induction on the expression; the surface specification `sat` is reduced to the reading
`satE` of the built expression (`satE_build`, `build_wt`).
-/
namespace KrroodVerif.Eql

/-! ## Types, value typing, signatures, well-typed worlds -/

/-- types of values. `list n` / `objs c n`: a list of numbers / of objects of class `c` with **at least** `n`
elements (`list 0` = any list), which is what makes `Index` typable; `opt t`: `None` or a `t` -/
inductive Ty where
  | num                              -- `int`
  | bool                             -- `bool` (a number for `<`, `<=`, `>`, `>=`, exactly as `asNum`)
  | list (minLen : Nat)              -- list of numbers, length ≥ `minLen`
  | obj (cls : Nat)                  -- instance of `cls` (or of a subclass of it, `World.subclass`)
  | objs (cls : Nat) (minLen : Nat)  -- list of instances of `cls`, length ≥ `minLen`
  | none                             -- `None`
  | opt (t : Ty)                     -- `Optional[t]`
  deriving DecidableEq, Repr

/-- the operand types `<`, `<=`, `>`, `>=` accept (`asNum` is defined) -/
def Ty.isNum : Ty → Bool
  | .num => true
  | .bool => true
  | _ => false

/-- the container types `operator.contains` accepts -/
def Ty.isColl : Ty → Bool
  | .list _ => true
  | .objs _ _ => true
  | _ => false

/-- class signature: class id ↦ attribute types -/
abbrev Sig := List (Nat × List (AttrName × Ty))
abbrev VarCtx := List (VarId × Ty)
/-- literal-node typing (literal id ↦ type): a `Literal` is a `Variable` node of the engine and can be met bound -/
abbrev LitCtx := List (Nat × Ty)

/-- value typing (a relation: `.objs []` has every type `objs c 0`) -/
def hasTy (w : World) (v : Val) : Ty → Bool
  | .num => match v with | .int _ => true | _ => false
  | .bool => match v with | .bool _ => true | _ => false
  | .list n => match v with | .list xs => decide (n ≤ xs.length) | _ => false
  | .obj c => match v with | .obj i => isInstance w (.obj i) c | _ => false
  | .objs c n => match v with
    | .objs is => decide (n ≤ is.length) && is.all fun i => isInstance w (.obj i) c
    | _ => false
  | .none => match v with | .none => true | _ => false
  | .opt t => (match v with | .none => true | _ => false) || hasTy w v t

/-- the object has every attribute the signature declares for its class and for the superclasses of its class,
with a value of the declared type (classes the signature does not mention are unconstrained) -/
def Obj.wt (sig : Sig) (w : World) (o : Obj) : Bool :=
  sig.all fun cf =>
    !(o.cls == cf.1 || w.subclass.contains (o.cls, cf.1)) ||
      cf.2.all fun nt =>
        match o.fields.lookup nt.1 with
        | some x => hasTy w x nt.2
        | none => false

def World.wt (sig : Sig) (Γ : VarCtx) (w : World) : Bool :=
  w.objs.all (Obj.wt sig w) && Γ.all fun vt => (w.dom vt.1).all fun x => hasTy w x vt.2

/-! ## Typing of terms, expressions, queries -/

/-- type synthesis for terms. `index t i` is typable when the list type guarantees `i` in range; `flatten` is not
typable (it is outside every fragment of the C01/C02 theorems) -/
def termTy (sig : Sig) (w : World) (Γ : VarCtx) (Λ : LitCtx) : Term → Option Ty
  | .var v => Γ.lookup v
  | .lit id x =>
    match Λ.lookup id with
    | some ty => if hasTy w x ty then some ty else none
    | none => none
  | .attr t n =>
    match termTy sig w Γ Λ t with
    | some (.obj c) =>
      match sig.lookup c with
      | some fs => fs.lookup n
      | none => none
    | _ => none
  | .index t i =>
    match termTy sig w Γ Λ t with
    | some (.list n) => if i < n then some .num else none
    | some (.objs c n) => if i < n then some (.obj c) else none
    | _ => none
  | .flatten _ => none

def cmpTyOK (op : CmpOp) (a b : Ty) : Bool :=
  match op with
  | .eq => true
  | .ne => true
  | _ => a.isNum && b.isNum

/-- typing of quantifier-free core expressions -/
def Expr.wt (sig : Sig) (w : World) (Γ : VarCtx) (Λ : LitCtx) : Expr → Bool
  | .cmp op l r =>
    match termTy sig w Γ Λ l, termTy sig w Γ Λ r with
    | some a, some b => cmpTyOK op a b
    | _, _ => false
  | .contains c i =>
    match termTy sig w Γ Λ c, termTy sig w Γ Λ i with
    | some a, some _ => a.isColl
    | _, _ => false
  | .truth t => (termTy sig w Γ Λ t).isSome
  | .hasType t _ => (termTy sig w Γ Λ t).isSome
  | .and l r => l.wt sig w Γ Λ && r.wt sig w Γ Λ
  | .elseIf l r => l.wt sig w Γ Λ && r.wt sig w Γ Λ
  | .union l r => l.wt sig w Γ Λ && r.wt sig w Γ Λ
  | .not e => e.wt sig w Γ Λ
  | .exists_ _ _ => false
  | .forAll _ _ => false

/-- typing of quantifier-free surface expressions -/
def SExpr.wt (sig : Sig) (w : World) (Γ : VarCtx) (Λ : LitCtx) : SExpr → Bool
  | .cmp op l r =>
    match termTy sig w Γ Λ l, termTy sig w Γ Λ r with
    | some a, some b => cmpTyOK op a b
    | _, _ => false
  | .contains c i =>
    match termTy sig w Γ Λ c, termTy sig w Γ Λ i with
    | some a, some _ => a.isColl
    | _, _ => false
  | .truth t => (termTy sig w Γ Λ t).isSome
  | .hasType t _ => (termTy sig w Γ Λ t).isSome
  | .and l r => l.wt sig w Γ Λ && r.wt sig w Γ Λ
  | .or l r => l.wt sig w Γ Λ && r.wt sig w Γ Λ
  | .not e => e.wt sig w Γ Λ
  | .exists_ _ _ => false
  | .forAll _ _ => false

def selWt (sig : Sig) (w : World) (Γ : VarCtx) (Λ : LitCtx) (sel : List Term) : Bool :=
  sel.all fun s => (termTy sig w Γ Λ s).isSome

def SQuery.wt (sig : Sig) (w : World) (Γ : VarCtx) (Λ : LitCtx) (q : SQuery) : Bool :=
  selWt sig w Γ Λ q.sel &&
    (match q.cond with | some c => c.wt sig w Γ Λ | none => true)

/-! ## Value-level progress -/

theorem hasTy_num_inv {w : World} {v : Val} (h : hasTy w v .num = true) : ∃ n, v = .int n := by
  cases v with
  | int n => exact ⟨n, rfl⟩
  | _ => simp [hasTy] at h

theorem hasTy_bool_inv {w : World} {v : Val} (h : hasTy w v .bool = true) : ∃ b, v = .bool b := by
  cases v with
  | bool b => exact ⟨b, rfl⟩
  | _ => simp [hasTy] at h

theorem hasTy_list_inv {w : World} {v : Val} {n : Nat} (h : hasTy w v (.list n) = true) :
    ∃ xs, v = .list xs ∧ n ≤ xs.length := by
  cases v with
  | list xs => exact ⟨xs, rfl, by simpa [hasTy] using h⟩
  | _ => simp [hasTy] at h

theorem hasTy_obj_inv {w : World} {v : Val} {c : Nat} (h : hasTy w v (.obj c) = true) :
    ∃ i, v = .obj i ∧ isInstance w (.obj i) c = true := by
  cases v with
  | obj i => exact ⟨i, rfl, by simpa [hasTy] using h⟩
  | _ => simp [hasTy] at h

theorem hasTy_objs_inv {w : World} {v : Val} {c n : Nat} (h : hasTy w v (.objs c n) = true) :
    ∃ is, v = .objs is ∧ n ≤ is.length ∧ ∀ i ∈ is, isInstance w (.obj i) c = true := by
  cases v with
  | objs is => exact ⟨is, rfl, by simpa [hasTy] using h⟩
  | _ => simp [hasTy] at h

theorem asNum_of_isNum {w : World} {v : Val} {ty : Ty} (h : hasTy w v ty = true) (hn : ty.isNum = true) :
    ∃ n, asNum v = some n := by
  cases ty with
  | num =>
    obtain ⟨n, rfl⟩ := hasTy_num_inv h
    exact ⟨_, rfl⟩
  | bool =>
    obtain ⟨b, rfl⟩ := hasTy_bool_inv h
    exact ⟨_, rfl⟩
  | _ => simp [Ty.isNum] at hn

theorem applyCmp_ok {w : World} {op : CmpOp} {a b : Val} {ta tb : Ty} (ha : hasTy w a ta = true)
    (hb : hasTy w b tb = true) (hop : cmpTyOK op ta tb = true) : ∃ c, applyCmp w op a b = .ok c := by
  cases op with
  | eq | ne =>
    simp only [applyCmp]
    split <;> exact ⟨_, rfl⟩
  | lt | le | gt | ge =>
    simp only [cmpTyOK, Bool.and_eq_true] at hop
    obtain ⟨x, hx⟩ := asNum_of_isNum ha hop.1
    obtain ⟨y, hy⟩ := asNum_of_isNum hb hop.2
    -- `asNum` is defined on `int` and `bool` only, and on these `applyCmp` compares the numbers
    cases a with
    | int _ | bool _ =>
      cases b with
      | int _ | bool _ => exact ⟨_, rfl⟩
      | _ => simp [asNum] at hy
    | _ => simp [asNum] at hx

theorem applyContains_ok {w : World} {a b : Val} {ta : Ty} (ha : hasTy w a ta = true) (hc : ta.isColl = true) :
    ∃ c, applyContains w a b = .ok c := by
  cases ta with
  | list n =>
    obtain ⟨xs, rfl, _⟩ := hasTy_list_inv ha
    exact ⟨_, rfl⟩
  | objs c n =>
    obtain ⟨is, rfl, _⟩ := hasTy_objs_inv ha
    exact ⟨_, rfl⟩
  | _ => simp [Ty.isColl] at hc

theorem World.wt_dom {sig : Sig} {Γ : VarCtx} {w : World} (hw : World.wt sig Γ w = true) {v : VarId} {ty : Ty}
    (hv : Γ.lookup v = some ty) {x : Val} (hx : x ∈ w.dom v) : hasTy w x ty = true := by
  simp only [World.wt, Bool.and_eq_true, List.all_eq_true] at hw
  exact hw.2 (v, ty) (mem_of_lookup hv) x hx

theorem getAttr_ok {sig : Sig} {Γ : VarCtx} {w : World} (hw : World.wt sig Γ w = true) {v : Val} {c : Nat}
    (hv : hasTy w v (.obj c) = true) {fs : List (AttrName × Ty)} (hc : sig.lookup c = some fs) {n : AttrName}
    {ty : Ty} (hn : fs.lookup n = some ty) : ∃ x, getAttr w v n = .ok x ∧ hasTy w x ty = true := by
  obtain ⟨i, rfl, hi⟩ := hasTy_obj_inv hv
  simp only [World.wt, Bool.and_eq_true, List.all_eq_true] at hw
  simp only [isInstance] at hi
  cases ho : w.objs[i]? with
  | none => simp [ho] at hi
  | some o =>
    simp only [ho] at hi
    have hmem : o ∈ w.objs := List.mem_of_getElem? ho
    have h1 := hw.1 o hmem
    simp only [Obj.wt, List.all_eq_true] at h1
    have h2 := h1 (c, fs) (mem_of_lookup hc)
    simp only [hi, Bool.not_true, Bool.false_or, List.all_eq_true] at h2
    have h3 := h2 (n, ty) (mem_of_lookup hn)
    simp only [getAttr, ho]
    cases hf : o.fields.lookup n with
    | none => simp [hf] at h3
    | some x =>
      simp only [hf] at h3
      exact ⟨x, rfl, h3⟩

theorem getIndex_list_ok {w : World} {v : Val} {n i : Nat} (hv : hasTy w v (.list n) = true) (hi : i < n) :
    ∃ x, getIndex v i = .ok x ∧ hasTy w x .num = true := by
  obtain ⟨xs, rfl, hl⟩ := hasTy_list_inv hv
  have : i < xs.length := Nat.lt_of_lt_of_le hi hl
  simp only [getIndex, List.getElem?_eq_getElem this]
  exact ⟨_, rfl, rfl⟩

theorem getIndex_objs_ok {w : World} {v : Val} {c n i : Nat} (hv : hasTy w v (.objs c n) = true) (hi : i < n) :
    ∃ x, getIndex v i = .ok x ∧ hasTy w x (.obj c) = true := by
  obtain ⟨is, rfl, hl, hall⟩ := hasTy_objs_inv hv
  have : i < is.length := Nat.lt_of_lt_of_le hi hl
  simp only [getIndex, List.getElem?_eq_getElem this]
  exact ⟨_, rfl, by simpa [hasTy] using hall _ (List.getElem_mem this)⟩

/-! ## Typing rules -/

section
variable {sig : Sig} {w : World} {Γ : VarCtx} {Λ : LitCtx}

/-- the typing rules `termTy` decides, as a relation: what is proved of typable terms is proved by induction on the
rules -/
inductive TermTy (sig : Sig) (w : World) (Γ : VarCtx) (Λ : LitCtx) : Term → Ty → Prop
  | var {v ty} : Γ.lookup v = some ty → TermTy sig w Γ Λ (.var v) ty
  | lit {id x ty} : Λ.lookup id = some ty → hasTy w x ty = true → TermTy sig w Γ Λ (.lit id x) ty
  | attr {t n c fs ty} : TermTy sig w Γ Λ t (.obj c) → sig.lookup c = some fs → fs.lookup n = some ty →
      TermTy sig w Γ Λ (.attr t n) ty
  | indexList {t i n} : TermTy sig w Γ Λ t (.list n) → i < n → TermTy sig w Γ Λ (.index t i) .num
  | indexObjs {t i c n} : TermTy sig w Γ Λ t (.objs c n) → i < n → TermTy sig w Γ Λ (.index t i) (.obj c)

theorem termTy_sound {t : Term} {ty : Ty} (h : termTy sig w Γ Λ t = some ty) : TermTy sig w Γ Λ t ty := by
  fun_induction termTy sig w Γ Λ t generalizing ty with
  -- a variable
  | case1 v => exact .var h
  | case2 id x ty' hl hx =>
    -- a literal that has its declared type
    cases h
    exact .lit hl hx
  -- an attribute that the object type of `t` declares
  | case5 t n c ht fs hfs ih => exact .attr (ih ht) hfs h
  | case8 t i n ht hi ih =>
    -- an index within the length of a list type
    cases h
    exact .indexList (ih ht) hi
  | case10 t i c n ht hi ih =>
    -- an index within the length of a type of object lists
    cases h
    exact .indexObjs (ih ht) hi
  -- every other clause gives no type
  | _ => cases h

theorem termTy_isSome {t : Term} (h : (termTy sig w Γ Λ t).isSome = true) : ∃ ty, TermTy sig w Γ Λ t ty :=
  (Option.isSome_iff_exists.mp h).imp fun _ => termTy_sound

theorem TermTy.noFlat {t : Term} {ty : Ty} (h : TermTy sig w Γ Λ t ty) : t.noFlat = true := by
  induction h with
  | var _ | lit _ _ => rfl
  | attr _ _ _ ih | indexList _ _ ih | indexObjs _ _ ih => exact ih

/-- well-typedness of a comparison in the form `evalCmp_ok` and `satCmp_ok` take -/
theorem Expr.wt_cmp {op : CmpOp} {l r : Term} (h : (Expr.cmp op l r).wt sig w Γ Λ = true) :
    ∃ a b, TermTy sig w Γ Λ l a ∧ TermTy sig w Γ Λ r b ∧
      ∀ x y, hasTy w x a = true → hasTy w y b = true → ∃ c, applyCmp w op x y = .ok c := by
  simp only [Expr.wt] at h
  split at h
  · exact ⟨_, _, termTy_sound ‹_›, termTy_sound ‹_›, fun _ _ hx hy => applyCmp_ok hx hy h⟩
  · cases h

theorem Expr.wt_contains {c i : Term} (h : (Expr.contains c i).wt sig w Γ Λ = true) :
    ∃ a b, TermTy sig w Γ Λ c a ∧ TermTy sig w Γ Λ i b ∧
      ∀ x y, hasTy w x a = true → hasTy w y b = true → ∃ z, applyContains w x y = .ok z := by
  simp only [Expr.wt] at h
  split at h
  · exact ⟨_, _, termTy_sound ‹_›, termTy_sound ‹_›, fun _ _ hx _ => applyContains_ok hx h⟩
  · cases h

theorem Expr.wt_noQuant {e : Expr} (h : e.wt sig w Γ Λ = true) : e.hasQuant = false := by
  induction e with
  | and l r ihl ihr | elseIf l r ihl ihr | union l r ihl ihr =>
    simp only [Expr.wt, Bool.and_eq_true] at h
    simp [Expr.hasQuant, ihl h.1, ihr h.2]
  | not e ih => exact ih h
  | exists_ v e _ | forAll v e _ => simp [Expr.wt] at h
  | _ => rfl

theorem build_wt {s : SExpr} (h : s.wt sig w Γ Λ = true) : (build s).wt sig w Γ Λ = true := by
  induction s with
  | cmp op l r | contains c i | truth t | hasType t c => exact h
  | and l r ihl ihr =>
    simp only [SExpr.wt, Bool.and_eq_true] at h
    simp [build, Expr.wt, ihl h.1, ihr h.2]
  | or l r ihl ihr =>
    simp only [SExpr.wt, Bool.and_eq_true] at h
    simp only [build, mkOr]
    split <;> simp [Expr.wt, ihl h.1, ihr h.2]
  | not e ih =>
    simp only [SExpr.wt] at h
    simp only [build, invert_qf (Expr.wt_noQuant (ih h)), Expr.wt]
    exact ih h
  | exists_ v e _ | forAll v e _ => simp [SExpr.wt] at h

end

/-! ## `Except Err` combinators

`…_isOk`: the computation returns; `…_okP`: and what it returns satisfies `Q`. -/

theorem bind_okP {α β} {x : Except Err α} {f : α → Except Err β} {P : α → Prop} {Q : β → Prop}
    (hx : ∃ a, x = .ok a ∧ P a) (hf : ∀ a, P a → ∃ b, f a = .ok b ∧ Q b) : ∃ b, (x >>= f) = .ok b ∧ Q b := by
  obtain ⟨a, rfl, ha⟩ := hx
  exact hf a ha

theorem bind_isOk {α β} {x : Except Err α} {f : α → Except Err β}
    (hx : ∃ a, x = .ok a) (hf : ∀ a, ∃ b, f a = .ok b) : ∃ b, (x >>= f) = .ok b := by
  obtain ⟨a, rfl⟩ := hx
  exact hf a

theorem mapM_okP {α β} {xs : List α} {f : α → Except Err β} {Q : β → Prop}
    (h : ∀ x ∈ xs, ∃ y, f x = .ok y ∧ Q y) : ∃ ys, xs.mapM f = .ok ys ∧ ∀ y ∈ ys, Q y := by
  induction xs with
  | nil => exact ⟨[], by simp [List.mapM_nil, pure, Except.pure], by simp⟩
  | cons x r ih =>
    obtain ⟨y, hy, hq⟩ := h x List.mem_cons_self
    obtain ⟨ys, hys, hqs⟩ := ih fun z hz => h z (List.mem_cons_of_mem _ hz)
    refine ⟨y :: ys, ?_, List.forall_mem_cons.mpr ⟨hq, hqs⟩⟩
    rw [List.mapM_cons, hy, hys]
    rfl

theorem flatMapM_okP {α β} {xs : List α} {f : α → Except Err (List β)} {Q : β → Prop}
    (h : ∀ x ∈ xs, ∃ ys, f x = .ok ys ∧ ∀ y ∈ ys, Q y) : ∃ zs, flatMapM xs f = .ok zs ∧ ∀ z ∈ zs, Q z := by
  induction xs with
  | nil => exact ⟨[], rfl, by simp⟩
  | cons x r ih =>
    obtain ⟨ys, hy, hq⟩ := h x List.mem_cons_self
    obtain ⟨zs, hzs, hqs⟩ := ih fun z hz => h z (List.mem_cons_of_mem _ hz)
    refine ⟨ys ++ zs, ?_, List.forall_mem_append.mpr ⟨hq, hqs⟩⟩
    simp only [flatMapM, hy, hzs]
    rfl

theorem mapM_isOk {α β} {xs : List α} {f : α → Except Err β} (h : ∀ x ∈ xs, ∃ y, f x = .ok y) :
    ∃ ys, xs.mapM f = .ok ys :=
  (mapM_okP (Q := fun _ => True) fun x hx => (h x hx).imp fun _ hy => ⟨hy, trivial⟩).imp fun _ h => h.1

theorem flatMapM_isOk {α β} {xs : List α} {f : α → Except Err (List β)} (h : ∀ x ∈ xs, ∃ ys, f x = .ok ys) :
    ∃ zs, flatMapM xs f = .ok zs :=
  (flatMapM_okP (Q := fun _ => True) fun x hx => (h x hx).imp fun _ hy => ⟨hy, fun _ _ => trivial⟩).imp fun _ h => h.1

theorem filterAuxM_of_ok {α} {xs : List α} {f : α → Except Err Bool} {g : α → Bool}
    (h : ∀ x ∈ xs, f x = .ok (g x)) (acc : List α) :
    List.filterAuxM f xs acc = .ok ((xs.filter g).reverse ++ acc) := by
  induction xs generalizing acc with
  | nil => rfl
  | cons x r ih =>
    have hx := h x List.mem_cons_self
    have hr := fun z hz => h z (List.mem_cons_of_mem _ hz)
    simp only [List.filterAuxM, hx]
    show List.filterAuxM f r (cond (g x) (x :: acc) acc) = _
    rw [ih hr, List.filter_cons]
    cases g x <;> simp

theorem filterM_eq_filter {α} {xs : List α} {f : α → Except Err Bool} (h : ∀ x ∈ xs, ∃ b, f x = .ok b) :
    xs.filterM f = .ok (xs.filter fun x => okOr false (f x)) := by
  have hg : ∀ x ∈ xs, f x = .ok (okOr false (f x)) := by
    intro x hx
    obtain ⟨b, hb⟩ := h x hx
    rw [hb]
    rfl
  unfold List.filterM
  rw [filterAuxM_of_ok hg []]
  simp [bind, Except.bind, pure, Except.pure]

/-- the step `AND`, `ElseIf` and `Union` share: a result of the left operand is either continued with the right
operand or passed on as it is -/
theorem flatMapM_branch_okP {P : Env → Prop} {k : Env → Except Err (List (Env × Bool))}
    (hk : ∀ env, P env → ∃ rs, k env = .ok rs ∧ ∀ p ∈ rs, P p.1)
    {f : Env × Bool → Except Err (List (Env × Bool))} (hf : ∀ p, f p = k p.1 ∨ f p = pure [p])
    {ls : List (Env × Bool)} (hls : ∀ p ∈ ls, P p.1) :
    ∃ rs, flatMapM ls f = .ok rs ∧ ∀ p ∈ rs, P p.1 := by
  apply flatMapM_okP
  intro p hp
  rcases hf p with h | h
  · rw [h]
    exact hk p.1 (hls p hp)
  · rw [h]
    exact ⟨[p], rfl, List.forall_mem_singleton.mpr (hls p hp)⟩

/-! ## Progress of the evaluator -/

section
variable {sig : Sig} {w : World} {Γ : VarCtx} {Λ : LitCtx}

/-- the type the contexts declare for a key of the environment -/
def keyTy (Γ : VarCtx) (Λ : LitCtx) : Key → Option Ty
  | .var v => Γ.lookup v
  | .lit id => Λ.lookup id

/-- every binding of a key the contexts declare holds a value of the declared type
(bindings of undeclared keys are unconstrained) -/
def EnvWt (w : World) (Γ : VarCtx) (Λ : LitCtx) (env : Env) : Prop :=
  ∀ k y ty, (k, y) ∈ env → keyTy Γ Λ k = some ty → hasTy w y ty = true

theorem EnvWt.nil (w : World) (Γ : VarCtx) (Λ : LitCtx) : EnvWt w Γ Λ [] := by
  intro k y ty h
  cases h

theorem EnvWt.cons {w : World} {Γ : VarCtx} {Λ : LitCtx} {env : Env} {k : Key} {y : Val}
    (hy : ∀ ty, keyTy Γ Λ k = some ty → hasTy w y ty = true) (h : EnvWt w Γ Λ env) :
    EnvWt w Γ Λ ((k, y) :: env) := by
  intro k' y' ty hm hk
  rcases List.mem_cons.mp hm with heq | hm
  · cases heq
    exact hy ty hk
  · exact h k' y' ty hm hk

theorem EnvWt.lookup {w : World} {Γ : VarCtx} {Λ : LitCtx} {env : Env} (h : EnvWt w Γ Λ env) {k : Key}
    {y : Val} (hl : env.lookup k = some y) {ty : Ty} (hk : keyTy Γ Λ k = some ty) : hasTy w y ty = true :=
  h k y ty (mem_of_lookup hl) hk

theorem EnvWt.bind {env : Env} (h : EnvWt w Γ Λ env) {k : Key} {y : Val}
    {ty : Ty} (hk : keyTy Γ Λ k = some ty) (hy : hasTy w y ty = true) : EnvWt w Γ Λ ((k, y) :: env) :=
  h.cons fun _ hk' => Option.some.inj (hk.symm.trans hk') ▸ hy

/-- what `evalTerm_ok` guarantees of every operand result: a well-typed environment and a value of the term's type -/
def ResWt (w : World) (Γ : VarCtx) (Λ : LitCtx) (ty : Ty) (p : Env × Val × Bool) : Prop :=
  EnvWt w Γ Λ p.1 ∧ hasTy w p.2.1 ty = true

theorem mapVal_okP {cp : Bool} {op : Val → Except Err Val}
    {ty ty' : Ty} (hop : ∀ v, hasTy w v ty = true → ∃ x, op v = .ok x ∧ hasTy w x ty' = true)
    {rs0 : List (Env × Val × Bool)} (h0 : ∀ p ∈ rs0, ResWt w Γ Λ ty p) :
    ∃ rs, mapVal cp op rs0 = .ok rs ∧ ∀ p ∈ rs, ResWt w Γ Λ ty' p :=
  mapM_okP fun r hr => bind_okP (hop r.2.1 (h0 r hr).2) fun _ hx => ⟨_, rfl, (h0 r hr).1, hx⟩

theorem evalTerm_ok (hw : World.wt sig Γ w = true) {t : Term} {ty : Ty} (ht : TermTy sig w Γ Λ t ty) {env : Env}
    (henv : EnvWt w Γ Λ env) (cp : Bool) :
    ∃ rs, evalTerm w cp t env = .ok rs ∧ ∀ p ∈ rs, ResWt w Γ Λ ty p := by
  induction ht generalizing cp with
  | var hv =>
    refine ⟨_, rfl, fun p hp => ?_⟩
    rcases evalVar_mem hp with ⟨y, hy, rfl⟩ | ⟨_, y, hy, rfl⟩
    · exact ⟨henv, henv.lookup hy (k := .var _) hv⟩
    · have hyt := World.wt_dom hw hv hy
      exact ⟨henv.bind (k := .var _) hv hyt, hyt⟩
  | @lit id x _ hΛ hx =>
    rcases evalLit_cases w cp id x env with ⟨y, hy, he⟩ | ⟨_, he⟩
    · exact ⟨_, he, List.forall_mem_singleton.mpr ⟨henv, henv.lookup hy (k := .lit id) hΛ⟩⟩
    · exact ⟨_, he, List.forall_mem_singleton.mpr ⟨henv.bind (k := .lit id) hΛ hx, hx⟩⟩
  | attr _ hc hn ih =>
    rw [evalTerm_attr]
    exact bind_okP (ih false) fun _ => mapVal_okP fun v hv => getAttr_ok hw hv hc hn
  | indexList _ hi ih =>
    rw [evalTerm_index]
    exact bind_okP (ih false) fun _ => mapVal_okP fun v hv => getIndex_list_ok hv hi
  | indexObjs _ hi ih =>
    rw [evalTerm_index]
    exact bind_okP (ih false) fun _ => mapVal_okP fun v hv => getIndex_objs_ok hv hi

theorem evalCmpCore_ok (hw : World.wt sig Γ w = true)
    {f s : Term} {tf ts : Ty} (hf : TermTy sig w Γ Λ f tf) (hs : TermTy sig w Γ Λ s ts)
    {cmb : Val → Val → Except Err Bool}
    (hcmb : ∀ a b, hasTy w a tf = true → hasTy w b ts = true → ∃ c, cmb a b = .ok c)
    {env : Env} (henv : EnvWt w Γ Λ env) :
    ∃ rs, evalCmpCore w f s cmb env = .ok rs ∧ ∀ p ∈ rs, EnvWt w Γ Λ p.1 := by
  refine bind_okP (evalTerm_ok hw hf henv false) fun r1 h1 => flatMapM_okP fun p1 hp1 => ?_
  have hp1 := h1 p1 (List.mem_filter.mp hp1).1
  refine bind_okP (evalTerm_ok hw hs hp1.1 false) fun r2 h2 => mapM_okP fun p2 hp2 => ?_
  have hp2 := h2 p2 (List.mem_filter.mp hp2).1
  obtain ⟨c, hc⟩ := hcmb _ _ hp1.2 hp2.2
  exact ⟨(p2.1, c), by rw [hc]; rfl, hp2.1⟩

theorem evalCmp_ok (hw : World.wt sig Γ w = true)
    {l r : Term} {tl tr : Ty} (hl : TermTy sig w Γ Λ l tl) (hr : TermTy sig w Γ Λ r tr)
    {op : Val → Val → Except Err Bool}
    (hop : ∀ a b, hasTy w a tl = true → hasTy w b tr = true → ∃ c, op a b = .ok c)
    {env : Env} (henv : EnvWt w Γ Λ env) :
    ∃ rs, evalCmp w l r op env = .ok rs ∧ ∀ p ∈ rs, EnvWt w Γ Λ p.1 := by
  rcases evalCmp_eq w l r op env with he | he
  · rw [he]
    exact evalCmpCore_ok hw hl hr hop henv
  · rw [he]
    exact evalCmpCore_ok hw hr hl (fun a b ha hb => hop b a hb ha) henv

theorem eval_ok (hw : World.wt sig Γ w = true) (e : Expr) (he : e.wt sig w Γ Λ = true) :
    ∀ env, EnvWt w Γ Λ env → ∃ rs, eval w e env = .ok rs ∧ ∀ p ∈ rs, EnvWt w Γ Λ p.1 := by
  induction e with
  | cmp op l r =>
    intro env henv
    obtain ⟨a, b, hl, hr, hop⟩ := Expr.wt_cmp he
    exact evalCmp_ok hw hl hr hop henv
  | contains c i =>
    intro env henv
    obtain ⟨a, b, hl, hr, hop⟩ := Expr.wt_contains he
    exact evalCmp_ok hw hl hr hop henv
  | truth t | hasType t c =>
    intro env henv
    obtain ⟨ty, ht⟩ := termTy_isSome he
    exact bind_okP (evalTerm_ok hw ht henv _) fun rs hrs =>
      ⟨_, rfl, List.forall_mem_map.mpr fun r hr => (hrs r hr).1⟩
  | and l r ihl ihr | elseIf l r ihl ihr =>
    intro env henv
    simp only [Expr.wt, Bool.and_eq_true] at he
    exact bind_okP (ihl he.1 env henv) fun ls =>
      flatMapM_branch_okP (ihr he.2) fun ⟨_, b⟩ => by cases b <;> simp
  | union l r ihl ihr =>
    intro env henv
    simp only [Expr.wt, Bool.and_eq_true] at he
    refine bind_okP (ihl he.1 env henv) fun ls hls =>
      bind_okP (flatMapM_branch_okP (ihr he.2) (fun ⟨_, b⟩ => by cases b <;> simp) hls) fun a ha =>
        bind_okP (ihr he.2 env henv) fun b hb => ⟨a ++ b, rfl, List.forall_mem_append.mpr ⟨ha, hb⟩⟩
  | not e ih =>
    intro env henv
    exact bind_okP (ih he env henv) fun rs hrs => ⟨_, rfl, List.forall_mem_map.mpr hrs⟩
  | exists_ v e _ | forAll v e _ => simp [Expr.wt] at he

theorem select_ok (hw : World.wt sig Γ w = true)
    {sel : List Term} (hsel : selWt sig w Γ Λ sel = true) {rows : List Env}
    (hres : ∀ env ∈ rows, EnvWt w Γ Λ env) :
    ∃ out, flatMapM rows (fun env => do
      let per ← sel.mapM fun s => do
        let rs ← evalTerm w false s env
        pure (rs.map (·.2.1))
      pure (product per)) = .ok out := by
  simp only [selWt, List.all_eq_true] at hsel
  refine flatMapM_isOk fun env henv => bind_isOk (mapM_isOk fun s hs => ?_) fun _ => ⟨_, rfl⟩
  obtain ⟨ty, hty⟩ := termTy_isSome (hsel s hs)
  exact bind_isOk ((evalTerm_ok hw hty (hres env henv) false).imp fun _ h => h.1) fun _ => ⟨_, rfl⟩

end

/-! ## Progress of the first-order specification -/

section
variable {sig : Sig} {w : World} {Γ : VarCtx} {Λ : LitCtx}

/-- every variable the assignment binds and the context declares holds a value of the declared type -/
def AsgWt (w : World) (Γ : VarCtx) (σ : Asg) : Prop :=
  ∀ v x ty, σ.lookup v = some x → Γ.lookup v = some ty → hasTy w x ty = true

def AsgBinds (σ : Asg) (vs : List VarId) : Prop := ∀ v ∈ vs, (σ.lookup v).isSome = true

theorem tval_ok (hw : World.wt sig Γ w = true) {σ : Asg}
    (hσ : AsgWt w Γ σ) {t : Term} {ty : Ty} (ht : TermTy sig w Γ Λ t ty) (hb : AsgBinds σ t.vars) :
    ∃ x, tval w σ t = .ok x ∧ hasTy w x ty = true := by
  induction ht with
  | @var v _ hv =>
    obtain ⟨x, hx⟩ := Option.isSome_iff_exists.mp (hb v List.mem_cons_self)
    exact ⟨x, by simp only [tval, hx], hσ v x _ hx hv⟩
  | lit _ hx => exact ⟨_, rfl, hx⟩
  | attr _ hc hn ih => exact bind_okP (ih hb) fun _ hx => getAttr_ok hw hx hc hn
  | indexList _ hi ih => exact bind_okP (ih hb) fun _ hx => getIndex_list_ok hx hi
  | indexObjs _ hi ih => exact bind_okP (ih hb) fun _ hx => getIndex_objs_ok hx hi

theorem tvals_ok (hw : World.wt sig Γ w = true) {σ : Asg}
    (hσ : AsgWt w Γ σ) {t : Term} {ty : Ty} (ht : TermTy sig w Γ Λ t ty) (hb : AsgBinds σ t.vars) :
    ∃ x, tvals w σ t = .ok [x] ∧ hasTy w x ty = true := by
  obtain ⟨x, hx, hty⟩ := tval_ok hw hσ ht hb
  exact ⟨x, by rw [tvals_noFlat w σ t ht.noFlat, hx]; rfl, hty⟩

theorem satCmp_ok (hw : World.wt sig Γ w = true) {σ : Asg}
    (hσ : AsgWt w Γ σ) {l r : Term} {tl tr : Ty} (hl : TermTy sig w Γ Λ l tl) (hr : TermTy sig w Γ Λ r tr)
    {op : Val → Val → Except Err Bool}
    (hop : ∀ a b, hasTy w a tl = true → hasTy w b tr = true → ∃ c, op a b = .ok c)
    (hb : AsgBinds σ (l.vars ++ r.vars)) :
    ∃ c, (do let ls ← tvals w σ l; let rs ← tvals w σ r
             anyM ls fun a => anyM rs fun b => op a b) = .ok c := by
  obtain ⟨hbl, hbr⟩ := List.forall_mem_append.mp hb
  obtain ⟨a, ha, hat⟩ := tvals_ok hw hσ hl hbl
  obtain ⟨b, hb, hbt⟩ := tvals_ok hw hσ hr hbr
  obtain ⟨c, hc⟩ := hop a b hat hbt
  rw [ha, hb]
  show ∃ c', anyM [a] (fun a => anyM [b] fun b => op a b) = .ok c'
  rw [anyM_singleton, anyM_singleton]
  exact ⟨c, hc⟩

theorem satE_ok (hw : World.wt sig Γ w = true) {σ : Asg} (hσ : AsgWt w Γ σ) (e : Expr)
    (hs : e.wt sig w Γ Λ = true) (hb : AsgBinds σ e.vars) : ∃ b, satE w e σ = .ok b := by
  induction e with
  | cmp op l r =>
    obtain ⟨a, b, hl, hr, hop⟩ := Expr.wt_cmp hs
    exact satCmp_ok hw hσ hl hr hop hb
  | contains c i =>
    obtain ⟨a, b, hl, hr, hop⟩ := Expr.wt_contains hs
    exact satCmp_ok hw hσ hl hr hop hb
  | truth t | hasType t c =>
    obtain ⟨ty, ht⟩ := termTy_isSome hs
    obtain ⟨x, hx, _⟩ := tvals_ok hw hσ ht hb
    exact ⟨_, by simp only [satE, hx]; rfl⟩
  | and l r ihl ihr | elseIf l r ihl ihr | union l r ihl ihr =>
    simp only [Expr.wt, Bool.and_eq_true] at hs
    obtain ⟨hbl, hbr⟩ := List.forall_mem_append.mp hb
    exact bind_isOk (ihl hs.1 hbl) fun _ => bind_isOk (ihr hs.2 hbr) fun _ => ⟨_, rfl⟩
  | not e ih => exact bind_isOk (ih hs hb) fun _ => ⟨_, rfl⟩
  | exists_ v e _ | forAll v e _ => simp [Expr.wt] at hs

theorem sat_ok (hw : World.wt sig Γ w = true) {σ : Asg}
    (hσ : AsgWt w Γ σ) {s : SExpr} (hs : s.wt sig w Γ Λ = true) (hb : AsgBinds σ s.freeVars) :
    ∃ b, sat w s σ = .ok b := by
  rw [satE_build]
  exact satE_ok hw hσ (build s) (build_wt hs) (build_vars_qf (Expr.wt_noQuant (build_wt hs)) ▸ hb)

theorem assignments_wt (hw : World.wt sig Γ w = true) {vs : List VarId}
    {σ : Asg} (hσ : σ ∈ assignments w vs) : AsgWt w Γ σ := by
  intro v x ty hx hty
  exact World.wt_dom hw hty ((mem_assignments.mp hσ).2 (v, x) (mem_of_lookup hx))

theorem assignments_binds {w : World} {vs : List VarId} {σ : Asg} (hσ : σ ∈ assignments w vs) :
    AsgBinds σ vs := by
  intro v hv
  obtain ⟨x, hx, _⟩ := assignments_lookup hσ hv
  simp [hx]

end

/-! ## Inference of the literal context

A convenience: the theorems hold for every `Λ`. -/

/-- the most specific type of a literal value (`none` for a dangling object reference, which `termTy` then rejects) -/
def inferTy (w : World) : Val → Ty
  | .int _ => .num
  | .bool _ => .bool
  | .list xs => .list xs.length
  | .obj i => match w.objs[i]? with | some o => .obj o.cls | none => .none
  | .objs is =>
    match is with
    | [] => .objs 0 0
    | i :: _ => match w.objs[i]? with | some o => .objs o.cls is.length | none => .none
  | .none => .none
  | .set _ => .none

def Term.litCtx (w : World) : Term → LitCtx
  | .var _ => []
  | .lit id x => [(id, inferTy w x)]
  | .attr t _ => t.litCtx w
  | .index t _ => t.litCtx w
  | .flatten t => t.litCtx w

def SExpr.litCtx (w : World) : SExpr → LitCtx
  | .cmp _ l r => l.litCtx w ++ r.litCtx w
  | .contains c i => c.litCtx w ++ i.litCtx w
  | .truth t => t.litCtx w
  | .hasType t _ => t.litCtx w
  | .and l r => l.litCtx w ++ r.litCtx w
  | .or l r => l.litCtx w ++ r.litCtx w
  | .not e => e.litCtx w
  | .exists_ _ e => e.litCtx w
  | .forAll _ e => e.litCtx w

/-- the literal context read off the query: each literal node gets the most specific type of its value -/
def SQuery.litCtx (w : World) (q : SQuery) : LitCtx :=
  q.sel.flatMap (Term.litCtx w) ++ (match q.cond with | some c => c.litCtx w | none => [])

def SQuery.wtInfer (sig : Sig) (w : World) (Γ : VarCtx) (q : SQuery) : Bool := q.wt sig w Γ (q.litCtx w)

end KrroodVerif.Eql
