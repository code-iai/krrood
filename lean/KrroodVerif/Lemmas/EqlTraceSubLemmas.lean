import KrroodVerif.Model.EqlTraceSub
import KrroodVerif.Lemmas.EqlTraceNLemmas
/-!
Helper lemmas for C10Sub (sub-query operands, `Model/EqlTraceSub.lean`): what an `an(...)` sub-query hands its
continuation (`traceSubAn_vis`), and `traceX_inv` (an `EvInv` holds of every event of a condition with
sub-query operands).
Core Lean only.
-/
namespace KrroodVerif.Eql

theorem traceVar_vis_nil (w : World) (cp : Bool) (y : VarId) (e : Env) :
    vis (traceVar w cp y e fun _ _ _ => []) = [] := by
  rw [traceVar_vis]
  simp

theorem traceSubAn_vis (w : World) (id : Nat) (y : VarId) (c : Option SExpr) (env : Env) (k : Kont)
    (rs : List (Env × Val × Bool)) (hx : env.lookup (.lit id) = none) (h : evalOperand w (.sub id y c) env = .ok rs) :
    vis (traceSubAn w id y c env k) = rs.flatMap fun r => vis (k r.1 r.2.1 r.2.2) := by
  cases c with
  | none =>
    simp only [evalOperand, hx, bind_eq_ok, pure_eq_ok] at h
    obtain ⟨rows, rfl, rfl⟩ := h
    simp [traceSubAn, traceVar_vis_nil, vis_flatMap, List.flatMap_map]
  | some c =>
    simp only [evalOperand, hx, bind_eq_ok, pure_eq_ok] at h
    obtain ⟨rs0, h0, rows, rfl, rfl⟩ := h
    simp only [traceSubAn]
    rw [traceN_sim w (build c) env rs0 h0]
    simp only [apply_ite vis, vis_nil, vis_append, traceVar_vis_nil, List.nil_append]
    rw [flatMap_ite_filter]
    simp [vis_flatMap, List.flatMap_map, List.flatMap_assoc]

section EvInv
variable {w : World} {I : Env → Prop} {P : Ev → Prop} (h : EvInv w I P)
include h

theorem traceSubAn_inv (id : Nat) (y : VarId) (c : Option SExpr) (env : Env) (k : Kont) (hI : I env)
    (hk : ∀ e x b, I e → AllEv P (k e x b)) : AllEv P (traceSubAn w id y c env k) := by
  have hin : ∀ e, I e → AllEv P ((traceVar w true y e fun _ _ _ => []) ++
      (evalVar w y e).flatMap fun r => k ((Key.lit id, r.2.1) :: r.1) r.2.1 true) := by
    intro e he
    refine AllEv.append (traceVar_inv h true y e _ trivial he fun _ _ _ _ => AllEv.nil P)
      (AllEv.flatMap _ _ fun r hr => hk _ _ _ (h.cons _ _ ?_))
    obtain ⟨pre, hpre, _⟩ := evalVar_adds hr
    exact hpre ▸ h.prepend pre he
  cases c with
  | none => exact hin env hI
  | some c =>
    simp only [traceSubAn]
    refine traceN_inv h (build c) env hI _ fun e b he => ?_
    split
    · exact hin e he
    · exact AllEv.nil P

theorem traceOperand_inv (o : Operand) (env : Env) (k : Kont) (hI : I env)
    (hk : ∀ e x b, I e → AllEv P (k e x b)) : AllEv P (traceOperand w [] o env k) := by
  cases o with
  | plain t => exact traceTerm_inv h false t env k (fun _ _ => trivial) hI hk
  | sub id y c =>
    simp only [traceOperand, List.contains_nil, Bool.false_eq_true, if_false]
    split
    · exact hk _ _ _ hI
    · exact traceSubAn_inv h id y c env k hI hk

theorem traceX_inv (x : XExpr) (env : Env) (hI : I env) : Keeps I P (traceX w [] x env) := by
  induction x generalizing env with
  | base e => exact traceN_inv h e env hI
  | cmpX op l r =>
    intro k hk
    simp only [traceX, traceCmpX]
    refine traceOperand_inv h _ env _ hI fun e1 v1 t1 he1 => ?_
    split
    · refine traceOperand_inv h _ e1 _ he1 fun e2 v2 t2 he2 => ?_
      split
      · split
        · exact hk _ _ he2
        · exact AllEv.single (h.err _)
      · exact AllEv.nil P
    · exact AllEv.nil P
  | and l r ihl ihr => exact Keeps.and (ihl env hI) fun e he => ihr e he
  | elseIf l r ihl ihr => exact Keeps.elseIf (ihl env hI) fun e he => ihr e he
  | union l r ihl ihr => exact Keeps.union (ihl env hI) (fun e he => ihr e he) (ihr env hI)
  | not e ih => exact Keeps.map (ih env hI) (!·)

end EvInv

theorem subVal_cons (id : Nat) (v : Val) (e : Env) : subVal id ((Key.lit id, v) :: e) = v := by
  simp [subVal, List.lookup]

end KrroodVerif.Eql
