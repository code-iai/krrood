import KrroodVerif.Model.EqlFindings
import KrroodVerif.Lemmas.ListBasics
/-!
The cover theorem for M-EQL (`Model/Eql.lean`) and what it rests on. Core Lean only.

The result of `eval w e env` is a list of cells `(env', flag)`. On the cover fragment `Fc` these cells partition the
total assignments compatible with `env`, and the flag of the cell an assignment `τ` falls into is the first-order truth
value of `e` under `τ` (`C01_cover`). It is proved for an arbitrary input environment, the cells being compared with `τ` on what
they add to it (`coverFrom`, `cellsFrom`). Two facts about cells carry the induction: a step that keeps the environments
(attribute, index, `truth`, `hasType`, `not`) maps the one cell compatible with `τ` (`cellsFrom_map_single`), and a step that
only extends environments (comparison, `and`, `elseIf`) refines it (`cellsFrom_refine`). What an evaluation adds to an
environment is `Grows`, for every quantifier-free expression.
-/
namespace KrroodVerif.Eql

/-! ## `Except Err`: inversion and congruence -/

theorem bind_eq_ok {α β} (a : Except Err α) (f : α → Except Err β) (b : β) :
    (a >>= f) = .ok b ↔ ∃ x, a = .ok x ∧ f x = .ok b := by
  cases a <;> simp [bind, Except.bind]

theorem pure_eq_ok {α} (a b : α) : (pure a : Except Err α) = .ok b ↔ a = b := by
  simp [pure, Except.pure]

theorem bind_ok {α β} {x : Except Err α} {f : α → Except Err β} {y : β}
    (h : (x >>= f) = .ok y) : ∃ a, x = .ok a ∧ f a = .ok y :=
  (bind_eq_ok x f y).1 h

theorem map_ok {α β} {x : Except Err α} {f : α → β} {y : β}
    (h : (f <$> x) = .ok y) : ∃ a, x = .ok a ∧ f a = y := by
  cases x with
  | error e => cases h
  | ok a => exact ⟨a, rfl, by cases h; rfl⟩

theorem pure_ok {α} {a y : α} (h : (pure a : Except Err α) = .ok y) : a = y :=
  (pure_eq_ok a y).1 h

theorem flatMapM_congr {α β} (xs : List α) (f g : α → Except Err (List β))
    (h : ∀ x ∈ xs, f x = g x) : flatMapM xs f = flatMapM xs g := by
  induction xs with
  | nil => rfl
  | cons x xs ih =>
    simp only [flatMapM, h x (List.mem_cons_self ..), ih (fun y hy => h y (List.mem_cons_of_mem _ hy))]

theorem mapM_congr' {α β} (xs : List α) (f g : α → Except Err β)
    (h : ∀ x ∈ xs, f x = g x) : xs.mapM f = xs.mapM g := by
  induction xs with
  | nil => rfl
  | cons x xs ih =>
    simp only [List.mapM_cons, h x (List.mem_cons_self ..), ih (fun y hy => h y (List.mem_cons_of_mem _ hy))]

/-- the value of a computation that returned, `d` otherwise: the witness `fun x => okOr d (f x)` of every `_ok` lemma
below -/
def okOr {β} (d : β) : Except Err β → β
  | .ok y => y
  | .error _ => d

theorem okOr_eq {β} {d : β} {x : Except Err β} {y : β} (h : x = .ok y) : okOr d x = y := by
  subst h; rfl

theorem flatMapM_ok {α β} {xs : List α} {f : α → Except Err (List β)} {ys : List β}
    (h : flatMapM xs f = .ok ys) :
    ∃ g : α → List β, (∀ x ∈ xs, f x = .ok (g x)) ∧ ys = xs.flatMap g := by
  refine ⟨fun x => okOr [] (f x), ?_⟩
  induction xs generalizing ys with
  | nil => cases h; exact ⟨nofun, rfl⟩
  | cons x r ih =>
    simp only [flatMapM] at h
    obtain ⟨a, ha, h⟩ := bind_ok h
    obtain ⟨b, hb, h⟩ := bind_ok h
    cases h
    obtain ⟨ih1, ih2⟩ := ih hb
    exact ⟨List.forall_mem_cons.mpr ⟨by simp only [ha, okOr], ih1⟩, by rw [List.flatMap_cons, ← ih2, ha]; rfl⟩

theorem mapM_ok {α β} [Inhabited β] {xs : List α} {f : α → Except Err β} {ys : List β}
    (h : xs.mapM f = .ok ys) :
    ∃ g : α → β, (∀ x ∈ xs, f x = .ok (g x)) ∧ ys = xs.map g := by
  refine ⟨fun x => okOr default (f x), ?_⟩
  induction xs generalizing ys with
  | nil => cases h; exact ⟨nofun, rfl⟩
  | cons x r ih =>
    rw [List.mapM_cons] at h
    obtain ⟨a, ha, h⟩ := bind_ok h
    obtain ⟨b, hb, h⟩ := bind_ok h
    cases h
    obtain ⟨ih1, ih2⟩ := ih hb
    exact ⟨List.forall_mem_cons.mpr ⟨by simp only [ha, okOr], ih1⟩, by rw [List.map_cons, ← ih2, ha]; rfl⟩

theorem filterAuxM_ok {α} {xs acc : List α} {f : α → Except Err Bool} {ys : List α}
    (h : List.filterAuxM f xs acc = .ok ys) :
    (∀ x ∈ xs, f x = .ok (okOr false (f x))) ∧
      ys = (xs.filter fun x => okOr false (f x)).reverse ++ acc := by
  induction xs generalizing acc ys with
  | nil => cases h; exact ⟨nofun, rfl⟩
  | cons x r ih =>
    simp only [List.filterAuxM] at h
    obtain ⟨b, hb, h⟩ := bind_ok h
    obtain ⟨ih1, ih2⟩ := ih h
    refine ⟨List.forall_mem_cons.mpr ⟨by simp only [hb, okOr], ih1⟩, ?_⟩
    rw [ih2, List.filter_cons, hb]
    cases b <;> simp [okOr]

theorem filterM_ok {α} {xs : List α} {f : α → Except Err Bool} {ys : List α}
    (h : xs.filterM f = .ok ys) :
    ∃ g : α → Bool, (∀ x ∈ xs, f x = .ok (g x)) ∧ ys = xs.filter g := by
  unfold List.filterM at h
  obtain ⟨a, ha, h⟩ := bind_ok h
  cases h
  obtain ⟨h1, h2⟩ := filterAuxM_ok ha
  exact ⟨fun x => okOr false (f x), h1, by simp [h2]⟩

theorem anyM_ok {α} {xs : List α} {f : α → Except Err Bool} {b : Bool}
    (h : anyM xs f = .ok b) :
    ∃ g : α → Bool, (∀ x ∈ xs, f x = .ok (g x)) ∧ b = xs.any g := by
  refine ⟨fun x => okOr false (f x), ?_⟩
  induction xs generalizing b with
  | nil => cases h; exact ⟨nofun, rfl⟩
  | cons x r ih =>
    simp only [anyM] at h
    obtain ⟨a, ha, h⟩ := bind_ok h
    obtain ⟨c, hc, h⟩ := bind_ok h
    cases h
    obtain ⟨ih1, ih2⟩ := ih hc
    exact ⟨List.forall_mem_cons.mpr ⟨by simp only [ha, okOr], ih1⟩, by rw [List.any_cons, ← ih2, ha]; rfl⟩

theorem allM_ok {α} {xs : List α} {f : α → Except Err Bool} {b : Bool}
    (h : allM xs f = .ok b) :
    ∃ g : α → Bool, (∀ x ∈ xs, f x = .ok (g x)) ∧ b = xs.all g := by
  refine ⟨fun x => okOr false (f x), ?_⟩
  induction xs generalizing b with
  | nil => cases h; exact ⟨nofun, rfl⟩
  | cons x r ih =>
    simp only [allM] at h
    obtain ⟨a, ha, h⟩ := bind_ok h
    obtain ⟨c, hc, h⟩ := bind_ok h
    cases h
    obtain ⟨ih1, ih2⟩ := ih hc
    exact ⟨List.forall_mem_cons.mpr ⟨by simp only [ha, okOr], ih1⟩, by rw [List.all_cons, ← ih2, ha]; rfl⟩

/-! ## Fragments and side conditions -/

def Term.noFlat : Term → Bool
  | .var _ => true
  | .lit _ _ => true
  | .attr t _ => t.noFlat
  | .index t _ => t.noFlat
  | .flatten _ => false

/-- the `truth` atoms of the fragments: an attribute / index access. A bare variable as a condition is outside them: met
unbound it is flagged true for every domain value, falsy ones included (`evalVarAt`) -/
def Term.isChain : Term → Bool
  | .attr t _ => t.noFlat
  | .index t _ => t.noFlat
  | _ => false

theorem Term.isChain_noFlat {t : Term} (h : t.isChain = true) : t.noFlat = true := by
  cases t <;> simp_all [Term.isChain, Term.noFlat]

def Expr.isAtom : Expr → Bool
  | .cmp _ l r => l.noFlat && r.noFlat
  | .contains c i => c.noFlat && i.noFlat
  | .hasType t _ => t.noFlat
  | .truth t => t.isChain
  | _ => false

/-- the cover fragment -/
def Expr.Fc : Expr → Bool
  | .cmp _ l r => l.noFlat && r.noFlat
  | .contains c i => c.noFlat && i.noFlat
  | .hasType t _ => t.noFlat
  | .truth t => t.isChain
  | .and l r => l.Fc && r.Fc
  | .elseIf l r => l.Fc && r.Fc
  | .not e => e.Fc
  | .union _ _ => false
  | .exists_ _ _ => false
  | .forAll _ _ => false

/-- the multiplicity fragment -/
def Expr.F2 : Expr → Bool
  | .cmp _ l r => l.noFlat && r.noFlat
  | .contains c i => c.noFlat && i.noFlat
  | .hasType t _ => t.noFlat
  | .truth t => t.isChain
  | .and l r => l.F2 && r.F2
  | .elseIf l r => l.F2 && r.F2 && sameSet l.vars r.vars
  | .not e => e.isAtom
  | .union _ _ => false
  | .exists_ _ _ => false
  | .forAll _ _ => false

def SExpr.isAtom : SExpr → Bool
  | .cmp _ l r => l.noFlat && r.noFlat
  | .contains c i => c.noFlat && i.noFlat
  | .hasType t _ => t.noFlat
  | .truth t => t.isChain
  | _ => false

/-- surface version of `Expr.F2` -/
def SExpr.F2 : SExpr → Bool
  | .cmp _ l r => l.noFlat && r.noFlat
  | .contains c i => c.noFlat && i.noFlat
  | .hasType t _ => t.noFlat
  | .truth t => t.isChain
  | .and l r => l.F2 && r.F2
  | .or l r => l.F2 && r.F2 && sameSet l.freeVars r.freeVars
  | .not e => e.isAtom
  | .exists_ _ _ => false
  | .forAll _ _ => false

theorem Expr.isAtom_Fc {e : Expr} (h : e.isAtom = true) : e.Fc = true := by
  cases e <;> simp_all [Expr.isAtom, Expr.Fc]

theorem Expr.isAtom_F2 {e : Expr} (h : e.isAtom = true) : e.F2 = true := by
  cases e <;> simp_all [Expr.isAtom, Expr.F2]

theorem Expr.F2_Fc {e : Expr} (h : e.F2 = true) : e.Fc = true := by
  induction e with
  | and l r ihl ihr =>
    simp only [Expr.F2, Bool.and_eq_true] at h
    simp [Expr.Fc, ihl h.1, ihr h.2]
  | elseIf l r ihl ihr =>
    simp only [Expr.F2, Bool.and_eq_true] at h
    simp [Expr.Fc, ihl h.1.1, ihr h.1.2]
  | not e _ =>
    simp only [Expr.F2] at h
    simp only [Expr.Fc]
    exact Expr.isAtom_Fc h
  | _ => simp_all [Expr.F2, Expr.Fc]

theorem build_isAtom {s : SExpr} (h : s.isAtom = true) : (build s).isAtom = true := by
  cases s <;> simp_all [SExpr.isAtom, Expr.isAtom, build]

theorem Expr.Fc_noQuant {e : Expr} (h : e.Fc = true) : e.hasQuant = false := by
  induction e <;> simp_all [Expr.Fc, Expr.hasQuant]

def Expr.fvars : Expr → List VarId
  | .cmp _ l r => l.vars ++ r.vars
  | .contains c i => c.vars ++ i.vars
  | .truth t | .hasType t _ => t.vars
  | .and l r | .elseIf l r | .union l r => l.fvars ++ r.fvars
  | .not e => e.fvars
  | .exists_ v e | .forAll v e => e.fvars.filter (· != v)

theorem Expr.fvars_qf {e : Expr} (h : e.hasQuant = false) : e.fvars = e.vars := by
  induction e <;> simp_all [Expr.hasQuant, Expr.fvars, Expr.vars]

theorem invert_fvars (e : Expr) : (invert e).fvars = e.fvars := by
  induction e with
  | exists_ v e ih | forAll v e ih => simp only [invert, Expr.fvars, ih]
  | _ => simp only [invert, Expr.fvars]

theorem build_fvars (s : SExpr) : (build s).fvars = s.freeVars := by
  induction s with
  | and l r ihl ihr => simp only [build, Expr.fvars, SExpr.freeVars, ihl, ihr]
  | or l r ihl ihr =>
    simp only [build, mkOr, SExpr.freeVars]
    split <;> simp only [Expr.fvars, ihl, ihr]
  | not e ih => simp only [build, invert_fvars, SExpr.freeVars, ih]
  | exists_ v e ih | forAll v e ih => simp only [build, Expr.fvars, SExpr.freeVars, ih]
  | _ => simp only [build, Expr.fvars, SExpr.freeVars]

theorem invert_qf {e : Expr} (h : e.hasQuant = false) : invert e = .not e := by
  cases e <;> simp_all [Expr.hasQuant, invert]

theorem build_vars_qf {s : SExpr} (h : (build s).hasQuant = false) : (build s).vars = s.freeVars := by
  rw [← Expr.fvars_qf h, build_fvars]

theorem build_F2 {s : SExpr} (h : s.F2 = true) : (build s).F2 = true := by
  induction s with
  | and l r ihl ihr =>
    simp only [SExpr.F2, Bool.and_eq_true] at h
    simp [build, Expr.F2, ihl h.1, ihr h.2]
  | or l r ihl ihr =>
    simp only [SExpr.F2, Bool.and_eq_true] at h
    have hv : sameSet (build l).vars (build r).vars = true := by
      rw [build_vars_qf (Expr.Fc_noQuant (Expr.F2_Fc (ihl h.1.1))),
        build_vars_qf (Expr.Fc_noQuant (Expr.F2_Fc (ihr h.1.2)))]
      exact h.2
    simp [build, mkOr, hv, Expr.F2, ihl h.1.1, ihr h.1.2]
  | not e _ =>
    simp only [SExpr.F2] at h
    simp only [build, invert_qf (Expr.Fc_noQuant (Expr.isAtom_Fc (build_isAtom h))), Expr.F2]
    exact build_isAtom h
  | _ => simp_all [SExpr.F2, build, Expr.F2]

/-- every domain value is truthy. No theorem about the engine at fix commit `78cb732` needs it (there a bound falsy value
is an operand like any other: F-C01-3 / F-C02-1 are repaired); the tests state through `domTruthyB` that their worlds DO
contain falsy values. -/
def DomTruthy (w : World) : Prop := ∀ v x, x ∈ w.dom v → truthy x = true

def domTruthyB (w : World) : Bool := w.doms.all fun d => d.2.all truthy

def domsNodupB (w : World) : Bool := w.doms.all fun d => decide d.2.Nodup

theorem dom_cases (w : World) (v : VarId) : w.dom v = [] ∨ (v, w.dom v) ∈ w.doms := by
  unfold World.dom
  cases h : w.doms.lookup v with
  | none => left; rfl
  | some d => right; exact mem_of_lookup h

theorem domTruthy_of_B {w : World} (h : domTruthyB w = true) : DomTruthy w := by
  intro v x hx
  rcases dom_cases w v with h0 | h1
  · rw [h0] at hx; cases hx
  · simp only [domTruthyB, List.all_eq_true] at h
    exact h _ h1 x hx

theorem domsNodup_of_B {w : World} (h : domsNodupB w = true) : ∀ v, (w.dom v).Nodup := by
  intro v
  rcases dom_cases w v with h0 | h1
  · rw [h0]; exact List.nodup_nil
  · simp only [domsNodupB, List.all_eq_true, decide_eq_true_eq] at h
    exact h _ h1

def litIds (ks : List Key) : List Nat := ks.filterMap fun k => match k with | .lit i => some i | .var _ => none

/-- the literal nodes of the expression have pairwise distinct ids (tree-shaped query, DESIGN §4) -/
def LitNodup (e : Expr) : Prop := (litIds e.nodes).Nodup

instance (e : Expr) : Decidable (LitNodup e) := by unfold LitNodup; infer_instance

def LitFresh (ks : List Key) (env : Env) : Prop := ∀ id, Key.lit id ∈ ks → env.lookup (.lit id) = none

theorem LitFresh.mono {k1 k2 : List Key} {env : Env} (h : LitFresh k2 env) (hs : ∀ k ∈ k1, k ∈ k2) :
    LitFresh k1 env := fun i hi => h i (hs _ hi)

theorem mem_litIds {ks : List Key} {i : Nat} : i ∈ litIds ks ↔ Key.lit i ∈ ks := by
  simp only [litIds, List.mem_filterMap]
  constructor
  · rintro ⟨k, hk, h⟩; cases k <;> simp_all
  · intro h; exact ⟨_, h, rfl⟩

theorem litIds_append (a b : List Key) : litIds (a ++ b) = litIds a ++ litIds b := by
  simp [litIds, List.filterMap_append]

theorem litIds_cons_var (v : VarId) (ks : List Key) : litIds (Key.var v :: ks) = litIds ks := by
  simp [litIds]

theorem litNodup_append {a b : List Key} (h : (litIds (a ++ b)).Nodup) :
    (litIds a).Nodup ∧ (litIds b).Nodup ∧ ∀ i, Key.lit i ∈ a → Key.lit i ∉ b := by
  rw [litIds_append, List.nodup_append] at h
  refine ⟨h.1, h.2.1, ?_⟩
  intro i ha hb
  exact h.2.2 i (mem_litIds.mpr ha) i (mem_litIds.mpr hb) rfl

theorem litNodup_cons_var {q : VarId} {ks : List Key} (h : (litIds (Key.var q :: ks)).Nodup) : (litIds ks).Nodup := by
  rwa [litIds_cons_var] at h

theorem Term.mem_nodes_var {t : Term} {v : VarId} : Key.var v ∈ t.nodes ↔ v ∈ t.vars := by
  induction t <;> simp_all [Term.nodes, Term.vars]

theorem Expr.mem_nodes_var {e : Expr} {v : VarId} : Key.var v ∈ e.nodes ↔ v ∈ e.vars := by
  induction e <;> simp_all [Expr.nodes, Expr.vars, Term.mem_nodes_var]

def Term.lits : Term → List (Nat × Val)
  | .var _ => []
  | .lit id x => [(id, x)]
  | .attr t _ | .index t _ | .flatten t => t.lits

def Expr.lits : Expr → List (Nat × Val)
  | .cmp _ l r => l.lits ++ r.lits
  | .contains c i => c.lits ++ i.lits
  | .truth t | .hasType t _ => t.lits
  | .and l r | .elseIf l r | .union l r => l.lits ++ r.lits
  | .not e => e.lits
  | .exists_ _ e | .forAll _ e => e.lits

theorem Term.lits_ids (t : Term) : t.lits.map (·.1) = litIds t.nodes := by
  induction t with
  | var v | lit i x => simp [Term.lits, Term.nodes, litIds]
  | attr t n ih | index t i ih | flatten t ih => exact ih

theorem Expr.lits_ids (e : Expr) : e.lits.map (·.1) = litIds e.nodes := by
  induction e with
  | cmp op l r | contains c i => simp only [Expr.lits, Expr.nodes, List.map_append, litIds_append, Term.lits_ids]
  | truth t | hasType t c => simp only [Expr.lits, Expr.nodes, Term.lits_ids]
  | and l r ihl ihr | elseIf l r ihl ihr | union l r ihl ihr =>
    simp only [Expr.lits, Expr.nodes, List.map_append, litIds_append, ihl, ihr]
  | not e ih => simp only [Expr.lits, Expr.nodes, ih]
  | exists_ v e ih | forAll v e ih => simp only [Expr.lits, Expr.nodes, litIds_cons_var, ih]

theorem mem_lits_nodes {e : Expr} {id : Nat} {x : Val} (h : (id, x) ∈ e.lits) : Key.lit id ∈ e.nodes := by
  rw [← mem_litIds, ← Expr.lits_ids]
  exact List.mem_map.mpr ⟨(id, x), h, rfl⟩

theorem Term.mem_lits_nodes {t : Term} {id : Nat} {x : Val} (h : (id, x) ∈ t.lits) : Key.lit id ∈ t.nodes := by
  rw [← mem_litIds, ← Term.lits_ids]
  exact List.mem_map.mpr ⟨(id, x), h, rfl⟩

/-- the table `L` of literal nodes gives every id one value -/
def LitFn (L : List (Nat × Val)) : Prop := ∀ id x y, (id, x) ∈ L → (id, y) ∈ L → x = y

theorem LitNodup.litFn {e : Expr} (h : LitNodup e) : LitFn e.lits :=
  fun _ _ _ hx hy => congrArg Prod.snd (nodup_map_inj (f := (·.1)) (by rw [Expr.lits_ids]; exact h) hx hy rfl)

/-! ## First-order reading of core expressions -/

/-- the ordinary first-order reading of a core expression (`elseIf`/`union` = or) -/
def satE (w : World) : Expr → Asg → Except Err Bool
  | .cmp op l r, σ => do
    let ls ← tvals w σ l; let rs ← tvals w σ r
    anyM ls fun a => anyM rs fun b => applyCmp w op a b
  | .contains c i, σ => do
    let cs ← tvals w σ c; let is ← tvals w σ i
    anyM cs fun a => anyM is fun b => applyContains w a b
  | .truth t, σ => do pure ((← tvals w σ t).any truthy)
  | .hasType t c, σ => do pure ((← tvals w σ t).any fun x => isInstance w x c)
  | .and l r, σ => do pure ((← satE w l σ) && (← satE w r σ))
  | .elseIf l r, σ => do pure ((← satE w l σ) || (← satE w r σ))
  | .union l r, σ => do pure ((← satE w l σ) || (← satE w r σ))
  | .not e, σ => do pure (!(← satE w e σ))
  | .exists_ v e, σ => anyM (w.dom v) fun x => satE w e ((v, x) :: σ)
  | .forAll v e, σ => allM (w.dom v) fun x => satE w e ((v, x) :: σ)

theorem allM_not {α} (xs : List α) (f : α → Except Err Bool) :
    allM xs (fun x => do pure (!(← f x))) = (do pure (!(← anyM xs f))) := by
  induction xs with
  | nil => rfl
  | cons x r ih =>
    simp only [allM, anyM, ih]
    cases f x with
    | error e => rfl
    | ok a =>
      cases anyM r f with
      | error e => rfl
      | ok c => cases a <;> cases c <;> rfl

theorem anyM_not {α} (xs : List α) (f : α → Except Err Bool) :
    anyM xs (fun x => do pure (!(← f x))) = (do pure (!(← allM xs f))) := by
  induction xs with
  | nil => rfl
  | cons x r ih =>
    simp only [allM, anyM, ih]
    cases f x with
    | error e => rfl
    | ok a =>
      cases allM r f with
      | error e => rfl
      | ok c => cases a <;> cases c <;> rfl

/-! ## Agreement, cells, environment extension -/

/-- the (total) assignment `τ` is compatible with the partial assignment `env`: every *variable* binding of
`env` is the value `τ` gives (literal bindings are ignored) -/
def agreesB (τ : Asg) (env : Env) : Bool :=
  env.all fun p => match p.1 with
    | .var v => τ.lookup v == some p.2
    | .lit _ => true

theorem agreesB_iff {τ : Asg} {env : Env} :
    agreesB τ env = true ↔ ∀ v x, (Key.var v, x) ∈ env → τ.lookup v = some x := by
  simp only [agreesB, List.all_eq_true]
  constructor
  · intro h v x hm; simpa using h _ hm
  · intro h p hp
    obtain ⟨k, x⟩ := p
    cases k with
    | var v => simpa using h v x hp
    | lit i => rfl

theorem agreesB_nil (τ : Asg) : agreesB τ [] = true := rfl

theorem agreesB_cons_var (τ : Asg) (v : VarId) (x : Val) (env : Env) :
    agreesB τ ((.var v, x) :: env) = (τ.lookup v == some x && agreesB τ env) := rfl

theorem agreesB_cons_lit (τ : Asg) (i : Nat) (x : Val) (env : Env) :
    agreesB τ ((.lit i, x) :: env) = agreesB τ env := by
  simp [agreesB]

theorem agreesB_append (τ : Asg) (a b : Env) : agreesB τ (a ++ b) = (agreesB τ a && agreesB τ b) := by
  simp [agreesB, List.all_append]

/-- the result cells compatible with `τ` -/
def cells {α} (τ : Asg) (rs : List (Env × α)) : List (Env × α) := rs.filter fun p => agreesB τ p.1

def keys (env : Env) : List Key := env.map (·.1)

theorem lookup_append_of_not_mem {α β} [BEq α] [LawfulBEq α] {a b : List (α × β)} {k : α} (h : ∀ p ∈ a, p.1 ≠ k) :
    (a ++ b).lookup k = b.lookup k := by
  have : a.lookup k = none := by
    rw [List.lookup_eq_none_iff]
    intro p hp
    rw [bne_iff_ne]
    exact fun heq => h p hp heq.symm
  rw [List.lookup_append, this]
  rfl

theorem agreesB_suffix {τ : Asg} {pre env : Env} (h : agreesB τ (pre ++ env) = true) : agreesB τ env = true := by
  rw [agreesB_append, Bool.and_eq_true] at h
  exact h.2

theorem litFresh_append {k1 k2 : List Key} {pre env : Env} (ha : LitFresh k2 env) (hp : ∀ b ∈ pre, b.1 ∈ k1)
    (hd : ∀ i, Key.lit i ∈ k1 → Key.lit i ∉ k2) : LitFresh k2 (pre ++ env) := by
  intro i hi
  have hne : ∀ q ∈ pre, q.1 ≠ Key.lit i := fun q hq heq => hd i (heq ▸ hp q hq) hi
  rw [lookup_append_of_not_mem hne]
  exact ha i hi

theorem mem_keys {env : Env} {k : Key} {x : Val} (h : (k, x) ∈ env) : k ∈ keys env :=
  List.mem_map.mpr ⟨(k, x), h, rfl⟩

theorem lookup_append_none {a b : Env} {k : Key} (h : (a ++ b).lookup k = none) :
    a.lookup k = none ∧ b.lookup k = none := by
  rwa [List.lookup_append, Option.or_eq_none_iff] at h

/-- what an evaluation adds to `env`: new bindings in front, of distinct keys that `env` does not bind, a variable of `vs` to a
value of its domain, a literal node to its value in the table `L` -/
def Grows (w : World) (vs : List VarId) (L : List (Nat × Val)) (env env' : Env) : Prop :=
  ∃ pre, env' = pre ++ env ∧ (keys pre).Nodup ∧ (∀ b ∈ pre, env.lookup b.1 = none) ∧
    ∀ b ∈ pre, (∀ v, b.1 = Key.var v → v ∈ vs ∧ b.2 ∈ w.dom v) ∧ (∀ id, b.1 = Key.lit id → (id, b.2) ∈ L)

theorem Grows.refl (w : World) (vs : List VarId) (L : List (Nat × Val)) (env : Env) : Grows w vs L env env :=
  ⟨[], rfl, by simp [keys], by simp, by simp⟩

theorem Grows.cons {w : World} {vs : List VarId} {L : List (Nat × Val)} {env : Env} {k : Key} {x : Val}
    (hn : env.lookup k = none) (hv : ∀ v, k = Key.var v → v ∈ vs ∧ x ∈ w.dom v)
    (hl : ∀ id, k = Key.lit id → (id, x) ∈ L) : Grows w vs L env ((k, x) :: env) :=
  ⟨[(k, x)], rfl, by simp [keys], List.forall_mem_singleton.2 hn, List.forall_mem_singleton.2 ⟨hv, hl⟩⟩

theorem Grows.trans {w : World} {v1 v2 : List VarId} {L1 L2 : List (Nat × Val)} {a b c : Env}
    (h1 : Grows w v1 L1 a b) (h2 : Grows w v2 L2 b c) : Grows w (v1 ++ v2) (L1 ++ L2) a c := by
  obtain ⟨p1, rfl, hn1, hf1, hp1⟩ := h1
  obtain ⟨p2, rfl, hn2, hf2, hp2⟩ := h2
  refine ⟨p2 ++ p1, by simp, ?_, ?_, ?_⟩
  · simp only [keys, List.map_append, List.nodup_append]
    refine ⟨hn2, hn1, ?_⟩
    intro k hk2 k' hk1 heq
    subst heq
    obtain ⟨b, hb, rfl⟩ := List.mem_map.mp hk2
    exact lookup_eq_none_iff_not_mem_keys.1 (lookup_append_none (hf2 b hb)).1 hk1
  · intro b hb
    rcases List.mem_append.mp hb with hb | hb
    · exact (lookup_append_none (hf2 b hb)).2
    · exact hf1 b hb
  · intro b hb
    rcases List.mem_append.mp hb with hb | hb
    · exact ⟨fun v hv => ⟨List.mem_append_right _ ((hp2 b hb).1 v hv).1, ((hp2 b hb).1 v hv).2⟩,
        fun id hid => List.mem_append_right _ ((hp2 b hb).2 id hid)⟩
    · exact ⟨fun v hv => ⟨List.mem_append_left _ ((hp1 b hb).1 v hv).1, ((hp1 b hb).1 v hv).2⟩,
        fun id hid => List.mem_append_left _ ((hp1 b hb).2 id hid)⟩

theorem Grows.mono {w : World} {v1 v2 : List VarId} {L1 L2 : List (Nat × Val)} {a b : Env} (h : Grows w v1 L1 a b)
    (hv : ∀ v ∈ v1, v ∈ v2) (hL : ∀ x ∈ L1, x ∈ L2) : Grows w v2 L2 a b := by
  obtain ⟨p, rfl, hn, hf, hp⟩ := h
  exact ⟨p, rfl, hn, hf, fun q hq =>
    ⟨fun v h => ⟨hv v ((hp q hq).1 v h).1, ((hp q hq).1 v h).2⟩, fun id h => hL _ ((hp q hq).2 id h)⟩⟩

theorem Grows.suffix {w : World} {vs : List VarId} {L : List (Nat × Val)} {a b : Env} (h : Grows w vs L a b) :
    ∃ pre, b = pre ++ a :=
  h.imp fun _ h => h.1

theorem Grows.agrees {w : World} {vs : List VarId} {L : List (Nat × Val)} {a b : Env} {τ : Asg} (h : Grows w vs L a b)
    (hb : agreesB τ b = true) : agreesB τ a = true := by
  obtain ⟨p, rfl, _⟩ := h
  exact agreesB_suffix hb

/-- a weaker reading of `Grows`: new bindings in front, of keys among `ks`, a variable inside its domain, and duplicate-free
keys stay duplicate-free -/
def Ext (w : World) (ks : List Key) (env env' : Env) : Prop :=
  ∃ pre, env' = pre ++ env ∧ (∀ p ∈ pre, p.1 ∈ ks ∧ ∀ v, p.1 = .var v → p.2 ∈ w.dom v) ∧
    ((keys env).Nodup → (keys env').Nodup)

theorem Ext.agrees {w : World} {ks : List Key} {a b : Env} {τ : Asg} (h : Ext w ks a b)
    (hb : agreesB τ b = true) : agreesB τ a = true := by
  obtain ⟨p, rfl, _, _⟩ := h
  exact agreesB_suffix hb

theorem Grows.isSome {w : World} {vs : List VarId} {L : List (Nat × Val)} {a b : Env} (h : Grows w vs L a b) {k : Key}
    (hk : (a.lookup k).isSome = true) : (b.lookup k).isSome = true := by
  obtain ⟨p, rfl, _⟩ := h
  exact isSome_lookup_append_right hk

theorem Grows.litFresh {w : World} {vs : List VarId} {L : List (Nat × Val)} {ks : List Key} {a b : Env}
    (h : Grows w vs L a b) (ha : LitFresh ks a) (hd : ∀ id x, (id, x) ∈ L → Key.lit id ∉ ks) : LitFresh ks b := by
  obtain ⟨p, rfl, _, _, hp⟩ := h
  intro i hi
  rw [lookup_append_of_not_mem fun q hq heq => hd i q.2 ((hp q hq).2 i heq) hi]
  exact ha i hi

theorem filter_single {α β} {P : α → Bool} {rs : List α} {f : α → β} {t : β} (h : (rs.filter P).map f = [t]) :
    ∃ a, rs.filter P = [a] ∧ f a = t ∧ a ∈ rs ∧ P a = true := by
  obtain ⟨a, ha, hat⟩ := List.map_eq_singleton_iff.1 h
  have hm := List.mem_filter.mp (ha ▸ List.mem_singleton.mpr rfl : a ∈ rs.filter P)
  exact ⟨a, ha, hat, hm.1, hm.2⟩

theorem cells_flag {α β} {τ : Asg} {rs : List (Env × α)} {f : Env × α → β} {t : β}
    (h : (cells τ rs).map f = [t]) {p : Env × α} (hp : p ∈ rs) (hag : agreesB τ p.1 = true) : f p = t := by
  have : f p ∈ (cells τ rs).map f := List.mem_map.mpr ⟨p, List.mem_filter.mpr ⟨hp, hag⟩, rfl⟩
  rw [h, List.mem_singleton] at this
  exact this

/-- what `p` lists in front of `env`: `pre` for `p = pre ++ env` -/
def newOf (env p : Env) : Env := p.take (p.length - env.length)

theorem newOf_append (pre env : Env) : newOf env (pre ++ env) = pre := by
  simp [newOf]

theorem newOf_cons (b : Key × Val) (env : Env) : newOf env (b :: env) = [b] := newOf_append [b] env

theorem newOf_self (env : Env) : newOf env env = [] := newOf_append [] env

/-- the result cells whose ADDED bindings are compatible with `τ`. The input environment `env` may bind variables that `τ`
does not know, or list a key twice (`ForAll` re-appends bindings); what an evaluation from `env` decides depends only on
what it adds, and on `env` through `lookup` (`VarsOK`, `LitOK`). -/
def cellsFrom {α} (env : Env) (τ : Asg) (rs : List (Env × α)) : List (Env × α) :=
  rs.filter fun p => agreesB τ (newOf env p.1)

theorem cells_eq_cellsFrom {α} {τ : Asg} {env : Env} {rs : List (Env × α)} (hag : agreesB τ env = true)
    (hs : ∀ p ∈ rs, ∃ pre, p.1 = pre ++ env) : cells τ rs = cellsFrom env τ rs :=
  List.filter_congr fun p hp => by
    obtain ⟨pre, hpe⟩ := hs p hp
    rw [hpe, newOf_append, agreesB_append, hag, Bool.and_true]

theorem cellsFrom_flatMap {α β} (env : Env) (τ : Asg) (ls : List (Env × α)) (g : Env × α → List (Env × β))
    (hls : ∀ a ∈ ls, ∃ pre, a.1 = pre ++ env) (hg : ∀ a ∈ ls, ∀ p ∈ g a, ∃ pre, p.1 = pre ++ a.1) :
    cellsFrom env τ (ls.flatMap g) = (cellsFrom env τ ls).flatMap fun a => cellsFrom a.1 τ (g a) := by
  induction ls with
  | nil => rfl
  | cons a t ih =>
    have iht := ih (fun a ha => hls a (List.mem_cons_of_mem _ ha)) fun a ha => hg a (List.mem_cons_of_mem _ ha)
    obtain ⟨pre, hpe⟩ := hls a List.mem_cons_self
    -- a refinement `p = pre' ++ pre ++ env` of `a = pre ++ env` adds `pre' ++ pre` to `env` and `pre'` to `a`
    have key : ∀ p ∈ g a, agreesB τ (newOf env p.1) = (agreesB τ (newOf a.1 p.1) && agreesB τ (newOf env a.1)) := by
      intro p hp
      obtain ⟨pre', hpe'⟩ := hg a List.mem_cons_self p hp
      rw [hpe', newOf_append, hpe, newOf_append, ← List.append_assoc, newOf_append, agreesB_append]
    simp only [cellsFrom, List.flatMap_cons, List.filter_append, List.filter_cons] at iht ⊢
    rw [iht, List.filter_congr key]
    cases agreesB τ (newOf env a.1) <;> simp

theorem cellsFrom_map_single {α β γ δ} {env : Env} {τ : Asg} {rs : List (Env × α)} {v : Env × α → γ} {c : γ}
    (h : (cellsFrom env τ rs).map v = [c]) {φ : Env × α → β} {u : Env × β → δ} {d : δ}
    (hu : ∀ p ∈ rs, v p = c → u (p.1, φ p) = d) :
    (cellsFrom env τ (rs.map fun p => (p.1, φ p))).map u = [d] := by
  obtain ⟨a, ha, hv, ham, _⟩ := filter_single h
  have hmap : cellsFrom env τ (rs.map fun p => (p.1, φ p)) = (cellsFrom env τ rs).map fun p => (p.1, φ p) :=
    List.filter_map
  rw [hmap, cellsFrom, ha, List.map_cons, List.map_nil, List.map_cons, List.map_nil, hu a ham hv]

theorem cellsFrom_refine {α β γ δ} {env : Env} {τ : Asg} {ls : List (Env × α)}
    {g : Env × α → List (Env × β)} {v : Env × α → γ} {c : γ} {u : Env × β → δ} {d : δ}
    (hls : ∀ a ∈ ls, ∃ pre, a.1 = pre ++ env) (hg : ∀ a ∈ ls, ∀ p ∈ g a, ∃ pre, p.1 = pre ++ a.1)
    (hl : (cellsFrom env τ ls).map v = [c])
    (hgc : ∀ a ∈ ls, v a = c → agreesB τ (newOf env a.1) = true → (cellsFrom a.1 τ (g a)).map u = [d]) :
    (cellsFrom env τ (ls.flatMap g)).map u = [d] := by
  obtain ⟨a, ha, hv, ham, haa⟩ := filter_single hl
  rw [cellsFrom_flatMap env τ ls g hls hg, cellsFrom, ha, List.flatMap_cons, List.flatMap_nil, List.append_nil]
  exact hgc a ham hv haa

/-! ## Terms -/

/-- the attribute / index step over the operand results of the child term -/
def mapVal (cp : Bool) (op : Val → Except Err Val) (rs : List (Env × Val × Bool)) :
    Except Err (List (Env × Val × Bool)) :=
  rs.mapM fun r => do
    let x ← op r.2.1
    pure (r.1, x, if cp then truthy x else true)

theorem evalTerm_attr (w : World) (cp : Bool) (t : Term) (n : AttrName) (env : Env) :
    evalTerm w cp (.attr t n) env = (evalTerm w false t env >>= mapVal cp (fun x => getAttr w x n)) := rfl

theorem evalTerm_index (w : World) (cp : Bool) (t : Term) (i : Nat) (env : Env) :
    evalTerm w cp (.index t i) env = (evalTerm w false t env >>= mapVal cp (fun x => getIndex x i)) := rfl

theorem mapVal_ok {cp : Bool} {op : Val → Except Err Val} {rs0 rs : List (Env × Val × Bool)}
    (h : mapVal cp op rs0 = .ok rs) :
    ∃ g : Env × Val × Bool → Val, (∀ r ∈ rs0, op r.2.1 = .ok (g r)) ∧
      rs = rs0.map fun r => (r.1, g r, if cp then truthy (g r) else true) := by
  obtain ⟨g0, hg0, rfl⟩ := mapM_ok h
  refine ⟨fun r => okOr .none (op r.2.1), ?_, ?_⟩
  · intro r hr
    obtain ⟨x, hx, _⟩ := bind_ok (hg0 r hr)
    simp only [hx, okOr]
  · apply List.map_congr_left
    intro r hr
    obtain ⟨x, hx, h2⟩ := bind_ok (hg0 r hr)
    have := pure_ok h2
    simp only [hx, okOr]
    exact this.symm

theorem evalVar_mem {w : World} {cp : Bool} {v : VarId} {env : Env} {p : Env × Val × Bool}
    (hp : p ∈ evalVarAt w cp v env) :
    (∃ y, env.lookup (.var v) = some y ∧ p = (env, y, boundFlag cp y)) ∨
    (env.lookup (.var v) = none ∧ ∃ y ∈ w.dom v, p = ((.var v, y) :: env, y, true)) := by
  unfold evalVarAt at hp
  split at hp
  · rename_i y hy; left; exact ⟨y, hy, by simpa using hp⟩
  · rename_i hn; right
    obtain ⟨y, hy, rfl⟩ := List.mem_map.mp hp
    exact ⟨hn, y, hy, rfl⟩

theorem evalLit_cases (w : World) (cp : Bool) (id : Nat) (x : Val) (env : Env) :
    (∃ y, env.lookup (.lit id) = some y ∧ evalTerm w cp (.lit id x) env = .ok [(env, y, boundFlag cp y)]) ∨
    (env.lookup (.lit id) = none ∧ evalTerm w cp (.lit id x) env = .ok [((.lit id, x) :: env, x, true)]) := by
  unfold evalTerm
  cases h : env.lookup (.lit id) with
  | some y => left; exact ⟨y, rfl, rfl⟩
  | none => right; exact ⟨rfl, rfl⟩

theorem evalTerm_flatten_inv {w : World} {cp : Bool} {t : Term} {env : Env} {rs : List (Env × Val × Bool)}
    (h : evalTerm w cp (.flatten t) env = .ok rs) :
    ∃ rs0, evalTerm w false t env = .ok rs0 ∧
      ∀ p ∈ rs, ∃ r ∈ rs0, ∃ x, p = (r.1, x, if cp then truthy x else true) := by
  simp only [evalTerm] at h
  obtain ⟨rs0, h0, h⟩ := bind_ok h
  obtain ⟨g, hg, rfl⟩ := flatMapM_ok h
  refine ⟨rs0, h0, fun p hp => ?_⟩
  obtain ⟨r, hr, hp⟩ := List.mem_flatMap.mp hp
  obtain ⟨xs, _, h2⟩ := bind_ok (hg r hr)
  rw [← pure_ok h2] at hp
  obtain ⟨x, _, rfl⟩ := List.mem_map.mp hp
  exact ⟨r, hr, x, rfl⟩

theorem evalTerm_grows_binds (w : World) (t : Term) :
    ∀ cp env rs, evalTerm w cp t env = .ok rs → ∀ p ∈ rs,
      Grows w t.vars t.lits env p.1 ∧ ∀ k ∈ t.nodes, (p.1.lookup k).isSome = true := by
  induction t with
  | var v =>
    intro cp env rs h p hp
    simp only [evalTerm] at h; cases h
    simp only [Term.nodes, List.mem_singleton, forall_eq]
    rcases evalVar_mem hp with ⟨y, hy, rfl⟩ | ⟨hn, y, hy, rfl⟩
    · exact ⟨Grows.refl _ _ _ _, by simp [hy]⟩
    · exact ⟨Grows.cons hn (by rintro _ ⟨⟩; exact ⟨List.mem_singleton.mpr rfl, hy⟩) nofun, by simp⟩
  | lit id x =>
    intro cp env rs h p hp
    simp only [Term.nodes, List.mem_singleton, forall_eq]
    rcases evalLit_cases w cp id x env with ⟨y, hy, he⟩ | ⟨hn, he⟩
    · rw [he] at h; cases h
      obtain rfl := List.mem_singleton.mp hp
      exact ⟨Grows.refl _ _ _ _, by simp [hy]⟩
    · rw [he] at h; cases h
      obtain rfl := List.mem_singleton.mp hp
      exact ⟨Grows.cons hn nofun (by rintro _ ⟨⟩; exact List.mem_singleton.mpr rfl), by simp⟩
  | attr t _ ih | index t _ ih =>
    intro cp env rs h p hp
    simp only [evalTerm_attr, evalTerm_index] at h
    obtain ⟨rs0, h0, h⟩ := bind_ok h
    obtain ⟨g, _, rfl⟩ := mapVal_ok h
    obtain ⟨r, hr, rfl⟩ := List.mem_map.mp hp
    exact ih false env rs0 h0 r hr
  | flatten t ih =>
    intro cp env rs h p hp
    obtain ⟨rs0, h0, hrs⟩ := evalTerm_flatten_inv h
    obtain ⟨r, hr, x, rfl⟩ := hrs p hp
    exact ih false env rs0 h0 r hr

theorem evalTerm_grows (w : World) (t : Term) :
    ∀ cp env rs, evalTerm w cp t env = .ok rs → ∀ p ∈ rs, Grows w t.vars t.lits env p.1 :=
  fun cp env rs h p hp => (evalTerm_grows_binds w t cp env rs h p hp).1

theorem evalTerm_binds (w : World) (t : Term) :
    ∀ cp env rs, evalTerm w cp t env = .ok rs → ∀ p ∈ rs, ∀ k ∈ t.nodes, (p.1.lookup k).isSome = true :=
  fun cp env rs h p hp => (evalTerm_grows_binds w t cp env rs h p hp).2

/-- the engine at fix commit `78cb732`: a falsy bound value is an operand like any other (F-C01-3) -/
theorem evalTerm_flag_operand (w : World) (t : Term) {env : Env} {rs : List (Env × Val × Bool)}
    (h : evalTerm w false t env = .ok rs) :
    ∀ p ∈ rs, p.2.2 = true := by
  intro p hp
  cases t with
  | var v =>
    simp only [evalTerm] at h; cases h
    rcases evalVar_mem hp with ⟨y, hy, rfl⟩ | ⟨hn, y, hy, rfl⟩
    · rfl
    · rfl
  | lit id x =>
    rcases evalLit_cases w false id x env with ⟨y, hy, he⟩ | ⟨hn, he⟩
    · rw [he] at h
      cases h
      obtain rfl := List.mem_singleton.mp hp
      rfl
    · rw [he] at h
      cases h
      obtain rfl := List.mem_singleton.mp hp
      rfl
  | attr t _ | index t _ =>
    simp only [evalTerm_attr, evalTerm_index] at h
    obtain ⟨rs0, h0, h⟩ := bind_ok h
    obtain ⟨g, _, rfl⟩ := mapVal_ok h
    obtain ⟨r, hr, rfl⟩ := List.mem_map.mp hp
    rfl
  | flatten t =>
    obtain ⟨rs0, h0, hrs⟩ := evalTerm_flatten_inv h
    obtain ⟨r, hr, x, rfl⟩ := hrs p hp
    rfl

theorem evalTerm_flag_cond (w : World) (t : Term) (hc : t.isChain = true) {env : Env}
    {rs : List (Env × Val × Bool)} (h : evalTerm w true t env = .ok rs) :
    ∀ p ∈ rs, p.2.2 = truthy p.2.1 := by
  intro p hp
  cases t with
  | attr t _ | index t _ =>
    simp only [evalTerm_attr, evalTerm_index] at h
    obtain ⟨rs0, h0, h⟩ := bind_ok h
    obtain ⟨g, _, rfl⟩ := mapVal_ok h
    obtain ⟨r, hr, rfl⟩ := List.mem_map.mp hp
    rfl
  | _ => simp [Term.isChain] at hc

theorem filter_beq_single {l : List Val} {x : Val} (h : l.count x = 1) : l.filter (· == x) = [x] := by
  rw [List.filter_beq, h]; rfl

theorem cellsFrom_dom (τ : Asg) (env : Env) (v : VarId) (x : Val) (hτ : τ.lookup v = some x) (l : List Val) :
    (cellsFrom env τ (l.map fun y => ((Key.var v, y) :: env, y, true))).map (·.2.1) = l.filter (· == x) := by
  induction l with
  | nil => rfl
  | cons y t ih =>
    simp only [cellsFrom] at ih
    simp only [List.map_cons, cellsFrom, List.filter_cons, newOf_cons, agreesB_cons_var, hτ, agreesB_nil, Bool.and_true]
    by_cases hxy : y = x
    · subst hxy; simp [ih]
    · have h1 : (some x == some y) = false := by simp; exact fun h => hxy h.symm
      have h2 : (y == x) = false := by simp [hxy]
      simp [h1, h2, ih]

def Covers (w : World) (τ : Asg) (vs : List VarId) : Prop :=
  ∀ v ∈ vs, ∃ x, τ.lookup v = some x ∧ (w.dom v).count x = 1

theorem Covers.left {w : World} {τ : Asg} {a b : List VarId} (h : Covers w τ (a ++ b)) : Covers w τ a :=
  fun v hv => h v (List.mem_append_left _ hv)

theorem Covers.right {w : World} {τ : Asg} {a b : List VarId} (h : Covers w τ (a ++ b)) : Covers w τ b :=
  fun v hv => h v (List.mem_append_right _ hv)

/-- `τ` gives every variable of `vs` a value; `env` binds the variable to that value, or leaves it open and the value occurs
exactly once in the domain that will be enumerated -/
def VarsOK (w : World) (τ : Asg) (env : Env) (vs : List VarId) : Prop :=
  ∀ v ∈ vs, ∃ x, τ.lookup v = some x ∧
    (env.lookup (.var v) = some x ∨ (env.lookup (.var v) = none ∧ (w.dom v).count x = 1))

/-- a literal node of the table `L` that `env` binds already (it can be met bound under `for_all`) is bound to its own value -/
def LitOK (L : List (Nat × Val)) (env : Env) : Prop :=
  ∀ il ∈ L, env.lookup (.lit il.1) = some il.2 ∨ env.lookup (.lit il.1) = none

theorem VarsOK.of_covers {w : World} {τ : Asg} {env : Env} {vs : List VarId} (hcov : Covers w τ vs)
    (hag : agreesB τ env = true) : VarsOK w τ env vs := by
  intro v hv
  obtain ⟨x, hx, hc⟩ := hcov v hv
  refine ⟨x, hx, ?_⟩
  cases hl : env.lookup (.var v) with
  | none => exact Or.inr ⟨rfl, hc⟩
  | some y =>
    rw [← agreesB_iff.mp hag v y (mem_of_lookup hl), hx]
    exact Or.inl rfl

theorem VarsOK.of_grows {w : World} {τ : Asg} {env a : Env} {vs us : List VarId} {L : List (Nat × Val)}
    (h : VarsOK w τ env vs) (hx : Grows w us L env a) (hag : agreesB τ (newOf env a) = true) : VarsOK w τ a vs := by
  obtain ⟨pre, rfl, _, _, _⟩ := hx
  rw [newOf_append] at hag
  intro v hv
  obtain ⟨x, hx, hc⟩ := h v hv
  refine ⟨x, hx, ?_⟩
  rw [List.lookup_append]
  cases hl : pre.lookup (Key.var v) with
  | some y =>
    rw [← agreesB_iff.mp hag v y (mem_of_lookup hl), hx]
    exact Or.inl rfl
  | none => exact hc

theorem LitOK.of_fresh {L : List (Nat × Val)} {ks : List Key} {env : Env} (h : LitFresh ks env)
    (hL : ∀ il ∈ L, Key.lit il.1 ∈ ks) : LitOK L env :=
  fun il hil => Or.inr (h il.1 (hL il hil))

theorem LitOK.of_grows {w : World} {env a : Env} {vs : List VarId} {L L' : List (Nat × Val)} (hfn : LitFn L)
    (h : LitOK L env) (hx : Grows w vs L' env a) (hL : ∀ x ∈ L', x ∈ L) : LitOK L a := by
  obtain ⟨pre, rfl, _, _, hprop⟩ := hx
  intro il hil
  rw [List.lookup_append]
  cases hl : pre.lookup (Key.lit il.1) with
  | none => exact h il hil
  | some y =>
    rw [hfn il.1 y il.2 (hL _ ((hprop _ (mem_of_lookup hl)).2 il.1 rfl)) hil]
    exact Or.inl rfl

theorem evalTerm_coverFrom (w : World) (τ : Asg) (L : List (Nat × Val)) (t : Term) :
    ∀ cp env rs x, t.noFlat = true → (∀ il ∈ t.lits, il ∈ L) → VarsOK w τ env t.vars → LitOK L env →
      evalTerm w cp t env = .ok rs → tval w τ t = .ok x → (cellsFrom env τ rs).map (·.2.1) = [x] := by
  induction t with
  | var v =>
    intro cp env rs x _ _ hv _ h htv
    simp only [evalTerm] at h; cases h
    obtain ⟨x', hx', hc⟩ := hv v (by simp [Term.vars])
    simp only [tval, hx'] at htv; cases htv
    unfold evalVarAt
    rcases hc with hb | ⟨hn, hc⟩
    · rw [hb]
      simp [cellsFrom, newOf_self, agreesB_nil]
    · rw [hn]
      -- `v` open: one cell per value of the domain (once the `match` on `none` is reduced); those that agree with `τ` are the
      -- occurrences of `x` in the domain, and there is one
      simp only []
      rw [cellsFrom_dom τ env v x hx', filter_beq_single hc]
  | lit id y =>
    intro cp env rs x _ hL _ hl h htv
    simp only [tval] at htv; cases htv
    rcases evalLit_cases w cp id y env with ⟨z, hz, he⟩ | ⟨hn, he⟩
    · rw [he] at h; cases h
      -- a literal met bound carries its own value
      have hzy : z = y := by
        rcases hl (id, y) (hL _ (by simp [Term.lits])) with h1 | h1
        · rw [hz] at h1; exact Option.some.inj h1
        · rw [hz] at h1; cases h1
      subst hzy
      simp [cellsFrom, newOf_self, agreesB_nil]
    · rw [he] at h; cases h
      simp [cellsFrom, newOf_cons, agreesB_cons_lit, agreesB_nil]
  | attr t _ ih | index t _ ih =>
    intro cp env rs x hnf hL hv hl h htv
    simp only [evalTerm_attr, evalTerm_index] at h
    obtain ⟨rs0, h0, h⟩ := bind_ok h
    obtain ⟨g, hg, rfl⟩ := mapVal_ok h
    simp only [tval] at htv
    obtain ⟨x0, hx0, hx⟩ := bind_ok htv
    refine cellsFrom_map_single (ih false env rs0 x0 hnf hL hv hl h0 hx0) fun r hr hv => ?_
    have := hg r hr
    rw [hv, hx] at this
    exact (Except.ok.inj this).symm
  | flatten t _ => intro cp env rs x hnf; simp [Term.noFlat] at hnf

theorem evalTerm_cover (w : World) (τ : Asg) (t : Term) :
    ∀ cp env rs x, t.noFlat = true → Covers w τ t.vars → LitFresh t.nodes env → agreesB τ env = true →
      evalTerm w cp t env = .ok rs → tval w τ t = .ok x → (cells τ rs).map (·.2.1) = [x] := by
  intro cp env rs x hnf hcov hlf hag h htv
  rw [cells_eq_cellsFrom hag fun p hp => (evalTerm_grows w t cp env rs h p hp).suffix]
  exact evalTerm_coverFrom w τ t.lits t cp env rs x hnf (fun _ h => h) (.of_covers hcov hag)
    (.of_fresh hlf fun _ => Term.mem_lits_nodes) h htv

/-! ## Comparators -/

/-- `evalCmp` with the order of evaluation made explicit: `f` is evaluated first, `s` second -/
def evalCmpCore (w : World) (f s : Term) (cmb : Val → Val → Except Err Bool) (env : Env) :
    Except Err (List (Env × Bool)) := do
  let r1 ← evalTerm w false f env
  flatMapM (r1.filter (·.2.2)) fun p1 => do
    let r2 ← evalTerm w false s p1.1
    (r2.filter (·.2.2)).mapM fun p2 => do
      let b ← cmb p1.2.1 p2.2.1
      pure (p2.1, b)

theorem evalCmp_eq (w : World) (l r : Term) (op : Val → Val → Except Err Bool) (env : Env) :
    evalCmp w l r op env = evalCmpCore w l r op env ∨
    evalCmp w l r op env = evalCmpCore w r l (fun a b => op b a) env := by
  unfold evalCmp evalCmpCore
  cases (!env.isEmpty && envHasAny env r.nodes)
  · left; rfl
  · right; rfl

theorem evalCmpCore_inv {w : World} {f s : Term} {cmb : Val → Val → Except Err Bool} {env : Env}
    {rs : List (Env × Bool)} (h : evalCmpCore w f s cmb env = .ok rs) :
    ∃ r1 g, evalTerm w false f env = .ok r1 ∧ rs = (r1.filter (·.2.2)).flatMap g ∧
      ∀ p1 ∈ r1.filter (·.2.2), ∃ (r2 : List (Env × Val × Bool)) (c : Env × Val × Bool → Bool),
        evalTerm w false s p1.1 = .ok r2 ∧
        (∀ p2 ∈ r2.filter (·.2.2), cmb p1.2.1 p2.2.1 = .ok (c p2)) ∧
        g p1 = (r2.filter (·.2.2)).map fun p2 => (p2.1, c p2) := by
  unfold evalCmpCore at h
  obtain ⟨r1, h1, h⟩ := bind_ok h
  obtain ⟨g, hg, rfl⟩ := flatMapM_ok h
  refine ⟨r1, g, h1, rfl, ?_⟩
  intro p1 hp1
  obtain ⟨r2, h2, h3⟩ := bind_ok (hg p1 hp1)
  obtain ⟨g0, hg0, h4⟩ := mapM_ok h3
  refine ⟨r2, fun p2 => (g0 p2).2, h2, ?_, ?_⟩
  · intro p2 hp2
    obtain ⟨b, hb, h5⟩ := bind_ok (hg0 p2 hp2)
    show _ = Except.ok (g0 p2).2
    rw [← pure_ok h5]; exact hb
  · rw [h4]
    apply List.map_congr_left
    intro p2 hp2
    obtain ⟨b, hb, h5⟩ := bind_ok (hg0 p2 hp2)
    show g0 p2 = (p2.1, (g0 p2).2)
    rw [← pure_ok h5]

theorem evalCmpCore_grows_binds {w : World} {f s : Term} {cmb : Val → Val → Except Err Bool} {env : Env}
    {rs : List (Env × Bool)} (h : evalCmpCore w f s cmb env = .ok rs) :
    ∀ p ∈ rs, Grows w (f.vars ++ s.vars) (f.lits ++ s.lits) env p.1 ∧
      ∀ k ∈ f.nodes ++ s.nodes, (p.1.lookup k).isSome = true := by
  obtain ⟨r1, g, h1, rfl, hg⟩ := evalCmpCore_inv h
  intro p hp
  obtain ⟨p1, hp1, hp⟩ := List.mem_flatMap.mp hp
  obtain ⟨r2, c, h2, _, hgp⟩ := hg p1 hp1
  rw [hgp] at hp
  obtain ⟨p2, hp2, rfl⟩ := List.mem_map.mp hp
  obtain ⟨x1, b1⟩ := evalTerm_grows_binds w f false env r1 h1 p1 (List.mem_filter.mp hp1).1
  obtain ⟨x2, b2⟩ := evalTerm_grows_binds w s false p1.1 r2 h2 p2 (List.mem_filter.mp hp2).1
  exact ⟨x1.trans x2, fun k hk => (List.mem_append.mp hk).elim (fun hk => x2.isSome (b1 k hk)) (b2 k)⟩

theorem evalCmpCore_coverFrom {w : World} {τ : Asg} {L : List (Nat × Val)} {f s : Term}
    {cmb : Val → Val → Except Err Bool} {env : Env} {rs : List (Env × Bool)} {a b : Val} {c : Bool} (hfn : LitFn L)
    (hnf : f.noFlat = true) (hns : s.noFlat = true) (hLf : ∀ il ∈ f.lits, il ∈ L) (hLs : ∀ il ∈ s.lits, il ∈ L)
    (hvf : VarsOK w τ env f.vars) (hvs : VarsOK w τ env s.vars) (hl : LitOK L env)
    (h : evalCmpCore w f s cmb env = .ok rs)
    (ha : tval w τ f = .ok a) (hb : tval w τ s = .ok b) (hc : cmb a b = .ok c) :
    (cellsFrom env τ rs).map (·.2) = [c] := by
  obtain ⟨r1, g, h1, rfl, hg⟩ := evalCmpCore_inv h
  -- an operand is always flagged true (fix commit `78cb732`), so the comparator's filter by flag drops no cell, here and for `s`
  rw [List.filter_eq_self.mpr (evalTerm_flag_operand w f h1)] at hg ⊢
  have hgr1 := evalTerm_grows w f false env r1 h1
  refine cellsFrom_refine (fun p1 hp1 => (hgr1 p1 hp1).suffix) ?_
    (evalTerm_coverFrom w τ L f false env r1 a hnf hLf hvf hl h1 ha) ?_
  · intro p1 hp1 p hp
    obtain ⟨r2, c', h2, _, hgp⟩ := hg p1 hp1
    rw [hgp] at hp
    obtain ⟨p2, hp2, rfl⟩ := List.mem_map.mp hp
    exact (evalTerm_grows w s false p1.1 r2 h2 p2 (List.mem_filter.mp hp2).1).suffix
  · intro p1 hp1 hv1 hag1
    obtain ⟨r2, c', h2, hc', hgp⟩ := hg p1 hp1
    rw [List.filter_eq_self.mpr (evalTerm_flag_operand w s h2)] at hgp hc'
    rw [hgp]
    refine cellsFrom_map_single (evalTerm_coverFrom w τ L s false p1.1 r2 b hns hLs (hvs.of_grows (hgr1 p1 hp1) hag1)
      (hl.of_grows hfn (hgr1 p1 hp1) hLf) h2 hb) fun p2 hp2 hv2 => ?_
    have := hc' p2 hp2
    rw [hv1, hv2, hc] at this
    exact (Except.ok.inj this).symm

theorem evalCmp_grows_binds {w : World} {l r : Term} {op : Val → Val → Except Err Bool} {env : Env}
    {rs : List (Env × Bool)} (h : evalCmp w l r op env = .ok rs) :
    ∀ p ∈ rs, Grows w (l.vars ++ r.vars) (l.lits ++ r.lits) env p.1 ∧
      ∀ k ∈ l.nodes ++ r.nodes, (p.1.lookup k).isSome = true := by
  rcases evalCmp_eq w l r op env with he | he
  · exact evalCmpCore_grows_binds (he ▸ h)
  · intro p hp
    obtain ⟨x, b⟩ := evalCmpCore_grows_binds (he ▸ h) p hp
    exact ⟨x.mono List.perm_append_comm.subset List.perm_append_comm.subset,
      fun k hk => b k (List.perm_append_comm.subset hk)⟩

theorem evalCmp_binds {w : World} {l r : Term} {op : Val → Val → Except Err Bool} {env : Env}
    {rs : List (Env × Bool)} (h : evalCmp w l r op env = .ok rs) :
    ∀ p ∈ rs, ∀ k ∈ l.nodes ++ r.nodes, (p.1.lookup k).isSome = true :=
  fun p hp => (evalCmp_grows_binds h p hp).2

theorem evalCmp_coverFrom {w : World} {τ : Asg} {L : List (Nat × Val)} {l r : Term}
    {op : Val → Val → Except Err Bool} {env : Env} {rs : List (Env × Bool)} {a b : Val} {c : Bool} (hfn : LitFn L)
    (hnl : l.noFlat = true) (hnr : r.noFlat = true) (hL : ∀ il ∈ l.lits ++ r.lits, il ∈ L)
    (hv : VarsOK w τ env (l.vars ++ r.vars)) (hlit : LitOK L env)
    (h : evalCmp w l r op env = .ok rs)
    (ha : tval w τ l = .ok a) (hb : tval w τ r = .ok b) (hc : op a b = .ok c) :
    (cellsFrom env τ rs).map (·.2) = [c] := by
  have hvl : VarsOK w τ env l.vars := fun v hm => hv v (List.mem_append_left _ hm)
  have hvr : VarsOK w τ env r.vars := fun v hm => hv v (List.mem_append_right _ hm)
  have hLl : ∀ il ∈ l.lits, il ∈ L := fun x hx => hL x (List.mem_append_left _ hx)
  have hLr : ∀ il ∈ r.lits, il ∈ L := fun x hx => hL x (List.mem_append_right _ hx)
  rcases evalCmp_eq w l r op env with he | he
  · rw [he] at h
    exact evalCmpCore_coverFrom hfn hnl hnr hLl hLr hvl hvr hlit h ha hb hc
  · rw [he] at h
    exact evalCmpCore_coverFrom hfn hnr hnl hLr hLl hvr hvl hlit h hb ha hc

/-! ## First-order reading of `flatten`-free atoms -/

theorem mapM_single {α β} (f : α → Except Err β) (x : α) : [x].mapM f = (f x >>= fun y => pure [y]) := by
  rw [List.mapM_cons, List.mapM_nil]
  cases f x <;> rfl

theorem tvals_noFlat (w : World) (σ : Asg) (t : Term) (h : t.noFlat = true) :
    tvals w σ t = (tval w σ t >>= fun x => pure [x]) := by
  induction t with
  | var v => simp only [tvals, tval]; cases σ.lookup v <;> rfl
  | lit i x => rfl
  | attr t _ ih | index t _ ih => simp only [tvals, tval, ih h, bind_assoc, pure_bind, mapM_single]
  | flatten t _ => simp [Term.noFlat] at h

theorem tvals_ok_noFlat {w : World} {σ : Asg} {t : Term} (h : t.noFlat = true) {xs : List Val}
    (hx : tvals w σ t = .ok xs) : ∃ x, tval w σ t = .ok x ∧ xs = [x] := by
  rw [tvals_noFlat w σ t h] at hx
  obtain ⟨x, hx1, hx2⟩ := bind_ok hx
  exact ⟨x, hx1, (pure_ok hx2).symm⟩

theorem anyM_singleton {α} (x : α) (f : α → Except Err Bool) : anyM [x] f = f x := by
  simp only [anyM]
  cases f x with
  | error e => rfl
  | ok a => cases a <;> rfl

theorem satCmp_inv {w : World} {σ : Asg} {l r : Term} {op : Val → Val → Except Err Bool} {c : Bool}
    (hl : l.noFlat = true) (hr : r.noFlat = true)
    (h : (do let ls ← tvals w σ l; let rs ← tvals w σ r
             anyM ls fun a => anyM rs fun b => op a b) = .ok c) :
    ∃ a b, tval w σ l = .ok a ∧ tval w σ r = .ok b ∧ op a b = .ok c := by
  obtain ⟨ls, h1, h⟩ := bind_ok h
  obtain ⟨rs, h2, h⟩ := bind_ok h
  obtain ⟨a, ha, rfl⟩ := tvals_ok_noFlat hl h1
  obtain ⟨b, hb, rfl⟩ := tvals_ok_noFlat hr h2
  exact ⟨a, b, ha, hb, by rwa [anyM_singleton, anyM_singleton] at h⟩

theorem satAny_inv {w : World} {σ : Asg} {t : Term} {f : Val → Bool} {b : Bool} (ht : t.noFlat = true)
    (h : (do pure ((← tvals w σ t).any f)) = .ok b) : ∃ x, tval w σ t = .ok x ∧ b = f x := by
  obtain ⟨xs, hxs, hb⟩ := bind_ok h
  obtain ⟨x, hx, rfl⟩ := tvals_ok_noFlat ht hxs
  exact ⟨x, hx, by rw [← pure_ok hb]; simp⟩

/-! ## Expressions: inversion, extension, cover -/

theorem eval_truth_inv {w : World} {t : Term} {env : Env} {rs : List (Env × Bool)}
    (h : eval w (.truth t) env = .ok rs) :
    ∃ rs0, evalTerm w true t env = .ok rs0 ∧ rs = rs0.map fun r => (r.1, r.2.2) := by
  simp only [eval] at h
  obtain ⟨rs0, h0, h⟩ := bind_ok h
  exact ⟨rs0, h0, (pure_ok h).symm⟩

theorem eval_hasType_inv {w : World} {t : Term} {c : Nat} {env : Env} {rs : List (Env × Bool)}
    (h : eval w (.hasType t c) env = .ok rs) :
    ∃ rs0, evalTerm w false t env = .ok rs0 ∧ rs = rs0.map fun r => (r.1, isInstance w r.2.1 c) := by
  simp only [eval] at h
  obtain ⟨rs0, h0, h⟩ := bind_ok h
  exact ⟨rs0, h0, (pure_ok h).symm⟩

theorem eval_not_inv {w : World} {e : Expr} {env : Env} {rs : List (Env × Bool)}
    (h : eval w (.not e) env = .ok rs) :
    ∃ rs0, eval w e env = .ok rs0 ∧ rs = rs0.map fun p => (p.1, !p.2) := by
  simp only [eval] at h
  obtain ⟨rs0, h0, h⟩ := bind_ok h
  exact ⟨rs0, h0, (pure_ok h).symm⟩

/-- `and` refines the cells of its left side flagged `true` by its right side, `elseIf` those flagged `false`; the other
cells are passed on -/
def Expr.seqFlag : Expr → Option (Bool × Expr × Expr)
  | .and l r => some (true, l, r)
  | .elseIf l r => some (false, l, r)
  | _ => none

theorem eval_seq_inv {w : World} {e l r : Expr} {k : Bool} (he : e.seqFlag = some (k, l, r)) {env : Env}
    {rs : List (Env × Bool)} (h : eval w e env = .ok rs) :
    ∃ ls g, eval w l env = .ok ls ∧ rs = ls.flatMap g ∧
      ∀ a ∈ ls, (a.2 = k → eval w r a.1 = .ok (g a)) ∧ (a.2 = !k → g a = [(a.1, !k)]) := by
  cases e <;> cases he <;> simp only [eval] at h
  all_goals
    obtain ⟨ls, h0, h⟩ := bind_ok h
    obtain ⟨g, hg, rfl⟩ := flatMapM_ok h
    refine ⟨ls, g, h0, rfl, fun a ha => ?_⟩
    have := hg a ha
    constructor
    · intro h2
      rw [h2] at this
      exact this
    · intro h2
      rw [h2] at this
      exact (pure_ok this).symm

theorem satE_seq_inv {w : World} {e l r : Expr} {k : Bool} (he : e.seqFlag = some (k, l, r)) {τ : Asg} {b : Bool}
    (h : satE w e τ = .ok b) :
    ∃ bl br, satE w l τ = .ok bl ∧ satE w r τ = .ok br ∧ b = if bl = k then br else !k := by
  cases e <;> cases he <;> simp only [satE] at h
  all_goals
    obtain ⟨bl, hbl, h⟩ := bind_ok h
    obtain ⟨br, hbr, h⟩ := bind_ok h
    cases pure_ok h
    exact ⟨bl, br, hbl, hbr, by cases bl <;> rfl⟩

theorem eval_union_inv {w : World} {l r : Expr} {env : Env} {rs : List (Env × Bool)}
    (h : eval w (.union l r) env = .ok rs) :
    ∃ ls g rr, eval w l env = .ok ls ∧ eval w r env = .ok rr ∧ rs = ls.flatMap g ++ rr ∧
      ∀ a ∈ ls, (a.2 = false → eval w r a.1 = .ok (g a)) ∧ (a.2 = true → g a = [(a.1, true)]) := by
  rw [eval, ← bind_assoc] at h
  obtain ⟨es, he, h⟩ := bind_ok h
  obtain ⟨rr, hr, h⟩ := bind_ok h
  obtain ⟨ls, g, h0, rfl, hg⟩ := eval_seq_inv (e := .elseIf l r) rfl he
  exact ⟨ls, g, rr, h0, hr, (pure_ok h).symm, hg⟩

/-- the step of `and` (`k = true`), `elseIf` and `union` (`k = false`) on one cell `a` of the left side, `x` being the
evaluation of the right side from `a` -/
theorem branch_rel {R : Env → Env → Prop} (hrefl : ∀ env, R env env) {a : Env × Bool} {ga : List (Env × Bool)}
    {k : Bool} {x : Except Err (List (Env × Bool))} (hx : ∀ rs, x = .ok rs → ∀ p ∈ rs, R a.1 p.1)
    (h1 : a.2 = k → x = .ok ga) (h2 : a.2 = !k → ga = [(a.1, !k)]) : ∀ p ∈ ga, R a.1 p.1 := by
  intro p hp
  by_cases h : a.2 = k
  · exact hx ga (h1 h) p hp
  · rw [h2 (Bool.eq_not_of_ne h), List.mem_singleton] at hp
    subst hp
    exact hrefl _

theorem eval_grows (w : World) (e : Expr) :
    e.hasQuant = false → ∀ env rs, eval w e env = .ok rs → ∀ p ∈ rs, Grows w e.vars e.lits env p.1 := by
  induction e with
  | cmp _ l r | contains l r =>
    intro _ env rs h p hp
    simp only [eval] at h
    exact (evalCmp_grows_binds h p hp).1
  | truth t =>
    intro _ env rs h p hp
    obtain ⟨rs0, h0, rfl⟩ := eval_truth_inv h
    obtain ⟨r, hr, rfl⟩ := List.mem_map.mp hp
    exact evalTerm_grows w t true env rs0 h0 r hr
  | hasType t c =>
    intro _ env rs h p hp
    obtain ⟨rs0, h0, rfl⟩ := eval_hasType_inv h
    obtain ⟨r, hr, rfl⟩ := List.mem_map.mp hp
    exact evalTerm_grows w t false env rs0 h0 r hr
  | and l r ihl ihr | elseIf l r ihl ihr =>
    intro hq env rs h p hp
    simp only [Expr.hasQuant, Bool.or_eq_false_iff] at hq
    obtain ⟨ls, g, h0, rfl, hg⟩ := eval_seq_inv rfl h
    obtain ⟨a, ha, hp⟩ := List.mem_flatMap.mp hp
    exact (ihl hq.1 env ls h0 a ha).trans
      (branch_rel (Grows.refl w _ _) (ihr hq.2 a.1) (hg a ha).1 (hg a ha).2 p hp)
  | union l r ihl ihr =>
    intro hq env rs h p hp
    simp only [Expr.hasQuant, Bool.or_eq_false_iff] at hq
    obtain ⟨ls, g, rr, h0, hr, rfl, hg⟩ := eval_union_inv h
    rcases List.mem_append.mp hp with hp | hp
    · obtain ⟨a, ha, hp⟩ := List.mem_flatMap.mp hp
      exact (ihl hq.1 env ls h0 a ha).trans
        (branch_rel (Grows.refl w _ _) (ihr hq.2 a.1) (hg a ha).1 (hg a ha).2 p hp)
    · exact (ihr hq.2 env rr hr p hp).mono (List.subset_append_right _ _) (List.subset_append_right _ _)
  | not e ih =>
    intro hq env rs h p hp
    obtain ⟨rs0, h0, rfl⟩ := eval_not_inv h
    obtain ⟨r, hr, rfl⟩ := List.mem_map.mp hp
    exact ih hq env rs0 h0 r hr
  | exists_ v e _ | forAll v e _ => intro hq; simp [Expr.hasQuant] at hq

/-- The cover invariant for ANY input environment that `τ` and the literal table can live with (`VarsOK`, `LitOK`): an `env`
compatible with `τ` and free of the literals gives `C01_cover`; an `env` that binds every variable gives one cell in all
(`lclosed_eval`, `Lemmas/EqlQuant.lean`). -/
theorem coverFrom (w : World) (τ : Asg) (L : List (Nat × Val)) (hfn : LitFn L) (e : Expr) :
    e.Fc = true → (∀ x ∈ e.lits, x ∈ L) → ∀ env rs b, VarsOK w τ env e.vars → LitOK L env →
      eval w e env = .ok rs → satE w e τ = .ok b → (cellsFrom env τ rs).map (·.2) = [b] := by
  induction e with
  | cmp _ l r | contains l r =>
    intro hF hL env rs b hv hl h hs
    simp only [Expr.Fc, Bool.and_eq_true] at hF
    simp only [eval] at h
    obtain ⟨a, b', ha, hb, hc⟩ := satCmp_inv hF.1 hF.2 hs
    exact evalCmp_coverFrom hfn hF.1 hF.2 hL hv hl h ha hb hc
  | truth t =>
    intro hF hL env rs b hv hl h hs
    obtain ⟨rs0, h0, rfl⟩ := eval_truth_inv h
    obtain ⟨x, hx, rfl⟩ := satAny_inv (Term.isChain_noFlat hF) hs
    refine cellsFrom_map_single (evalTerm_coverFrom w τ L t true env rs0 x (Term.isChain_noFlat hF) hL hv hl h0 hx)
      fun r hr hv => ?_
    rw [← hv]
    exact evalTerm_flag_cond w t hF h0 r hr
  | hasType t c =>
    intro hF hL env rs b hv hl h hs
    obtain ⟨rs0, h0, rfl⟩ := eval_hasType_inv h
    obtain ⟨x, hx, rfl⟩ := satAny_inv hF hs
    refine cellsFrom_map_single (evalTerm_coverFrom w τ L t false env rs0 x hF hL hv hl h0 hx) fun r hr hv => ?_
    rw [← hv]
  | and l r ihl ihr | elseIf l r ihl ihr =>
    intro hF hL env rs b hv hl h hs
    simp only [Expr.Fc, Bool.and_eq_true] at hF
    obtain ⟨ls, g, h0, rfl, hg⟩ := eval_seq_inv rfl h
    obtain ⟨bl, br, hbl, hbr, rfl⟩ := satE_seq_inv rfl hs
    have hgl := eval_grows w l (Expr.Fc_noQuant hF.1) env ls h0
    have hLl : ∀ x ∈ l.lits, x ∈ L := fun x hx => hL x (List.mem_append_left _ hx)
    refine cellsFrom_refine (fun a ha => (hgl a ha).suffix)
      (fun a ha => branch_rel (R := fun x y => ∃ pre, y = pre ++ x) (fun _ => ⟨[], rfl⟩)
        (fun rs hrs p hp => (eval_grows w r (Expr.Fc_noQuant hF.2) a.1 rs hrs p hp).suffix) (hg a ha).1 (hg a ha).2)
      (ihl hF.1 hLl env ls bl (fun v hm => hv v (List.mem_append_left _ hm)) hl h0 hbl) fun a ha hab haa => ?_
    -- `a`, the cell of `l` that `τ` falls into, is flagged `bl`: `r` is evaluated from it iff `bl` is the flag `k` that `and` / `elseIf`
    -- goes on from, and then decides; otherwise `a` is passed on flagged `!k`, which is the value of the whole
    split
    · rename_i hk
      -- the cell `a` being refined is compatible, so what it bound is what `τ` says
      exact ihr hF.2 (fun x hx => hL x (List.mem_append_right _ hx)) a.1 (g a) br
        (VarsOK.of_grows (fun v hm => hv v (List.mem_append_right _ hm)) (hgl a ha) haa)
        (hl.of_grows hfn (hgl a ha) hLl) ((hg a ha).1 (hab.trans hk)) hbr
    · rename_i hk
      rw [(hg a ha).2 (hab.trans (Bool.eq_not_of_ne hk))]
      simp [cellsFrom, newOf_self, agreesB_nil]
  | not e ih =>
    intro hF hL env rs b hv hl h hs
    obtain ⟨rs0, h0, rfl⟩ := eval_not_inv h
    simp only [satE] at hs
    obtain ⟨b0, hb0, hs⟩ := bind_ok hs
    cases pure_ok hs
    exact cellsFrom_map_single (ih hF hL env rs0 b0 hv hl h0 hb0) fun p _ hv => congrArg (!·) hv
  | union l r _ _ | exists_ v e _ | forAll v e _ =>
    intro hF
    simp [Expr.Fc] at hF

/-- For `e` in the cover fragment (comparisons, membership, `HasType`, attribute/index chains
as conditions, `and`, `elseIf`, `not`; no `union`, quantifier or `flatten`), every total assignment `τ` whose
values for the variables of `e` occur exactly once in their domains and which is compatible with `env` lies in
**exactly one** result cell of `eval w e env`, and that cell's truth flag is the first-order truth value of `e`
under `τ`. Conditional on both sides returning `.ok`. -/
theorem C01_cover (w : World) (τ : Asg) (e : Expr)
    (hF : e.Fc = true) (hτ : ∀ v ∈ e.vars, ∃ x, τ.lookup v = some x ∧ (w.dom v).count x = 1)
    (hlit : LitNodup e) (env : Env) (rs : List (Env × Bool)) (b : Bool)
    (hfresh : ∀ id, Key.lit id ∈ e.nodes → env.lookup (.lit id) = none)
    (hag : agreesB τ env = true)
    (he : eval w e env = .ok rs) (hs : satE w e τ = .ok b) :
    (rs.filter fun p => agreesB τ p.1).map (·.2) = [b] := by
  -- `env` agrees with `τ`, so a cell `pre ++ env` agrees with `τ` iff what it adds does: the filter of the statement, which is
  -- `cells τ rs` by definition, is `cellsFrom env τ rs`; `[b]` is rewritten to it and the two sides meet
  rw [← coverFrom w τ e.lits hlit.litFn e hF (fun _ h => h) env rs b (.of_covers hτ hag)
    (.of_fresh hfresh fun _ => mem_lits_nodes) he hs,
    ← cells_eq_cellsFrom hag fun p hp => (eval_grows w e (Expr.Fc_noQuant hF) env rs he p hp).suffix]
  rfl

end KrroodVerif.Eql
