import KrroodVerif.Model.OrmGen
import KrroodVerif.Lemmas.ListBasics
/-!
# Lemmas about the definitions of `Model/OrmGen.lean`

What the name formulas, the parent chain, the dataclass field merge and the kind dispatch do, as far as the C06
theorems (`Props/C06.lean`) need it.
-/
namespace KrroodVerif.OrmGen

/-! ## name formulas -/

theorem toLower_of_not (c : Char) (h : ¬ (c.val ≥ 'A'.val ∧ c.val ≤ 'Z'.val)) : c.toLower = c := by
  unfold Char.toLower
  rw [dif_neg h]

theorem toLower_val_of (c : Char) (h : c.val ≥ 'A'.val ∧ c.val ≤ 'Z'.val) :
    c.toLower.val = c.val + ('a'.val - 'A'.val) := by
  unfold Char.toLower
  rw [dif_pos h]

theorem toLower_toLower (c : Char) : c.toLower.toLower = c.toLower := by
  by_cases h : c.val ≥ 'A'.val ∧ c.val ≤ 'Z'.val
  · apply toLower_of_not
    rw [toLower_val_of c h]
    intro ⟨_, h4⟩
    have hA : 'A'.val.toNat = 65 := by decide
    have hZ : 'Z'.val.toNat = 90 := by decide
    have hd : ('a'.val - 'A'.val).toNat = 32 := by decide
    have h1 := UInt32.le_iff_toNat_le.mp h.1
    have h2 := UInt32.le_iff_toNat_le.mp h.2
    have h4 := UInt32.le_iff_toNat_le.mp h4
    rw [UInt32.toNat_add, hd] at h4
    omega
  · rw [toLower_of_not c h, toLower_of_not c h]

/-- `"dao_"`: what follows the lower-cased class name in an association table name -/
abbrev daoUnderscore : Name := ['d', 'a', 'o', '_']

theorem lower_tableName (c : Name) : lower (tableName c) = lower c ++ ['d', 'a', 'o'] := by
  simp [tableName, daoSuffix, lower]

theorem tableName_injective : Function.Injective tableName := by
  intro a b h
  exact List.append_cancel_right h

theorem fkName_injective : Function.Injective fkName := by
  intro a b h
  exact List.append_cancel_right h

theorem dao_split_nil (b x y : Name) (hb : hasDaoUnderscore b = false)
    (h : daoUnderscore ++ x = b ++ daoUnderscore ++ y) : b = [] := by
  match b, hb, h with
  | [], _, _ => rfl
  | [_], _, h => simp at h
  | [_, _], _, h => simp at h
  | [_, _, _], _, h => simp at h
  | c1 :: c2 :: c3 :: c4 :: r, hb, h =>
    simp at h
    obtain ⟨h1, h2, h3, h4, _⟩ := h
    subst h1 h2 h3 h4
    simp [hasDaoUnderscore, List.isPrefixOf] at hb

theorem hasDaoUnderscore_tail {c : Char} {r : Name} (h : hasDaoUnderscore (c :: r) = false) :
    hasDaoUnderscore r = false := by
  rw [hasDaoUnderscore, Bool.or_eq_false_iff] at h
  exact h.2

theorem dao_split_unique : ∀ (a b x y : Name), hasDaoUnderscore a = false → hasDaoUnderscore b = false →
    a ++ daoUnderscore ++ x = b ++ daoUnderscore ++ y → a = b ∧ x = y
  | [], b, x, y, _, hb, h => by
    have : b = [] := dao_split_nil b x y hb (by simpa using h)
    subst this
    simpa using h
  | c :: a, [], x, y, ha, _, h => by
    have : c :: a = [] := dao_split_nil (c :: a) y x ha (by simpa using h.symm)
    exact absurd this (by simp)
  | c :: a, d :: b, x, y, ha, hb, h => by
    simp only [List.cons_append, List.cons.injEq] at h
    obtain ⟨hcd, h⟩ := h
    have := dao_split_unique a b x y (hasDaoUnderscore_tail ha) (hasDaoUnderscore_tail hb)
      (by simpa using h)
    exact ⟨by rw [hcd, this.1], this.2⟩

theorem assocName_eq (t f : Name) : assocName t f = lower t ++ ['_'] ++ f ++ assocSuffix := by
  simp [assocName]

theorem assocName_tableName (c f : Name) :
    assocName (tableName c) f = lower c ++ daoUnderscore ++ (f ++ assocSuffix) := by
  rw [assocName_eq, lower_tableName]
  simp

theorem lower_assocName (c f : Name) :
    lower (assocName (tableName c) f) = lower c ++ daoUnderscore ++ (lower f ++ assocSuffix) := by
  rw [assocName_tableName]
  simp [lower, toLower_toLower, assocSuffix]

theorem assocName_split {c₁ c₂ x₁ x₂ : Name} (h₁ : hasDaoUnderscore (lower c₁) = false)
    (h₂ : hasDaoUnderscore (lower c₂) = false)
    (h : lower c₁ ++ daoUnderscore ++ (x₁ ++ assocSuffix) = lower c₂ ++ daoUnderscore ++ (x₂ ++ assocSuffix)) :
    lower c₁ = lower c₂ ∧ x₁ = x₂ := by
  have := dao_split_unique _ _ _ _ h₁ h₂ h
  exact ⟨this.1, List.append_cancel_right this.2⟩

theorem lower_assocName_injective {c₁ c₂ f₁ f₂ : Name} (h₁ : hasDaoUnderscore (lower c₁) = false)
    (h₂ : hasDaoUnderscore (lower c₂) = false)
    (h : lower (assocName (tableName c₁) f₁) = lower (assocName (tableName c₂) f₂)) :
    lower c₁ = lower c₂ ∧ lower f₁ = lower f₂ := by
  rw [lower_assocName, lower_assocName] at h
  exact assocName_split h₁ h₂ h

theorem lower_tableName_ne_assocName (c₁ c₂ f : Name) :
    lower (tableName c₁) ≠ lower (assocName (tableName c₂) f) := by
  intro h
  rw [lower_assocName, lower_tableName] at h
  have := congrArg (fun l => l.reverse.head?) h
  simp [assocSuffix] at this

theorem assocName_right_injective (t : Name) : Function.Injective (assocName t) := by
  intro f g h
  rw [assocName_eq, assocName_eq] at h
  exact List.append_cancel_left (List.append_cancel_right h)

theorem fkName_ne_self (x : Name) : fkName x ≠ x := by
  intro h
  have := congrArg List.length h
  simp [fkName, idSuffix] at this

theorem endsWithId_fkName (x : Name) : endsWithId (fkName x) = true := by
  simp [endsWithId, fkName, List.isSuffixOf_iff_suffix]

theorem lower_fkName (x : Name) : lower (fkName x) = fkName (lower x) := by
  simp [fkName, lower, idSuffix]

theorem pkName_eq : pkName = fkName databaseName := by decide

theorem lower_pkName : lower pkName = pkName := by decide

theorem lower_polyName : lower polyName = polyName := by decide

/-- `fieldNameOk` clause by clause -/
structure NameOk (n : Name) : Prop where
  lower_eq : lower n = n
  not_id : endsWithId n = false
  ne_poly : n ≠ polyName
  ne_database : n ≠ databaseName

theorem nameOk_of_fieldNameOk {n : Name} (h : fieldNameOk n = true) : NameOk n := by
  obtain ⟨h1, h2, h3, h4⟩ : lower n = n ∧ endsWithId n = false ∧ n ≠ polyName ∧ n ≠ databaseName := by
    simpa [fieldNameOk, and_assoc] using h
  exact ⟨h1, h2, h3, h4⟩

/-! ## class lookup and the parent chain -/

theorem lookup_some {m : ClassModel} {n : Name} {c : Class} (h : lookup m n = some c) : c ∈ m ∧ c.name = n := by
  unfold lookup at h
  exact ⟨List.mem_of_find?_eq_some h, by simpa using List.find?_some h⟩

theorem lookup_eq_some_iff {m : ClassModel} (hn : (m.map (·.name)).Nodup) {n : Name} {c : Class} :
    lookup m n = some c ↔ c ∈ m ∧ c.name = n := by
  refine ⟨lookup_some, fun ⟨hc, e⟩ => ?_⟩
  cases h : lookup m n with
  | none => exact absurd (List.find?_eq_none.mp h c hc) (by simp [e])
  | some d =>
    obtain ⟨hd, e'⟩ := lookup_some h
    rw [nodup_map_inj hn hd hc (e'.trans e.symm)]

theorem mapped_iff {m : ClassModel} {n : Name} : mapped m n = true ↔ ∃ c ∈ m, c.name = n := by
  unfold mapped lookup
  rw [List.find?_isSome]
  simp

theorem parentOf_some {m : ClassModel} {c p : Class} (h : parentOf m c = some p) :
    p ∈ m ∧ c.base = some p.name := by
  obtain ⟨b, hb, h⟩ := Option.bind_eq_some_iff.mp h
  obtain ⟨hp, rfl⟩ := lookup_some h
  exact ⟨hp, hb⟩

theorem parentOf_of_base {m : ClassModel} (wf : WF m) {d : Class} (hd : d ∈ m) {b : Name} (hb : d.base = some b) :
    ∃ p, parentOf m d = some p ∧ p.name = b := by
  have := wf.basesMapped d hd b hb
  unfold mapped at this
  obtain ⟨p, hl⟩ := Option.isSome_iff_exists.mp this
  exact ⟨p, by rw [parentOf, hb, Option.bind_some, hl], (lookup_some hl).2⟩

theorem anc_mem {m : ClassModel} (n : Nat) (c a : Class) (h : a ∈ anc m n c) : a ∈ m := by
  fun_induction anc m n c with
  -- no fuel, or no parent: the chain is empty
  | case1 => simp at h
  | case2 => simp at h
  | case3 n c p hp ih =>
    -- the chain is the parent `p` and then the chain of `p`
    rcases List.mem_cons.mp h with rfl | h
    · exact (parentOf_some hp).1
    · exact ih h

theorem ancestors_mem {m : ClassModel} {c a : Class} (h : a ∈ ancestors m c) : a ∈ m := anc_mem _ _ _ h

theorem anc_stable {m : ClassModel} (n : Nat) (c : Class) (h : natural m n c = true) (k : Nat) :
    anc m (n + k) c = anc m n c ∧ natural m (n + k) c = true := by
  fun_induction natural m n c with
  | case1 c =>
    -- no fuel: `natural` says there is no parent
    have hp := Option.isNone_iff_eq_none.mp h
    cases k <;> simp [anc, natural, hp]
  -- fuel left and no parent
  | case2 n c hp => simp [Nat.add_right_comm n 1 k, anc, natural, hp]
  -- a parent `p`, from which the chain is natural within `n`
  | case3 n c p hp ih => simp [Nat.add_right_comm n 1 k, anc, natural, hp, ih h]

theorem ancestors_nil {m : ClassModel} {c : Class} (hp : parentOf m c = none) : ancestors m c = [] := by
  unfold ancestors
  cases m.length <;> simp [anc, hp]

theorem ancestors_cons {m : ClassModel} (wf : WF m) {c p : Class} (hc : c ∈ m) (hp : parentOf m c = some p) :
    ancestors m c = p :: ancestors m p := by
  have hn := wf.chainsEnd c hc
  unfold ancestors
  obtain ⟨L, hL⟩ := Nat.exists_eq_add_one.mpr (List.length_pos_of_mem hc)
  rw [hL] at hn ⊢
  -- the chain of `c` ends within `L + 1` steps, so that of its parent `p` within `L`, where more fuel adds nothing (`anc_stable`)
  have hn' : natural m L p = true := by
    unfold natural at hn
    simpa [hp] using hn
  conv => lhs; unfold anc
  simp [hp, (anc_stable L p hn' 1).1]

/-- Induction along the `parent_table` chain: `WF.chainsEnd` bounds its length by the fuel `m.length`. -/
theorem chain_induction {m : ClassModel} (wf : WF m) (P : Class → Prop)
    (root : ∀ c ∈ m, parentOf m c = none → P c)
    (step : ∀ c ∈ m, ∀ p, parentOf m c = some p → p ∈ m → P p → P c) : ∀ c ∈ m, P c := by
  intro c hc
  have h := wf.chainsEnd c hc
  generalize m.length = n at h
  fun_induction natural m n c with
  -- no parent (all that `natural` accepts without fuel)
  | case1 c => exact root c hc (Option.isNone_iff_eq_none.mp h)
  -- fuel left and no parent
  | case2 n c hp => exact root c hc hp
  -- a parent `p` whose chain ends within the remaining fuel
  | case3 n c p hp ih => exact step c hc p hp (parentOf_some hp).1 (ih (parentOf_some hp).1 h)

theorem ancestors_trans {m : ClassModel} (wf : WF m) :
    ∀ c ∈ m, ∀ a ∈ ancestors m c, ∀ k ∈ ancestors m a, k ∈ ancestors m c := by
  apply chain_induction wf
  · intro c _ hp a ha
    rw [ancestors_nil hp] at ha
    simp at ha
  · intro c hc p hp _ ih a ha k hk
    rw [ancestors_cons wf hc hp] at ha ⊢
    rcases List.mem_cons.mp ha with rfl | ha
    · exact List.mem_cons_of_mem _ hk
    · exact List.mem_cons_of_mem _ (ih a ha k hk)

/-! ## dataclass fields and the fields a table maps -/

theorem any_name_eq {acc : List Field} {x : Name} :
    acc.any (fun g => g.name == x) = true ↔ x ∈ acc.map (·.name) := by
  rw [List.any_eq_true, List.mem_map]
  exact exists_congr fun g => and_congr_right fun _ => beq_iff_eq

theorem mergeField_names (acc : List Field) (f : Field) :
    (mergeField acc f).map (·.name) =
      if (acc.map (·.name)).contains f.name then acc.map (·.name) else acc.map (·.name) ++ [f.name] := by
  unfold mergeField
  rw [← Bool.eq_iff_iff.mpr (any_name_eq.trans List.contains_iff_mem.symm)]
  split
  · rw [List.map_map]
    apply List.map_congr_left
    intro g _
    by_cases e : g.name = f.name <;> simp [e]
  · rw [List.map_append, List.map_singleton]

-- on names the merge is the fold of `ListBasics` that inserts unless present: membership and nodup are its two lemmas
theorem mergeFields_names_eq (acc own : List Field) :
    (mergeFields acc own).map (·.name) =
      (own.map (·.name)).foldl (fun ns x => if ns.contains x then ns else ns ++ [x]) (acc.map (·.name)) := by
  rw [List.foldl_map]
  exact foldl_proj _ _ _ mergeField_names own acc

theorem mergeFields_nodup (acc own : List Field) (h : (acc.map (·.name)).Nodup) :
    ((mergeFields acc own).map (·.name)).Nodup :=
  mergeFields_names_eq acc own ▸ nodup_foldl_dedup _ h

theorem mergeFields_names (acc own : List Field) (x : Name) :
    x ∈ (mergeFields acc own).map (·.name) ↔ x ∈ acc.map (·.name) ∨ x ∈ own.map (·.name) :=
  mergeFields_names_eq acc own ▸ mem_foldl_dedup _ _ x

theorem mem_mergeField {acc : List Field} {f x : Field} (h : x ∈ mergeField acc f) : x ∈ acc ∨ x = f := by
  unfold mergeField at h
  split at h
  · obtain ⟨g, hg, e⟩ := List.mem_map.mp h
    split at e
    · exact .inr e.symm
    · exact .inl (e ▸ hg)
  · simpa using h

theorem mem_mergeFields (acc own : List Field) : ∀ x ∈ mergeFields acc own, x ∈ acc ∨ x ∈ own :=
  List.foldlRecOn (motive := fun l => ∀ x ∈ l, x ∈ acc ∨ x ∈ own) own mergeField (fun _ h => .inl h)
    fun _ ih _ hf x hx => (mem_mergeField hx).elim (ih x) fun e => .inr (e ▸ hf)

theorem filter_map_replace (P : Name → Bool) (f : Field) (hf : P f.name = false) :
    ∀ R : List Field, (R.map (fun g => if g.name == f.name then f else g)).filter (fun g => P g.name) =
      R.filter (fun g => P g.name)
  | [] => rfl
  | g :: R => by
    simp only [List.map_cons, List.filter_cons]
    rw [filter_map_replace P f hf R]
    by_cases e : g.name = f.name
    · simp [e, hf]
    · simp [e]

/-- An own field that redefines an inherited name takes the inherited field's slot, so filtering commutes with the
merge only if the redefined names are filtered out. -/
theorem filter_mergeFields_append (P : Name → Bool) (acc own : List Field) (hn : (own.map (·.name)).Nodup)
    (h : ∀ f ∈ own, f.name ∈ acc.map (·.name) → P f.name = false) :
    (mergeFields acc own).filter (fun f => P f.name) =
      acc.filter (fun f => P f.name) ++ own.filter (fun f => P f.name) := by
  induction own generalizing acc with
  | nil => exact (List.append_nil _).symm
  | cons f own ih =>
    have hn' := List.nodup_cons.mp hn
    have ih := ih (mergeField acc f) hn'.2 fun g hg hm => by
      rcases (mergeFields_names acc [f] g.name).mp hm with hm | e
      · exact h g (List.mem_cons_of_mem _ hg) hm
      · exact absurd (List.mem_map.mpr ⟨g, hg, List.mem_singleton.mp e⟩) hn'.1
    show (mergeFields (mergeField acc f) own).filter _ = _
    rw [ih]
    unfold mergeField
    split
    · rename_i hany
      have hPf := h f List.mem_cons_self (any_name_eq.mp hany)
      rw [filter_map_replace P f hPf, List.filter_cons_of_neg (by simp [hPf])]
    · rw [List.filter_append, List.append_assoc, ← List.filter_append]
      rfl

theorem filter_mergeFields (P : Name → Bool) (inh own : List Field) (hP : ∀ g ∈ inh, P g.name = false)
    (hn : (own.map (·.name)).Nodup) :
    (mergeFields inh own).filter (fun f => P f.name) = own.filter (fun f => P f.name) := by
  rw [filter_mergeFields_append P inh own hn, List.filter_eq_nil_iff.mpr, List.nil_append]
  · exact fun g hg => by simp [hP g hg]
  · intro f _ hm
    obtain ⟨g, hg, e⟩ := List.mem_map.mp hm
    exact e ▸ hP g hg

theorem chain_names_eq (chain : List Class) :
    (chain.foldl (fun acc k => mergeFields acc k.fields) []).map (·.name) =
      (chain.flatMap fun k => k.fields.map (·.name)).foldl
        (fun ns x => if ns.contains x then ns else ns ++ [x]) [] := by
  rw [List.foldl_flatMap]
  exact foldl_proj _ _ _ (fun acc k => mergeFields_names_eq acc k.fields) chain []

theorem mem_chain_names {chain : List Class} {x : Name} :
    x ∈ (chain.foldl (fun acc k => mergeFields acc k.fields) []).map (·.name) ↔
      ∃ k ∈ chain, x ∈ k.fields.map (·.name) := by
  rw [chain_names_eq, mem_foldl_dedup, List.mem_flatMap]
  exact or_iff_right List.not_mem_nil

theorem dcFields_nodup (m : ClassModel) (c : Class) : ((dcFields m c).map (·.name)).Nodup :=
  chain_names_eq _ ▸ nodup_foldl_dedup _ List.nodup_nil

theorem mem_dcFields_names {m : ClassModel} {c : Class} {x : Name} :
    x ∈ (dcFields m c).map (·.name) ↔ ∃ k ∈ c :: ancestors m c, x ∈ k.fields.map (·.name) := by
  rw [dcFields, mem_chain_names]
  simp only [List.mem_append, List.mem_reverse, List.mem_cons, List.not_mem_nil, false_or, or_comm]

theorem dcFields_eq_merge (m : ClassModel) (c : Class) : dcFields m c =
    mergeFields ((ancestors m c).reverse.foldl (fun acc k => mergeFields acc k.fields) []) c.fields := by
  rw [dcFields, List.foldl_append]
  rfl

theorem dcFields_declared {m : ClassModel} {c : Class} {f : Field} (h : f ∈ dcFields m c) :
    ∃ k, (k = c ∨ k ∈ ancestors m c) ∧ f ∈ k.fields := by
  refine List.foldlRecOn (motive := fun l => f ∈ l → _) _ _ (fun h => absurd h List.not_mem_nil) ?_ h
  intro acc ih k hk hf
  rcases mem_mergeFields _ _ f hf with hf | hf
  · exact ih hf
  · refine ⟨k, ?_, hf⟩
    rw [List.mem_append, List.mem_reverse, List.mem_singleton] at hk
    exact hk.symm

theorem tableFields_sub {m : ClassModel} {c : Class} {f : Field} (h : f ∈ tableFields m c) :
    f ∈ dcFields m c ∧ isPrivate f.name = false ∧ f.name ∉ inheritedNames m c := by
  unfold tableFields wrappedFields at h
  simp only [List.mem_filter, Bool.not_eq_true', List.contains_eq_mem, decide_eq_false_iff_not] at h
  exact ⟨h.1.1, h.1.2, by simpa using h.2⟩

theorem tableFields_names_nodup (m : ClassModel) (c : Class) : ((tableFields m c).map (·.name)).Nodup := by
  unfold tableFields wrappedFields
  exact List.Nodup.sublist ((List.filter_sublist.trans List.filter_sublist).map _) (dcFields_nodup m c)

theorem tableFields_pairwise (m : ClassModel) (c : Class) :
    (tableFields m c).Pairwise (fun f g => f.name ≠ g.name) :=
  List.pairwise_map.mp (tableFields_names_nodup m c)

theorem mem_wrapped_names {m : ClassModel} {c : Class} {x : Name} :
    x ∈ (wrappedFields m c).map (·.name) ↔ x ∈ (dcFields m c).map (·.name) ∧ isPrivate x = false := by
  simp only [wrappedFields, List.mem_map, List.mem_filter, Bool.not_eq_true']
  constructor
  · rintro ⟨f, ⟨hf, hp⟩, rfl⟩
    exact ⟨⟨f, hf, rfl⟩, hp⟩
  · rintro ⟨⟨f, hf, rfl⟩, hp⟩
    exact ⟨f, ⟨hf, hp⟩, rfl⟩

theorem inheritedNames_root {m : ClassModel} {c : Class} (hp : parentOf m c = none) : inheritedNames m c = [] := by
  unfold inheritedNames
  rw [ancestors_nil hp]
  simp

theorem inherited_of_declared {m : ClassModel} {c k : Class} {x : Name} (hpub : isPrivate x = false)
    (hk : k ∈ ancestors m c) (hxk : x ∈ k.fields.map (·.name)) : x ∈ inheritedNames m c :=
  List.mem_flatMap.mpr ⟨k, hk, mem_wrapped_names.mpr ⟨mem_dcFields_names.mpr ⟨k, List.mem_cons_self, hxk⟩, hpub⟩⟩

theorem mem_inheritedNames {m : ClassModel} (wf : WF m) {c : Class} (hc : c ∈ m) {x : Name} :
    x ∈ inheritedNames m c ↔ isPrivate x = false ∧ ∃ k ∈ ancestors m c, x ∈ k.fields.map (·.name) := by
  refine ⟨fun h => ?_, fun ⟨hpub, k, hk, hxk⟩ => inherited_of_declared hpub hk hxk⟩
  obtain ⟨a, ha, hx⟩ := List.mem_flatMap.mp h
  obtain ⟨hd, hpub⟩ := mem_wrapped_names.mp hx
  obtain ⟨k, hk, hxk⟩ := mem_dcFields_names.mp hd
  refine ⟨hpub, k, ?_, hxk⟩
  -- an ancestor of an ancestor is an ancestor
  rcases List.mem_cons.mp hk with rfl | hk
  · exact ha
  · exact ancestors_trans wf c hc a ha k hk

theorem mem_tableFields_names {m : ClassModel} {c : Class} {x : Name} (hx : x ∈ (wrappedFields m c).map (·.name))
    (hin : x ∉ inheritedNames m c) : ∃ g ∈ tableFields m c, g.name = x := by
  obtain ⟨f, hf, rfl⟩ := List.mem_map.mp hx
  exact ⟨f, List.mem_filter.mpr ⟨hf, by simpa using hin⟩, rfl⟩

theorem covered_names {m : ClassModel} (wf : WF m) :
    ∀ c ∈ m, ∀ x ∈ (wrappedFields m c).map (·.name),
      ∃ a ∈ c :: ancestors m c, ∃ g ∈ tableFields m a, g.name = x := by
  apply chain_induction wf
  · intro c _ hp x hx
    refine ⟨c, List.mem_cons_self, mem_tableFields_names hx ?_⟩
    rw [inheritedNames_root hp]
    exact List.not_mem_nil
  · intro c hc p hp hpm ih x hx
    by_cases hin : x ∈ inheritedNames m c
    · -- an inherited name is visible in the parent, whose chain introduces it
      obtain ⟨hpub, k, hk, hxk⟩ := (mem_inheritedNames wf hc).mp hin
      rw [ancestors_cons wf hc hp] at hk ⊢
      obtain ⟨a, ha, hxa⟩ :=
        ih x (mem_wrapped_names.mpr ⟨mem_dcFields_names.mpr ⟨k, hk, hxk⟩, hpub⟩)
      exact ⟨a, List.mem_cons_of_mem _ ha, hxa⟩
    · exact ⟨c, List.mem_cons_self, mem_tableFields_names hx hin⟩

theorem tableFields_eq_own {m : ClassModel} {c : Class} (hn : (c.fields.map (·.name)).Nodup) :
    tableFields m c =
      c.fields.filter (fun f => !isPrivate f.name && !(inheritedNames m c).contains f.name) := by
  have : tableFields m c = (dcFields m c).filter
      (fun f => (fun x => !isPrivate x && !(inheritedNames m c).contains x) f.name) := by
    simp only [tableFields, wrappedFields, List.filter_filter]
    exact List.filter_congr fun f _ => Bool.and_comm _ _
  rw [this, dcFields_eq_merge]
  refine filter_mergeFields (fun x => !isPrivate x && !(inheritedNames m c).contains x) _ c.fields
    (fun g hg => ?_) hn
  cases hpriv : isPrivate g.name with
  | true => simp
  | false =>
    obtain ⟨k, hk, hgk⟩ := mem_chain_names.mp (List.mem_map_of_mem hg)
    simp [inherited_of_declared hpriv (List.mem_reverse.mp hk) hgk]

theorem tableFields_own {m : ClassModel} {c : Class} (hn : (c.fields.map (·.name)).Nodup) {f : Field}
    (hf : f ∈ tableFields m c) : f ∈ c.fields := by
  rw [tableFields_eq_own hn] at hf
  exact (List.mem_filter.mp hf).1

theorem tableFields_nameOk {m : ClassModel} (wf : WF m) {c : Class} (hc : c ∈ m) {f : Field}
    (hf : f ∈ tableFields m c) : NameOk f.name :=
  nameOk_of_fieldNameOk (wf.fieldNamesOk c hc f (tableFields_own (wf.ownFieldsDistinct c hc) hf))

theorem ancestorDeclared_eq (m : ClassModel) : ∀ (n : Nat) (c : Class),
    Spec.ancestorDeclared m n c.base = (anc m n c).flatMap (fun a => a.fields.map (·.name))
  | 0, c => by simp [Spec.ancestorDeclared, anc]
  | n + 1, c => by
    cases hb : c.base with
    | none => simp [Spec.ancestorDeclared, anc, parentOf, hb]
    | some b =>
      cases hl : lookup m b with
      | none => simp [Spec.ancestorDeclared, anc, parentOf, hb, hl]
      | some p =>
        simp [Spec.ancestorDeclared, anc, parentOf, hb, hl, ancestorDeclared_eq m n p]

theorem inherited_iff_declared {m : ClassModel} (wf : WF m) {c : Class} (hc : c ∈ m) (x : Name)
    (hpub : isPrivate x = false) :
    x ∈ inheritedNames m c ↔ x ∈ Spec.ancestorDeclared m m.length c.base := by
  rw [ancestorDeclared_eq, mem_inheritedNames wf hc, List.mem_flatMap]
  exact and_iff_right hpub

theorem tableFields_eq_introduced {m : ClassModel} (wf : WF m) {c : Class} (hc : c ∈ m) :
    tableFields m c = Spec.introduced m c := by
  rw [tableFields_eq_own (wf.ownFieldsDistinct c hc)]
  unfold Spec.introduced
  apply List.filter_congr
  intro f _
  cases hpriv : isPrivate f.name with
  | true => simp
  | false =>
    have := inherited_iff_declared wf hc f.name hpriv
    simp only [Bool.not_false, Bool.true_and]
    congr 1
    rw [Bool.eq_iff_iff]
    simpa using this

/-! ## kind dispatch -/

theorem mem_optMods_append {o : Bool} {l : List Module} {x : Module} (h : x ∈ optMods o ++ l) :
    x = .typing ∨ x ∈ l := by
  cases o with
  | false => exact .inr h
  | true => exact List.mem_cons.mp h

/-- what `parseField` guarantees of every attribute it emits for field `f` of class `c` -/
structure EmittedAttr (m : ClassModel) (c : Class) (f : Field) (a : Attr) : Prop where
  name : a.name = f.name ∨ a.name = fkName f.name
  fkTarget : ∀ tg, a.kind = .fkCol tg → ∃ t, mapped m t = true ∧ tg = tableName t
  relTarget : ∀ tg many sec, a.kind = .rel tg many sec → ∃ t, mapped m t = true ∧ tg = tableName t ∧
    ∀ s, sec = some s → f.kind = .coll t ∧ s = assocName (tableName c.name) f.name
  mods : ∀ x ∈ a.mods, x = .typing ∨ x = .builtins ∨ x = .customTypes ∨ x ∈ fieldImports f

theorem emittedAttr {m : ClassModel} {c : Class} {f : Field} {a : Attr} (h : a ∈ parseField m c f) :
    EmittedAttr m c f a := by
  obtain ⟨n, k⟩ := f
  cases k with
  | scalar _ o | enum o | datetime o =>
    obtain rfl := List.mem_singleton.mp h
    exact ⟨.inl rfl, nofun, nofun, fun x hx => (mem_optMods_append hx).imp_right fun h => .inr (.inr h)⟩
  | custom o =>
    obtain rfl := List.mem_singleton.mp h
    exact ⟨.inl rfl, nofun, nofun, fun x hx =>
      (mem_optMods_append hx).imp_right fun h => .inr (.inl (List.mem_singleton.mp h))⟩
  | jsonList s =>
    obtain rfl := List.mem_singleton.mp h
    refine ⟨.inl rfl, nofun, nofun, fun x hx => ?_⟩
    rcases List.mem_cons.mp hx with rfl | hx
    · exact .inl rfl
    · exact .inr (.inl (List.mem_singleton.mp hx))
  | ref t o =>
    obtain ⟨hm, h⟩ := List.mem_ite_nil_right.mp h
    rcases List.mem_cons.mp h with rfl | h
    · refine ⟨.inr rfl, fun tg e => ⟨t, hm, (AttrKind.fkCol.inj e).symm⟩, nofun, fun x hx => ?_⟩
      cases o with
      | false => exact absurd hx List.not_mem_nil
      | true =>
        rcases List.mem_cons.mp hx with rfl | hx
        · exact .inl rfl
        · exact .inr (.inl (List.mem_singleton.mp hx))
    · obtain rfl := List.mem_singleton.mp h
      refine ⟨.inl rfl, nofun, fun tg many sec e => ?_, fun x hx => absurd hx List.not_mem_nil⟩
      obtain ⟨rfl, rfl, rfl⟩ := AttrKind.rel.inj e
      exact ⟨t, hm, rfl, nofun⟩
  | coll t =>
    obtain ⟨hm, h⟩ := List.mem_ite_nil_right.mp h
    obtain rfl := List.mem_singleton.mp h
    refine ⟨.inl rfl, nofun, fun tg many sec e => ?_, fun x hx => .inl (List.mem_singleton.mp hx)⟩
    obtain ⟨rfl, rfl, rfl⟩ := AttrKind.rel.inj e
    exact ⟨t, hm, rfl, fun s es => ⟨rfl, (Option.some.inj es).symm⟩⟩

theorem parseField_names_nodup (m : ClassModel) (c : Class) (f : Field) :
    ((parseField m c f).map (·.name)).Nodup := by
  obtain ⟨n, k⟩ := f
  cases k with
  | ref t o =>
    by_cases hm : mapped m t = true
    · simp [parseField, hm, fkName_ne_self]
    · simp [parseField, hm]
  | coll t =>
    by_cases hm : mapped m t = true <;> simp [parseField, hm]
  | _ => simp [parseField]

theorem mem_assocOf {q : Quirks} {m : ClassModel} {c : Class} {f : Field} {a : Assoc} :
    a ∈ assocOf q m c f ↔ ∃ t, f.kind = .coll t ∧ mapped m t = true ∧
      a = ⟨assocName (tableName c.name) f.name, tableName c.name,
        (assocFkNames q (tableName c.name) (tableName t)).1, tableName t,
        (assocFkNames q (tableName c.name) (tableName t)).2⟩ := by
  obtain ⟨n, k⟩ := f
  cases k with
  | coll t =>
    refine List.mem_ite_nil_right.trans ⟨fun ⟨hm, h⟩ => ⟨t, rfl, hm, List.mem_singleton.mp h⟩, ?_⟩
    rintro ⟨_, ⟨⟩, hm, h⟩
    exact ⟨hm, List.mem_singleton.mpr h⟩
  | _ => exact ⟨fun h => absurd h List.not_mem_nil, fun ⟨_, h, _⟩ => nomatch h⟩

theorem fieldCrashes_of_kindOk {m : ClassModel} {f : Field} (h : kindOk m f.kind = true) :
    fieldCrashes m f = false := by
  obtain ⟨n, k⟩ := f
  cases k with
  | coll t =>
    show (!mapped m t) = false
    rw [show mapped m t = true from h]
    rfl
  | _ => rfl

theorem fieldMapped_of_attrs {m : ClassModel} {c : Class} {t : Table} {f : Field}
    (mem : ∀ a ∈ parseField m c f, a ∈ t.attrs) : FieldMapped m c t f := by
  obtain ⟨n, k⟩ := f
  cases k with
  | scalar _ o | enum o | datetime o | custom o =>
    exact ⟨_, mem _ (List.mem_singleton.mpr rfl), rfl, rfl, fun h => h⟩
  | jsonList s => exact ⟨_, mem _ (List.mem_singleton.mpr rfl), rfl, rfl⟩
  | ref t o =>
    intro hm
    exact ⟨⟨_, mem _ (List.mem_ite_nil_right.mpr ⟨hm, .tail _ (.head _)⟩), rfl, rfl⟩,
      ⟨_, mem _ (List.mem_ite_nil_right.mpr ⟨hm, .head _⟩), rfl, rfl, fun _ => rfl⟩⟩
  | coll t =>
    intro hm
    exact ⟨_, mem _ (List.mem_ite_nil_right.mpr ⟨hm, .head _⟩), _, rfl, rfl, rfl⟩

end KrroodVerif.OrmGen
