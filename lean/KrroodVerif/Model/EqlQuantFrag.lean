import KrroodVerif.Model.Eql
import KrroodVerif.Model.EqlFindings
/-!
The QUANTIFIER FRAGMENT of M-EQL as a decidable predicate (`quantProved`), for the driver: on a query inside it the
theorems of `Props/C01Quant.lean` prove that evaluation and specification return the same set of rows, so the driver
does not let such a case be attributed to the quantifier findings F-C01-5 / F-C01-7 / F-C01-11 (whose own triggers
over-approximate). Core Lean only. `Lemmas/EqlQuant.lean` proves that the `…Q` copies below are the definitions the
cover lemmas use (`Expr.FcQ = Expr.Fc`, …) — they are repeated here only because `Lemmas/EqlCover.lean` is not a
model file.
-/
namespace KrroodVerif.Eql

/-- copy of `Term.noFlat` -/
def Term.noFlatQ : Term → Bool
  | .var _ => true
  | .lit _ _ => true
  | .attr t _ => t.noFlatQ
  | .index t _ => t.noFlatQ
  | .flatten _ => false

/-- copy of `Term.isChain` -/
def Term.isChainQ : Term → Bool
  | .attr t _ => t.noFlatQ
  | .index t _ => t.noFlatQ
  | _ => false

/-- copy of `Term.noLit` -/
def Term.noLitQ : Term → Bool
  | .var _ => true
  | .lit _ _ => false
  | .attr t _ => t.noLitQ
  | .index t _ => t.noLitQ
  | .flatten t => t.noLitQ

/-- copy of the cover fragment `Expr.Fc` -/
def Expr.FcQ : Expr → Bool
  | .cmp _ l r => l.noFlatQ && r.noFlatQ
  | .contains c i => c.noFlatQ && i.noFlatQ
  | .hasType t _ => t.noFlatQ
  | .truth t => t.isChainQ
  | .and l r => l.FcQ && r.FcQ
  | .elseIf l r => l.FcQ && r.FcQ
  | .not e => e.FcQ
  | .union _ _ => false
  | .exists_ _ _ => false
  | .forAll _ _ => false

/-- quantified variables -/
def Expr.qvars : Expr → List VarId
  | .and l r | .elseIf l r | .union l r => l.qvars ++ r.qvars
  | .not e => e.qvars
  | .exists_ v e | .forAll v e => v :: e.qvars
  | _ => []

/-- keys that every result cell of `e` with truth flag `pol` binds (a syntactic under-approximation): an atom binds
all its nodes; a false cell of `and l r` is a false cell of `l` passed through UN-EXTENDED or a false cell of `r`
extending a true cell of `l`; a true cell of `and l r` extends a true cell of `l` by a true cell of `r`; dually for
`elseIf`; `not` swaps the flags -/
def Expr.bK : Bool → Expr → List Key
  | _, .cmp _ l r => l.nodes ++ r.nodes
  | _, .contains c i => c.nodes ++ i.nodes
  | _, .truth t => t.nodes
  | _, .hasType t _ => t.nodes
  | true, .and l r => Expr.bK true l ++ Expr.bK true r
  | false, .and l r => (Expr.bK false l).filter fun k => (Expr.bK true l ++ Expr.bK false r).contains k
  | true, .elseIf l r => (Expr.bK true l).filter fun k => (Expr.bK false l ++ Expr.bK true r).contains k
  | false, .elseIf l r => Expr.bK false l ++ Expr.bK false r
  | pol, .not e => Expr.bK (!pol) e
  | _, _ => []

/-- **the quantifier fragment** (`A`: variables that MAY be bound when `e` is reached; `B`: keys that ARE bound then):
a chain of `and`s whose left operands are in the cover fragment and whose last operand is ONE quantifier over a
condition `φ` in the cover fragment, such that the quantified variable is not used outside the quantifier, and

* `exists_ q φ`: every result cell of `φ` — true or false — binds `q` (negation of the trigger of F-C01-7), and every
  other variable of `φ` is bound before the quantifier is reached (negation of the trigger of F-C01-5);
* `forAll q φ`: every TRUE result cell of `φ` binds every VARIABLE of `φ` (negation of the trigger of F-C01-11; a literal
  node that a candidate leaves unbound is harmless: the re-check reads the literal afresh). -/
def Expr.Ql : Expr → List VarId → List Key → Bool
  | .and l e', A, B => l.FcQ && Expr.Ql e' (A ++ l.vars) (B ++ Expr.bK true l)
  | .exists_ q φ, A, B => φ.FcQ && !A.contains q && (Expr.bK true φ).contains (.var q) &&
      (Expr.bK false φ).contains (.var q) && φ.vars.all fun v => v == q || B.contains (.var v)
  | .forAll q φ, A, _ => φ.FcQ && !A.contains q && φ.vars.all fun v => (Expr.bK true φ).contains (.var v)
  | _, _, _ => false

def Expr.noForAll : Expr → Bool
  | .forAll _ _ => false
  | .and l r | .elseIf l r | .union l r => l.noForAll && r.noForAll
  | .not e | .exists_ _ e => e.noForAll
  | _ => true

/-- keys that every TRUE result cell binds, for conjunctions that may contain `exists` (whose results are the true
cells of its condition) -/
def Expr.tb : Expr → List Key
  | .and l r => l.tb ++ r.tb
  | .exists_ _ φ => Expr.bK true φ
  | .forAll _ _ => []
  | e => Expr.bK true e

/-- **the quantifier fragment, and-TREES** (`A`: variables that MAY be bound when `e` is reached; `B`: keys that ARE bound
then): conjunctions, nested in any way, of conditions in the cover fragment and quantifiers `exists_ q φ` / `forAll q φ`
over conditions `φ` in the cover fragment, with the side conditions of `Expr.Ql` at each quantifier (the variables an
`exists` needs bound may be bound by ANY conjunct evaluated before it, also by an earlier `exists`), every quantified
variable used nowhere outside its quantifier. Conjuncts may also be evaluated AFTER a `forAll` (the row a `ForAll` passes
on lists the candidate's keys twice, with one value: `EnvFn` in `Lemmas/EqlAdds.lean`) -/
def Expr.Qt : Expr → List VarId → List Key → Bool
  | .and l r, A, B => Expr.Qt l A B && (l.qvars.all fun v => !r.vars.contains v) &&
      Expr.Qt r (A ++ l.vars) (B ++ l.tb)
  | .exists_ q φ, A, B => φ.FcQ && !A.contains q && (Expr.bK true φ).contains (.var q) &&
      (Expr.bK false φ).contains (.var q) && φ.vars.all fun v => v == q || B.contains (.var v)
  | .forAll q φ, A, _ => φ.FcQ && !A.contains q && φ.vars.all fun v => (Expr.bK true φ).contains (.var v)
  | e, _, _ => e.FcQ

/-- no selected expression mentions a quantified variable -/
def selNoQuant (sel : List Term) (e : Expr) : Bool :=
  e.qvars.all fun v => !(sel.flatMap Term.vars).contains v

/-- copy of `litIds` -/
def litIdsQ (ks : List Key) : List Nat := ks.filterMap fun k => match k with | .lit i => some i | .var _ => none

def nodupNat : List Nat → Bool
  | [] => true
  | x :: r => !r.contains x && nodupNat r

def nodupVal : List Val → Bool
  | [] => true
  | x :: r => !r.contains x && nodupVal r

/-- **every hypothesis of `C01_quant_tree_sound_complete_partial`, decidably**: the built condition is in the quantifier
fragment `Expr.Qt` (and contains a quantifier); the selected expressions are `flatten`-free chains over variables, no variable feeds two of them, none mentions
the quantified variable; the domains are duplicate-free and — for the query's free and selected variables —
non-empty; literal ids are distinct -/
def quantProved (w : World) (q : SQuery) : Bool :=
  match q.cond with
  | none => false
  | some c =>
    let e := build c
    e.Qt [] [] && !e.qvars.isEmpty && (q.sel.all fun s => s.noFlatQ && s.noLitQ) && !trigMultiSel q && selNoQuant q.sel e &&
      (w.doms.all fun d => nodupVal d.2) && (q.vars.all fun v => !(w.dom v).isEmpty) && nodupNat (litIdsQ e.nodes)

/-- the triggers a case may be attributed to: inside the proved quantifier fragment the quantifier findings
F-C01-5 (de-duplication across outer bindings), F-C01-7 (`KeyError`) and F-C01-11 (unbound variable in a `ForAll`
candidate) cannot show, so they are not offered as an excuse there -/
def triggersQ (w : World) (q : SQuery) : List String :=
  if quantProved w q then (triggers w q).filter fun t => t != "F-C01-5" && t != "F-C01-7" && t != "F-C01-11"
  else triggers w q

end KrroodVerif.Eql
