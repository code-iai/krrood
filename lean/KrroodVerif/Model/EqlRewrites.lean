import KrroodVerif.Model.Eql
/-!
M-EQL, construction-time rewrites as DATA (`RewriteTable`) + an interpreter (`buildWith`). Core Lean only; additive:
nothing in `Model/Eql.lean` changes.

`Model/Eql.lean` `build` transcribes by hand what `entity.py` (`and_`, `or_`, `not_`, `exists`, `for_all`, `contains`,
`in_`) and `symbolic.py` (`chained_logic`, `optimize_or`, every `_invert_`) do when a condition is BUILT. Here the same
logic is a first-order description that `harness/translate/c02_translate.py` regenerates from the CURRENT Python AST on
every run:

* `OrRule`     — `optimize_or`: which variables of the two operands are compared (literals dropped or not), by which
                 test (set equality | subset | list equality | constant), and the node built in either case;
* `InvRule`    — per node class the result of `_invert_`: wrap in `Not` | the operand itself (double negation) | a binary
                 node over (inverted) operands (De Morgan) | a quantifier over the (inverted) body | the comparison with
                 another operation taken from a table (complementary operator);
* `FoldMode`   — how `chained_logic` nests the n-ary `and_` / `or_`;
* which operator `and_` / `or_` chain, whether `not_` calls `_invert_`, which class `exists` / `for_all` construct and the
  operand order of `contains` / `in_`.

`rewrites` is the table of the code as it is (the one `build` was transcribed from); `Lemmas/EqlRewritesLemmas.lean` proves
`buildWith rewrites (ofS s) = build s` for every surface expression and, for EVERY table accepted by the decidable check
`RewritesOk`, that building preserves the first-order meaning; `Props/C02Rewrites.lean` that it keeps the `or_`-decision the
evaluation theorems need.
-/
namespace KrroodVerif.Eql

/-! ### the description language -/

/-- the test `optimize_or` applies to the variables of its two operands -/
inductive VarTest where
  | setEq      -- `set(l) == set(r)`
  | subsetLR   -- `set(l).issubset(r)` / `set(l) <= set(r)`
  | subsetRL   -- `set(r).issubset(l)` / `set(l) >= set(r)`
  | listEq     -- `[ids of l] == [ids of r]` on the de-duplicated variables in first-occurrence order
  | always
  | never
  deriving DecidableEq, Repr

/-- node classes `optimize_or` can return -/
inductive OrNode where | and | elseIf | union
  deriving DecidableEq, Repr

/-- binary operators a chain / a De Morgan rewrite can apply: a node class, or `optimize_or` -/
inductive BinCtor where | and | elseIf | union | optOr
  deriving DecidableEq, Repr

inductive QCtor where | exists_ | forAll
  deriving DecidableEq, Repr

/-- `optimize_or(left, right)` -/
structure OrRule where
  /-- the left / right operand's variables are filtered with `not isinstance(v.value, Literal)` -/
  dropLitL : Bool
  dropLitR : Bool
  test : VarTest
  thenNode : OrNode
  elseNode : OrNode
  deriving DecidableEq, Repr

/-- an argument of the node a binary operator's `_invert_` builds -/
inductive Arg where
  | left | right          -- `self.left`, `self.right`
  | leftInv | rightInv    -- `self.left._invert_()`, `self.right._invert_()`
  deriving DecidableEq, Repr

/-- operations of a `Comparator` (`operator.eq` …, `operator.contains`, `not_contains`) -/
inductive OpK where
  | cmp (op : CmpOp)
  | contains
  | notContains
  deriving DecidableEq, Repr

/-- what a class's `_invert_` returns -/
inductive InvRule where
  /-- `Not(self)` -/
  | wrapNot
  /-- `Not` only: `self._child_` (`inverted = false`) or `self._child_._invert_()` -/
  | operand (inverted : Bool)
  /-- binary operators: `C(a, b)` -/
  | bin (c : BinCtor) (a b : Arg)
  /-- quantifiers: `Q(self.variable, self.condition[._invert_()])` -/
  | quant (q : QCtor) (bodyInverted : Bool)
  /-- `Comparator`: the same operands with the operation the table gives, `Not(self)` for operations not in the table -/
  | opTable (tbl : List (OpK × OpK))
  deriving DecidableEq, Repr

/-- `chained_logic(op, c1, …, cn)` -/
inductive FoldMode where
  | leftNested       -- `op(op(c1, c2), c3)`
  | rightNested      -- `op(c1, op(c2, c3))`
  | reversedNested   -- `op(c3, op(c2, c1))`  (the loop with the accumulator passed second)
  deriving DecidableEq, Repr

structure RewriteTable where
  orRule : OrRule
  fold : FoldMode
  /-- the operator `and_` / `or_` hand to `chained_logic` -/
  andOp : BinCtor
  orOp : BinCtor
  /-- the operator `SymbolicExpression.__and__` / `__or__` apply to `(self, other)` (`a & b`, `a | b`) -/
  ampOp : BinCtor
  barOp : BinCtor
  /-- `not_(c)` returns `c._invert_()` (otherwise `Not(c)`) -/
  notInverts : Bool
  /-- the class `exists(v, c)` / `for_all(v, c)` construct -/
  existsCtor : QCtor
  forAllCtor : QCtor
  /-- `contains(container, item)` / `in_(item, container)` build `Comparator(item, container, …)` instead of
  `Comparator(container, item, operator.contains)` -/
  containsSwapped : Bool
  inSwapped : Bool
  /-- `_invert_` as resolved along the MRO of: `Comparator`; the term classes (`Variable`, `Literal`, `Attribute`,
  `Index`, `Call`, `Flatten` — one common rule); `AND`; `ElseIf`; `Union`; `Not`; `Exists`; `ForAll` -/
  invComparator : InvRule
  invTerm : InvRule
  invAnd : InvRule
  invElseIf : InvRule
  invUnion : InvRule
  invNot : InvRule
  invExists : InvRule
  invForAll : InvRule
  deriving DecidableEq, Repr

/-- the rewrites of the code as it is: what `build`, `mkOr`, `invert` in `Model/Eql.lean` transcribe -/
def rewrites : RewriteTable where
  orRule := { dropLitL := true, dropLitR := true, test := .setEq, thenNode := .elseIf, elseNode := .union }
  fold := .leftNested
  andOp := .and
  orOp := .optOr
  ampOp := .and
  barOp := .optOr
  notInverts := true
  existsCtor := .exists_
  forAllCtor := .forAll
  containsSwapped := false
  inSwapped := false
  invComparator := .wrapNot
  invTerm := .wrapNot
  invAnd := .wrapNot
  invElseIf := .wrapNot
  invUnion := .wrapNot
  invNot := .wrapNot
  invExists := .quant .forAll true
  invForAll := .quant .exists_ true

/-! ### the interpreter -/

/-- the variables `optimize_or` looks at: `_unique_variables_` with or without the literal nodes -/
def operandKeys (dropLit : Bool) (e : Expr) : List Key := if dropLit then e.vars.map Key.var else e.nodes

def dedupKeys (xs : List Key) : List Key :=
  xs.foldl (fun acc x => if acc.contains x then acc else acc ++ [x]) []

def VarTest.eval : VarTest → List Key → List Key → Bool
  | .setEq, a, b => a.all (b.contains ·) && b.all (a.contains ·)
  | .subsetLR, a, b => a.all (b.contains ·)
  | .subsetRL, a, b => b.all (a.contains ·)
  | .listEq, a, b => dedupKeys a == dedupKeys b
  | .always, _, _ => true
  | .never, _, _ => false

def OrNode.mk : OrNode → Expr → Expr → Expr
  | .and, l, r => .and l r
  | .elseIf, l, r => .elseIf l r
  | .union, l, r => .union l r

/-- `optimize_or` as described by `o` -/
def mkOrWith (o : OrRule) (l r : Expr) : Expr :=
  if o.test.eval (operandKeys o.dropLitL l) (operandKeys o.dropLitR r) then o.thenNode.mk l r else o.elseNode.mk l r

def mkBin (o : OrRule) : BinCtor → Expr → Expr → Expr
  | .and, l, r => .and l r
  | .elseIf, l, r => .elseIf l r
  | .union, l, r => .union l r
  | .optOr, l, r => mkOrWith o l r

def QCtor.mk : QCtor → VarId → Expr → Expr
  | .exists_, v, e => .exists_ v e
  | .forAll, v, e => .forAll v e

/-- a `Comparator` over the operands `l`, `r` with operation `k` (`not_contains(c, i)` is `not (i in c)`: the node
`Comparator(c, i, not_contains)` yields, binding for binding, what `Not(Comparator(c, i, operator.contains))` yields) -/
def OpK.mk : OpK → Term → Term → Expr
  | .cmp op, l, r => .cmp op l r
  | .contains, l, r => .contains l r
  | .notContains, l, r => .not (.contains l r)

def Arg.pick (l r li ri : Expr) : Arg → Expr
  | .left => l
  | .right => r
  | .leftInv => li
  | .rightInv => ri

/-- the result of a `Comparator`'s `_invert_` -/
def invComparatorWith (rule : InvRule) (k : OpK) (l r : Term) : Expr :=
  match rule with
  | .opTable tbl => match tbl.lookup k with
    | some k' => k'.mk l r
    | none => .not (k.mk l r)
  | _ => .not (k.mk l r)

/-- the result of a binary operator's `_invert_` (`self` = the node, `l r` its operands, `li ri` their inversions) -/
def invBinWith (o : OrRule) (rule : InvRule) (self l r li ri : Expr) : Expr :=
  match rule with
  | .bin c a b => mkBin o c (a.pick l r li ri) (b.pick l r li ri)
  | _ => .not self

/-- the result of a quantifier's `_invert_` (`e` the body, `ei` its inversion) -/
def invQuantWith (rule : InvRule) (self : Expr) (v : VarId) (e ei : Expr) : Expr :=
  match rule with
  | .quant q inv => q.mk v (if inv then ei else e)
  | _ => .not self

/-- the result of `Not._invert_` -/
def invNotWith (rule : InvRule) (e ei : Expr) : Expr :=
  match rule with
  | .operand inv => if inv then ei else e
  | _ => .not (.not e)

/-- `operand._invert_()` as described by the table (a rule that does not apply to the node's class — it mentions
attributes the class does not have — is read as `Not(self)`; `RewritesOk` rejects such tables) -/
def invertWith (t : RewriteTable) : Expr → Expr
  | .cmp op l r => invComparatorWith t.invComparator (.cmp op) l r
  | .contains c i => invComparatorWith t.invComparator .contains c i
  | .truth x => .not (.truth x)
  | .hasType x c => .not (.hasType x c)
  | .and l r => invBinWith t.orRule t.invAnd (.and l r) l r (invertWith t l) (invertWith t r)
  | .elseIf l r => invBinWith t.orRule t.invElseIf (.elseIf l r) l r (invertWith t l) (invertWith t r)
  | .union l r => invBinWith t.orRule t.invUnion (.union l r) l r (invertWith t l) (invertWith t r)
  | .not e => invNotWith t.invNot e (invertWith t e)
  | .exists_ v e => invQuantWith t.invExists (.exists_ v e) v e (invertWith t e)
  | .forAll v e => invQuantWith t.invForAll (.forAll v e) v e (invertWith t e)

/-- `not_(operand)` -/
def notWith (t : RewriteTable) (e : Expr) : Expr := if t.notInverts then invertWith t e else .not e

def rightNest (f : Expr → Expr → Expr) : Expr → List Expr → Expr
  | a, [] => a
  | a, b :: r => f a (rightNest f b r)

/-- `chained_logic(f, first, *rest)` -/
def foldWith (m : FoldMode) (f : Expr → Expr → Expr) (first : Expr) (rest : List Expr) : Expr :=
  match m with
  | .leftNested => rest.foldl f first
  | .reversedNested => rest.foldl (fun acc e => f e acc) first
  | .rightNested => rightNest f first rest

/-! ### surface expressions with the whole construction vocabulary (n-ary `and_` / `or_`, `in_`) -/

mutual
/-- expressions as the user writes them: `and_(c1, …, cn)`, `or_(c1, …, cn)` (n ≥ 1), `l & r`, `l | r`, `not_`, `exists`, `for_all`,
`contains(container, item)`, `in_(item, container)`, comparisons, conditions that are attribute chains, `HasType` -/
inductive Surface where
  | cmp (op : CmpOp) (l r : Term)
  | contains (container item : Term)
  | isIn (item container : Term)
  | truth (t : Term)
  | hasType (t : Term) (cls : Nat)
  | andN (first : Surface) (rest : SList)
  | orN (first : Surface) (rest : SList)
  | amp (l r : Surface)      -- `l & r`
  | bar (l r : Surface)      -- `l | r`
  | not (e : Surface)
  | exists_ (v : VarId) (e : Surface)
  | forAll (v : VarId) (e : Surface)
inductive SList where
  | nil
  | cons (e : Surface) (r : SList)
end

mutual
/-- what the engine builds from a surface expression, the construction-time rewrites being those of the table `t` -/
def buildWith (t : RewriteTable) : Surface → Expr
  | .cmp op l r => .cmp op l r
  | .contains c i => if t.containsSwapped then .contains i c else .contains c i
  | .isIn i c => if t.inSwapped then .contains i c else .contains c i
  | .truth x => .truth x
  | .hasType x c => .hasType x c
  | .andN f r => foldWith t.fold (mkBin t.orRule t.andOp) (buildWith t f) (buildListWith t r)
  | .orN f r => foldWith t.fold (mkBin t.orRule t.orOp) (buildWith t f) (buildListWith t r)
  | .amp l r => mkBin t.orRule t.ampOp (buildWith t l) (buildWith t r)
  | .bar l r => mkBin t.orRule t.barOp (buildWith t l) (buildWith t r)
  | .not e => notWith t (buildWith t e)
  | .exists_ v e => t.existsCtor.mk v (buildWith t e)
  | .forAll v e => t.forAllCtor.mk v (buildWith t e)
def buildListWith (t : RewriteTable) : SList → List Expr
  | .nil => []
  | .cons e r => buildWith t e :: buildListWith t r
end

/-- the binary surface language of `Model/Eql.lean` inside the n-ary one -/
def Surface.ofS : SExpr → Surface
  | .cmp op l r => .cmp op l r
  | .contains c i => .contains c i
  | .truth x => .truth x
  | .hasType x c => .hasType x c
  | .and l r => .andN (ofS l) (.cons (ofS r) .nil)
  | .or l r => .orN (ofS l) (.cons (ofS r) .nil)
  | .not e => .not (ofS e)
  | .exists_ v e => .exists_ v (ofS e)
  | .forAll v e => .forAll v (ofS e)

/-! ### the decidable admissibility check -/

def okComparator : InvRule → Bool
  | .wrapNot => true
  | .opTable tbl => tbl.all fun p => p.1 == .notContains || p == (.contains, .notContains)
  | _ => false

def okTerm : InvRule → Bool
  | .wrapNot => true
  | _ => false

def okInvAnd : InvRule → Bool
  | .wrapNot => true
  | .bin c .leftInv .rightInv => c != .and
  | _ => false

def okInvOr : InvRule → Bool
  | .wrapNot => true
  | .bin .and .leftInv .rightInv => true
  | _ => false

def okInvNot : InvRule → Bool
  | .wrapNot => true
  | .operand false => true
  | _ => false

def okInvExists : InvRule → Bool
  | .wrapNot => true
  | .quant .forAll true => true
  | _ => false

def okInvForAll : InvRule → Bool
  | .wrapNot => true
  | .quant .exists_ true => true
  | _ => false

/-- `optimize_or` decides by SET EQUALITY of the NON-LITERAL variables, builds `ElseIf` on equal sets and `Union`
otherwise. (First-order meaning alone would allow any of the two nodes; the evaluation theorems do not: `ElseIf` over
different variable sets loses answers — C01 —, `Union` over equal ones duplicates them — C02.) -/
def okOrRule (o : OrRule) : Bool :=
  o.dropLitL && o.dropLitR && o.test == .setEq && o.thenNode == .elseIf && o.elseNode == .union

/-- **RewritesOk**: the decidable check a regenerated table has to pass. -/
def RewritesOk (t : RewriteTable) : Bool :=
  okOrRule t.orRule && t.fold != .reversedNested && t.andOp == .and && t.orOp == .optOr &&
  t.ampOp == .and && t.barOp == .optOr &&
  t.existsCtor == .exists_ && t.forAllCtor == .forAll && !t.containsSwapped && !t.inSwapped &&
  okComparator t.invComparator && okTerm t.invTerm && okInvAnd t.invAnd && okInvOr t.invElseIf && okInvOr t.invUnion &&
  okInvNot t.invNot && okInvExists t.invExists && okInvForAll t.invForAll

end KrroodVerif.Eql
