import KrroodVerif.Props.C08
import KrroodVerif.Lemmas.RuleBuild
import KrroodVerif.Lemmas.RuleLayoutShape
/-!
# C08 — the builder, unbounded

For EVERY program (any number of branches, any nesting, ambiguous or not) the tree surgery as it is (`Quirks.today`)
leaves behind exactly the selector tree `Prog.layout`, node identities included, every node its own object
(`Lemmas/RuleBuild.lean`); for an unambiguous program that tree is the well-formed tree of the program's rule
(`Lemmas/RuleLayoutShape.lean`). `C08_build_partial` (`Props/C08.lean`) is the same statement restricted to ≤ 4
branches. Likewise for every authoring schedule (`C08_build_authored`).
-/
namespace KrroodVerif.Rdr

theorem C08_build_layout (p : Prog) :
    (build Quirks.today p).bind BState.tree = some p.layout ∧ p.layout.ids.Nodup :=
  build_today_tree p

/-- For every unambiguous program — any number of branches, any nesting depth — the surgery as it is
(fixes 5ccefb5, 6d59379) leaves behind exactly the well-formed selector tree of the program's rule, every node its
own object. The builder never sees conditions or conclusions, so this holds for every payload. -/
theorem C08_build (p : Prog) (hu : p.unambiguous = true) :
    ∃ t, (build Quirks.today p).bind BState.tree = some t ∧ WellFormed t p.toRule :=
  ⟨p.layout, (build_today_tree p).1, layScope_shape p hu 3 2, (build_today_tree p).2⟩

/-- The code as it is, builder and evaluator together: for every unambiguous program, every
payload and every domain, evaluating the freshly built query returns exactly the rows `fire` demands. -/
theorem C08_end_to_end (p : Prog) (pay : Payload) (dom : List Nat) (hu : p.unambiguous = true) :
    ∃ t, (build Quirks.today p).bind BState.tree = some t ∧
      ∀ c x, (c, x) ∈ evalTop pay Quirks.today.dedup dom t ↔ (c, x) ∈ spec pay p dom :=
  evalTop_of_wellFormed (C08_build p hu) pay dom

/-- non-vacuity: a program beyond the bounds of `C08_build_partial` — six branches,
nesting depth 3, refinements inside alternatives inside refinements -/
example : ∃ t, (build Quirks.today
    (.mk 0 (.cons .ref (.mk 1 (.cons .alt (.mk 2 (.cons .ref (.mk 3 .nil) .nil)) (.cons .next (.mk 4 .nil) .nil)))
      (.cons .alt (.mk 5 .nil) (.cons .next (.mk 6 .nil) .nil))))).bind BState.tree = some t ∧
    WellFormed t (Prog.toRule
      (.mk 0 (.cons .ref (.mk 1 (.cons .alt (.mk 2 (.cons .ref (.mk 3 .nil) .nil)) (.cons .next (.mk 4 .nil) .nil)))
        (.cons .alt (.mk 5 .nil) (.cons .next (.mk 6 .nil) .nil))))) :=
  C08_build _ (by decide)

/-! ## multi-step authoring, unbounded -/

theorem kidsOfItems_itemsOfKids : ∀ zs : Kids, kidsOfItems (itemsOfKids zs) = zs
  | .nil => rfl
  | .cons k p rest => by simp only [itemsOfKids, kidsOfItems, kidsOfItems_itemsOfKids rest]

theorem kidsOfItems_split : ∀ xs ys : Kids,
    kidsOfItems (itemsOfKids xs ++ Item.add :: itemsOfKids ys) = xs.append ys
  | .nil, ys => kidsOfItems_itemsOfKids ys
  | .cons k p rest, ys => by
    simp only [itemsOfKids, List.cons_append, kidsOfItems, Kids.append, kidsOfItems_split rest ys]

theorem kidsOfItems_filter : ∀ items : List Item,
    kidsOfItems (items.filter fun i => !i.isReenter) = kidsOfItems items
  | [] => rfl
  | it :: rest => by
    have ih := kidsOfItems_filter rest
    cases it <;> simpa [List.filter_cons, Item.isReenter, kidsOfItems] using ih

theorem oneBlock_toProg (a : Authored) : a.oneBlock.toProg = a.toProg := by
  simp only [Authored.toProg, Authored.oneBlock, kidsOfItems_filter]

/-- the test of `Authored.oneAdd` -/
def Item.isAdd : Item → Bool
  | .add => true
  | _ => false

theorem oneAdd_eq (a : Authored) : a.oneAdd = ((a.items.filter Item.isAdd).length == 1) := rfl

theorem mem_itemsOfKids : ∀ (zs : Kids) (it : Item), it ∈ itemsOfKids zs → ∃ k p, it = .kid k p
  | .nil, it, h => by simp [itemsOfKids] at h
  | .cons k p rest, it, h => by
    simp only [itemsOfKids, List.mem_cons] at h
    rcases h with rfl | h
    · exact ⟨k, p, rfl⟩
    · exact mem_itemsOfKids rest it h

theorem filter_isAdd_itemsOfKids (zs : Kids) : (itemsOfKids zs).filter Item.isAdd = [] := by
  rw [List.filter_eq_nil_iff]
  intro it hit
  obtain ⟨k, p, rfl⟩ := mem_itemsOfKids zs it hit
  simp [Item.isAdd]

theorem oneBlock_oneAdd (a : Authored) : a.oneBlock.oneAdd = a.oneAdd := by
  simp only [oneAdd_eq, Authored.oneBlock, List.filter_filter]
  congr 3
  funext it
  cases it <;> rfl

theorem split_items : ∀ items : List Item, (∀ it ∈ items, it.isReenter = false) →
    (items.filter Item.isAdd).length ≤ 1 →
    (∃ xs, items = itemsOfKids xs) ∨ (∃ xs ys, items = itemsOfKids xs ++ Item.add :: itemsOfKids ys)
  | [], _, _ => Or.inl ⟨.nil, rfl⟩
  | .kid k p :: rest, hr, h1 => by
    rcases split_items rest (fun it hit => hr it (by simp [hit])) h1 with ⟨xs, rfl⟩ | ⟨xs, ys, rfl⟩
    · exact Or.inl ⟨.cons k p xs, rfl⟩
    · exact Or.inr ⟨.cons k p xs, ys, rfl⟩
  | .reenter :: rest, hr, _ => by
    have := hr .reenter (by simp)
    simp [Item.isReenter] at this
  | .add :: rest, hr, h1 => by
    have h0 : (rest.filter Item.isAdd).length = 0 := by
      simp only [List.filter_cons, Item.isAdd, ↓reduceIte, List.length_cons] at h1
      omega
    rcases split_items rest (fun it hit => hr it (by simp [hit])) (by omega) with ⟨xs, rfl⟩ | ⟨xs, ys, rfl⟩
    · exact Or.inr ⟨.nil, xs, rfl⟩
    · simp [List.filter_append, List.filter_cons, Item.isAdd] at h0

/-- Multi-step authoring, for EVERY schedule: a rule written in any number of
`with rule:` blocks on the same rule, the base rule's `Add` statements written once, anywhere between the top-level
branches — if the program it means (`Authored.toProg`) is unambiguous, the surgery leaves behind the well-formed
selector tree of that program. -/
theorem C08_build_authored (a : Authored) (h1 : a.oneAdd = true) (hu : a.toProg.unambiguous = true) :
    ∃ t, (buildA Quirks.today a).bind BState.tree = some t ∧ WellFormed t a.toProg.toRule := by
  rw [C08_authoring]
  have hadd : (a.oneBlock.items.filter Item.isAdd).length = 1 := by
    rw [← oneBlock_oneAdd, oneAdd_eq] at h1
    exact eq_of_beq h1
  have hre : ∀ it ∈ a.oneBlock.items, it.isReenter = false := by
    intro it hit
    simp only [Authored.oneBlock, List.mem_filter, Bool.not_eq_true'] at hit
    exact hit.2
  rcases split_items a.oneBlock.items hre (by omega) with ⟨xs, hx⟩ | ⟨xs, ys, hx⟩
  · rw [hx, filter_isAdd_itemsOfKids] at hadd
    simp at hadd
  · have hprog : a.toProg = .mk a.blk (xs.append ys) := by
      rw [← oneBlock_toProg]
      simp only [Authored.toProg, hx, kidsOfItems_split]
      rfl
    have hob : a.oneBlock = ⟨a.blk, itemsOfKids xs ++ Item.add :: itemsOfKids ys⟩ := by
      rw [← hx]
      rfl
    rw [hob, hprog]
    exact buildA_split a.blk xs ys (hprog ▸ hu)

/-- Builder and evaluator on a rule written in several steps, every schedule,
every payload, every domain. -/
theorem C08_end_to_end_authored_full (a : Authored) (h1 : a.oneAdd = true) (hu : a.toProg.unambiguous = true)
    (pay : Payload) (dom : List Nat) :
    ∃ t, (buildA Quirks.today a).bind BState.tree = some t ∧
      ∀ c x, (c, x) ∈ evalTop pay Quirks.today.dedup dom t ↔ (c, x) ∈ spec pay a.toProg dom :=
  evalTop_of_wellFormed (C08_build_authored a h1 hu) pay dom

/-- non-vacuity: a two-step authoring (first block: the refinement; second block: the base conclusion) -/
example : (Authored.mk 0 [.kid .ref (.mk 1 .nil), .reenter, .add]).oneAdd = true ∧
    (Authored.mk 0 [.kid .ref (.mk 1 .nil), .reenter, .add]).toProg.unambiguous = true := by decide

/-- `C08_build_partial_authored` without the bound on the number of branches (and
without the bound on `k`): any unambiguous program, written in any number of `with rule:` blocks, with the base
`Add` after any `k` of its branches. -/
theorem C08_build_authored_at (p : Prog) (hu : p.unambiguous = true) (k : Nat) (a : Authored)
    (ha : a.oneBlock = p.authoredAt k) :
    ∃ t, (buildA Quirks.today a).bind BState.tree = some t ∧ WellFormed t p.toRule := by
  rw [C08_authoring, ha]
  exact build_authoredAt p hu k

end KrroodVerif.Rdr
