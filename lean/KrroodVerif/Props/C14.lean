import KrroodVerif.Props.C13
import KrroodVerif.Drive.SG
import KrroodVerif.Lemmas.SpecOK
/-!
# C14 — asserting a relation has the same effect whatever objects lived and died before

`St.abs` reads a state of the model at the level of objects (labels), forgetting node indices, ids and the index
structures (what the primitive mutations and the inference do at that level: Lemmas/SymbolGraphAbs.lean). As long as no
existence check is answered by a stale `_relation_index` entry and the transitive inference meets no dead end (`OK`; both
impossible once the two quirks are off), every operation of the model commutes with `abs` (`step_sims`,
Props/C13.lean): the model IS the index-free specification `specStep` (`C14_model_eq_spec`). The specification forgets a
garbage prefix up to ghost bookkeeping (`GhostEq`, `spec_forgets`), whence `C14_fresh_equiv`.
-/
namespace KrroodVerif.SG

variable {σ : Type}

theorem OK_flags {q : Quirks} (st : St σ) (h' : Heap) (g' : SG σ) :
    OK q ({ st with h := h', g := g' } : St σ) ↔ OK q st := Iff.rfl

theorem sim_addFact {q : Quirks} (S : Schema) {a : Alloc σ} (ha : a.Valid) :
    ∀ (fuel : Nat) (st : St σ) (f : Fld) (ws wt : W) (inf : Bool),
    Inv q st → ws ∈ st.g.nodes → wt ∈ st.g.nodes → st.h.isLive ws.obj = true → st.h.isLive wt.obj = true →
    OK q (SG.addFact q S a fuel st f ws wt inf) →
    OK q st ∧ (SG.addFact q S a fuel st f ws wt inf).abs = specAddFact S fuel st.abs f ws.toR wt.toR inf :=
  fun fuel st f ws wt inf hI hs ht hls hlt =>
    (sims_addFact (L := True) S ha fuel st f ws wt inf hI ⟨hs, fun _ => hls⟩ ⟨ht, fun _ => hlt⟩).abs trivial

theorem takerOf_live' {S : Schema} {h : Heap} {o : Obj} {c : Cls} {y : HObj} (hy : h.takerOf S o c = some y) :
    y ∈ h.live := takerOf_live hy

/-! ### a history -/

theorem abs_run (q : Quirks) (S : Schema) (a : Alloc σ) (ha : a.Valid) : ∀ (ops : List Op) (st : St σ), Inv q st →
    OK q (ops.foldl (step q S a) st) →
    OK q st ∧ (ops.foldl (step q S a) st).abs = ops.foldl (specStep q S) st.abs
  | [], st, _, hok => ⟨hok, rfl⟩
  | op :: ops, st, hI, hok => by
    simp only [List.foldl_cons] at hok ⊢
    have h1 := step_sims q S a ha st op hI
    have ih := abs_run q S a ha ops (step q S a st op) h1.inv hok
    have r := h1.abs ih.1
    exact ⟨r.1, by rw [ih.2, r.2]⟩

/-- For every history, every valid node-index allocator and every `id()` recycling: unless an
existence check was answered by a stale `_relation_index` entry or the transitive inference met a dead end — neither
can happen once the two quirks are off — the state of the model, read at the level of objects, IS the state of the
index-free specification; in particular relations among live instances and field contents coincide. -/
theorem C14_model_eq_spec (q : Quirks) (S : Schema) (a : Alloc σ) (ha : a.Valid) (ops : List Op)
    (hok : OK q (run q S a ops)) :
    (run q S a ops).abs = specRun q S ops ∧ (run q S a ops).relObs = (specRun q S ops).relObs := by
  have h := abs_run q S a ha ops (St.init a) (C13_inv_init q a) hok
  have habs : (run q S a ops).abs = specRun q S ops := by
    unfold run specRun
    rw [h.2, init_abs]
  refine ⟨habs, ?_⟩
  have herr := (C13_inv_run q S a ha ops).not_err_of_OK hok
  unfold St.relObs Spec.relObs
  have hh : (run q S a ops).h = (specRun q S ops).h := congrArg Spec.h habs
  simp only [herr, Bool.false_eq_true, if_false, habs, hh]

/-- As long as the allocator has not handed out any node index a second time (ghost
`reused`, sticky across `clear`), no existence check was answered by a stale `_relation_index` entry: a stale entry
mentions an index no node has any more, and only a recycled index can bring it back. -/
theorem C14_no_reuse_no_stale (q : Quirks) (S : Schema) (a : Alloc σ) (ha : a.Valid) (ops : List Op)
    (h : (run q S a ops).g.reused = false) : (run q S a ops).staleHit = false :=
  (C13_inv_run q S a ha ops).noHit h

/-- The tree before fix c18b52a (`Quirks.original`, every quirk on): for every history in which no node index is handed
out twice and no dead, unswept instance is met by the transitive inference, relations among live instances and field
contents are those of the specification (hence, by `spec_forgets`, those of the same assertions on a fresh graph). -/
theorem C14_partial (S : Schema) (a : Alloc σ) (ha : a.Valid) (ops : List Op)
    (h1 : (run Quirks.original S a ops).g.reused = false) (h2 : (run Quirks.original S a ops).deadHit = false) :
    (run Quirks.original S a ops).relObs = (specRun Quirks.original S ops).relObs :=
  (C14_model_eq_spec Quirks.original S a ha ops
    ⟨Or.inr (C14_no_reuse_no_stale Quirks.original S a ha ops h1), Or.inr h2⟩).2

/-- The code at /repo HEAD (`Quirks.asIs`: `remove_node` purges the relation index, fix c18b52a, and the transitive
inference leaves out dead, unswept neighbours, F-C14-2): for EVERY history, relations among live instances and
field contents are those of the specification — whatever node indices and ids were recycled, whatever died unswept. -/
theorem C14_current (S : Schema) (a : Alloc σ) (ha : a.Valid) (ops : List Op) :
    (run Quirks.asIs S a ops).relObs = (specRun Quirks.asIs S ops).relObs :=
  (C14_model_eq_spec Quirks.asIs S a ha ops ⟨Or.inl rfl, Or.inl rfl⟩).2

/-- The tree before fix c18b52a: the conclusion of `C14_partial` on every history in which no existence check was
answered by a stale entry, even if indices were recycled. -/
theorem C14_partial_precise (S : Schema) (a : Alloc σ) (ha : a.Valid) (ops : List Op)
    (h1 : (run Quirks.original S a ops).staleHit = false) (h2 : (run Quirks.original S a ops).deadHit = false) :
    (run Quirks.original S a ops).relObs = (specRun Quirks.original S ops).relObs :=
  (C14_model_eq_spec Quirks.original S a ha ops ⟨Or.inr h1, Or.inr h2⟩).2

/-- with an allocator that never recycles, the hypothesis on indices holds by itself (a concrete history with garbage, a
sweep and new instances) -/
example : (run Quirks.original Drive.SG.schema monotone
    [.new 0 2 0, .new 1 1 1, .set 0 0 1, .drop 0, .drop 1, .sweep, .new 2 1 0, .new 3 2 1, .set 0 3 2]).g.reused = false := by
  decide

/-! ### the specification forgets a garbage prefix -/

/-- a heap with other ghost bookkeeping: labels used, labels handed to the registry, query log, table size -/
abbrev Heap.ghost (h : Heap) (u e : List Obj) (o : List QOut) (x : Nat) : Heap :=
  { h with used := u, epoch := e, out := o, exprs := x }

def Spec.ghost (s : Spec) (u e : List Obj) (o : List QOut) (x : Nat) : Spec :=
  { s with h := { s.h with used := u, epoch := e, out := o, exprs := x } }

theorem ghost_prune (s : Spec) (u e : List Obj) (o : List QOut) (x : Nat) :
    (s.ghost u e o x).prune = s.prune.ghost u e o x := rfl

theorem reach_ghost (h : Heap) (u e : List Obj) (o : List QOut) (x : Nat) : ∀ (n : Nat) (seen : List Obj),
    Heap.reach (h.ghost u e o x) n seen = h.reach n seen
  | 0, _ => rfl
  | n + 1, seen => by
    simp only [Heap.reach]
    have hs : Heap.succ (h.ghost u e o x) = h.succ := rfl
    rw [hs]
    split
    · rfl
    · exact reach_ghost h u e o x n _

theorem ghost_collect (q : Quirks) (h : Heap) (u e : List Obj) (o : List QOut) (x : Nat) :
    Heap.collect q (h.ghost u e o x) =
      (h.collect q).ghost u e o x := by
  have hg : Heap.garbage q (h.ghost u e o x) = h.garbage q := by
    unfold Heap.garbage
    simp only [reach_ghost]
    rfl
  unfold Heap.collect
  rw [hg]
  rfl

theorem ghost_write (S : Schema) (h : Heap) (u e : List Obj) (o : List QOut) (x : Nat) (f : Fld) (a b : Obj) :
    Heap.write S (h.ghost u e o x) f a b =
      (h.write S f a b).ghost u e o x := by
  unfold Heap.write
  split
  · rfl
  · dsimp only
    split
    · rfl
    · rfl
  · rfl

theorem ghost_dropQuery (q : Quirks) (h : Heap) (u e : List Obj) (o : List QOut) (x : Nat) (k : Nat) :
    Heap.dropQuery q (h.ghost u e o x) k =
      (h.dropQuery q k).ghost u e o (if q.exprTableLeak then x else x - 1) := by
  unfold Heap.dropQuery
  split
  · rfl
  · rfl

/-- `s1` is `s2` up to the ghost bookkeeping of the heap: `used` (for `s1` the labels `U`, then those of `s2`), `epoch`,
`out` and `exprs`. The specification reads these only to update them, and `used` to test whether the label of a new
instance is new. So a history run after a prefix of which nothing is left (`Garbage`: what remains is ghost bookkeeping,
`U` the labels of the prefix) and the same history run on a fresh graph go through related states, as long as it creates
no instance under a label of `U`. -/
def GhostEq (U : List Obj) (s1 s2 : Spec) : Prop :=
  ∃ e o x, s1 = s2.ghost (U ++ s2.h.used) e o x

section
variable {U : List Obj} {s1 s2 : Spec}

theorem GhostEq.guard {X1 X2 : Spec} {c1 c2 : Bool} (hc : c1 = c2) (h : GhostEq U s1 s2)
    (hX : c2 = false → GhostEq U X1 X2) : GhostEq U (if c1 then s1 else X1) (if c2 then s2 else X2) := by
  subst hc
  cases c1 with
  | true => exact h
  | false => exact hX rfl

/-- the shape of every operation that ends with a collection; `w` is what it does to the heap before -/
theorem GhostEq.collect (q : Quirks) (w : Spec → Heap) (h : GhostEq U s1 s2)
    (hw : ∀ u e o x, ∃ e' o' x', w (s2.ghost u e o x) = (w s2).ghost u e' o' x') (hu : (w s2).used = s2.h.used) :
    GhostEq U ({ s1 with h := (w s1).collect q } : Spec).prune ({ s2 with h := (w s2).collect q } : Spec).prune := by
  obtain ⟨e, o, x, rfl⟩ := h
  obtain ⟨e', o', x', h'⟩ := hw (U ++ s2.h.used) e o x
  refine ⟨e', o', x', ?_⟩
  rw [h', ghost_collect, ← hu]
  rfl

theorem GhostEq.ensure (h : GhostEq U s1 s2) (y : HObj) : GhostEq U (s1.ensure y) (s2.ensure y) := by
  obtain ⟨e, o, x, rfl⟩ := h
  exact ⟨_, o, x, rfl⟩

theorem GhostEq.write (h : GhostEq U s1 s2) (S : Schema) (f : Fld) (a b : Obj) :
    GhostEq U { s1 with h := s1.h.write S f a b } { s2 with h := s2.h.write S f a b } := by
  obtain ⟨e, o, x, rfl⟩ := h
  refine ⟨e, o, x, ?_⟩
  rw [write_used]
  exact congrArg (fun h => ({ s2 with h := h } : Spec)) (ghost_write S s2.h _ e o x f a b)

theorem GhostEq.record (h : GhostEq U s1 s2) (S : Schema) (f : Fld) (a b : R) (inf : Bool) :
    GhostEq U (s1.record S f a b inf) (s2.record S f a b inf) := by
  obtain ⟨e, o, x, rfl⟩ := h
  unfold Spec.record
  cases inf
  · exact ⟨e, o, x, rfl⟩
  · exact ⟨e, o, x, rfl⟩

theorem GhostEq.edges (h : GhostEq U s1 s2) : s1.edges = s2.edges := by
  obtain ⟨e, o, x, rfl⟩ := h
  rfl

theorem GhostEq.takerOf (h : GhostEq U s1 s2) (S : Schema) (l : Obj) (c : Cls) :
    s1.h.takerOf S l c = s2.h.takerOf S l c := by
  obtain ⟨e, o, x, rfl⟩ := h
  rfl

/-- `rec` takes related states to related states -/
def GhostRec (U : List Obj) (rec : Spec → Fld → R → R → Spec) : Prop :=
  ∀ {s1 s2}, GhostEq U s1 s2 → ∀ f a b, GhostEq U (rec s1 f a b) (rec s2 f a b)

theorem GhostEq.inferTakerSupers {S : Schema} {rec} (hrec : GhostRec U rec) (h : GhostEq U s1 s2) (f : Fld) (a b : R) :
    GhostEq U (Spec.inferTakerSupers S rec s1 f a b) (Spec.inferTakerSupers S rec s2 f a b) := by
  unfold Spec.inferTakerSupers
  rw [h.takerOf]
  split
  · exact h
  · split
    · exact h
    · rename_i y _
      exact List.foldl_rel (h.ensure y) fun f' _ _ _ h' => hrec h' f' _ b

theorem GhostEq.inferSupers {S : Schema} {rec} (hrec : GhostRec U rec) (h : GhostEq U s1 s2) (f : Fld) (a b : R) :
    GhostEq U (Spec.inferSupers S rec s1 f a b) (Spec.inferSupers S rec s2 f a b) :=
  (List.foldl_rel (l := S.supers f a.cls) h fun f' _ _ _ h' => hrec h' f' a b).inferTakerSupers hrec f a b

theorem GhostEq.inferInverse {S : Schema} {rec} (hrec : GhostRec U rec) (h : GhostEq U s1 s2) (f : Fld) (a b : R) :
    GhostEq U (Spec.inferInverse S rec s1 f a b) (Spec.inferInverse S rec s2 f a b) := by
  unfold Spec.inferInverse
  rw [h.takerOf]
  split
  · exact hrec h _ b a
  · split
    · exact h
    · split
      · exact h
      · rename_i y _
        exact hrec (h.ensure y) _ _ a

theorem GhostEq.inferTransitive {S : Schema} {rec} (hrec : GhostRec U rec) (h : GhostEq U s1 s2) (f : Fld) (a b : R) :
    GhostEq U (Spec.inferTransitive S rec s1 f a b) (Spec.inferTransitive S rec s2 f a b) := by
  unfold Spec.inferTransitive
  split
  · have h1 : GhostEq U (Spec.inferOut S rec s1 f a b) (Spec.inferOut S rec s2 f a b) := by
      unfold Spec.inferOut
      rw [h.edges]
      exact List.foldl_rel h fun ed _ _ _ h' => hrec h' ed.fld a ed.tgt
    unfold Spec.inferIn
    rw [h1.edges]
    exact List.foldl_rel h1 fun ed _ _ _ h' => hrec h' ed.fld ed.src b
  · exact h

theorem GhostEq.addFact (S : Schema) : ∀ (fuel : Nat) {s1 s2 : Spec}, GhostEq U s1 s2 → ∀ (f : Fld) (a b : R)
    (inf : Bool), GhostEq U (specAddFact S fuel s1 f a b inf) (specAddFact S fuel s2 f a b inf)
  | 0, _, _, h, _, _, _, _ => h
  | fuel + 1, s1, s2, h, f, a, b, inf => by
    have ih : GhostRec U (fun s f a b => specAddFact S fuel s f a b true) :=
      fun h' f a b => GhostEq.addFact S fuel h' f a b true
    unfold specAddFact
    have hex : s1.exists_ f a b = s2.exists_ f a b := by
      unfold Spec.exists_
      rw [h.edges]
    rw [hex]
    split
    · exact h
    · exact (((h.record S f a b inf).inferSupers ih f a b).inferInverse ih f a b).inferTransitive ih f a b

theorem specStep_ghostEq (q : Quirks) (S : Schema) (op : Op) (h : GhostEq U s1 s2)
    (hn : ∀ l c pid, op = .new l c pid → l ∉ U) (hr : ∀ l c pid t, op = .newrole l c pid t → l ∉ U) :
    GhostEq U (specStep q S s1 op) (specStep q S s2 op) := by
  obtain ⟨e, o, x, rfl⟩ := h
  have h : GhostEq U (s2.ghost (U ++ s2.h.used) e o x) s2 := ⟨e, o, x, rfl⟩
  have hfind : ∀ l, (s2.ghost (U ++ s2.h.used) e o x).h.find l = s2.h.find l := fun _ => rfl
  have hq : (s2.ghost (U ++ s2.h.used) e o x).h.qvars = s2.h.qvars := rfl
  -- a label outside `U` is new to both states or to neither, and is then recorded by both
  have hnew : ∀ l, l ∉ U → (U ++ s2.h.used).contains l = s2.h.used.contains l := fun l hl => by
    simp [hl]
  cases op with
  | new l c pid =>
    refine GhostEq.guard ?_ h fun _ => ⟨e ++ [l], o, x, ?_⟩
    · exact congrArg (· || _) (hnew l (hn l c pid rfl))
    · dsimp only [Spec.ghost]
      rw [List.append_assoc]
  | newrole l c pid t =>
    refine GhostEq.guard ?_ h fun _ => ⟨e ++ [l], o, x, ?_⟩
    · exact congrArg (· || _ || _) (hnew l (hr l c pid t rfl))
    · dsimp only [Spec.ghost]
      rw [List.append_assoc]
  | drop l =>
    exact h.collect q (fun s => { s.h with held := s.h.held.filter (fun x => x != l) })
      (fun _ e o x => ⟨e, o, x, rfl⟩) rfl
  | sweep => exact h
  | clear => exact ⟨[], o, x, rfl⟩
  | rel f a b =>
    dsimp only [specStep]
    rw [hfind, hfind]
    split
    · rename_i xa xb _ _
      have h2 := (h.ensure xa).ensure xb
      refine GhostEq.guard ?_ h2 fun _ => ?_
      · rw [Spec.exists_, h2.edges]
        rfl
      · obtain ⟨e, o, x, h3⟩ := h2
        refine ⟨e, o, x, ?_⟩
        rw [h3]
        rfl
    · exact h
  | set f a b =>
    dsimp only [specStep]
    rw [hfind, hfind]
    split
    · rename_i xa xb _ _
      split
      · -- a scalar field: the value is written, then the relation asserted
        exact ((((h.write S f a b).ensure xa).ensure xb).addFact S S.fuel f _ _ false).collect q Spec.h
          (fun _ e o x => ⟨e, o, x, rfl⟩) rfl
      · -- a container field: the relation is asserted, then the item goes in
        exact (((h.ensure xa).ensure xb).addFact S S.fuel f _ _ false).collect q (fun s => s.h.write S f a b)
          (fun u e o x => ⟨e, o, x, ghost_write S _ u e o x f a b⟩) (write_used ..)
    · exact h
  | mkq k c dom => exact GhostEq.guard rfl h fun _ => ⟨e, o, x + 1, rfl⟩
  | evalq k =>
    dsimp only [specStep]
    rw [hq]
    split
    · exact h
    · rename_i v _
      exact h.collect q (fun s => s.h.recordEval S k v (s.evalQuery q S v)) (fun _ e _ x => ⟨e, _, x, rfl⟩) rfl
  | dropq k =>
    dsimp only [specStep]
    rw [hq]
    split
    · exact h
    · rename_i v _
      exact GhostEq.guard rfl h fun _ => h.collect q (fun s => s.h.dropQuery q k)
        (fun u e o x => ⟨e, o, _, ghost_dropQuery q s2.h u e o x k⟩) (by rw [dropQuery_eq])

end

/-- nothing of a history is left at the level of objects: every instance it created is dead, no reference, field
content, query object, registry entry or relation remains -/
def Garbage (s : Spec) : Prop :=
  s.h.live = [] ∧ s.h.held = [] ∧ s.h.fields = [] ∧ s.h.qvars = [] ∧ s.reg = [] ∧ s.edges = []

theorem ghostEq_of_garbage (s : Spec) (hg : Garbage s) : GhostEq s.h.used s Spec.init := by
  obtain ⟨h1, h2, h3, h4, h5, h6⟩ := hg
  refine ⟨s.h.epoch, s.h.out, s.h.exprs, ?_⟩
  rw [show Spec.init.h.used = [] from rfl, List.append_nil]
  obtain ⟨⟨live, used, held, fields, qvars, epoch, out, exprs⟩, reg, edges⟩ := s
  simp only at h1 h2 h3 h4 h5 h6
  subst h1 h2 h3 h4 h5 h6
  rfl

theorem spec_forgets (q : Quirks) (S : Schema) (p s : List Op) (hg : Garbage (specRun q S p))
    (hn : ∀ o c pid, Op.new o c pid ∈ s → o ∉ (specRun q S p).h.used)
    (hr : ∀ o c pid t, Op.newrole o c pid t ∈ s → o ∉ (specRun q S p).h.used) :
    (specRun q S (p ++ s)).relObs = (specRun q S s).relObs := by
  obtain ⟨e, o, x, heq⟩ := List.foldl_rel (l := s) (ghostEq_of_garbage _ hg) fun op hm _ _ h =>
    specStep_ghostEq q S op h (fun l c pid e => hn l c pid (e ▸ hm)) (fun l c pid t e => hr l c pid t (e ▸ hm))
  rw [show specRun q S (p ++ s) = s.foldl (specStep q S) (specRun q S p) from List.foldl_append .., heq]
  rfl

/-- With `remove_node` purging the relation index and the inference skipping dead ends (the two quirks off): for every
garbage-producing prefix `p` (nothing of it is left at the level of objects), every later history `s` on fresh
labels — creations, relation assertions directly or through managed fields, drops, sweeps, queries — and every
pair of valid node-index allocators and `id()` assignments, the relations among live instances and the field
contents after `p ++ s` are those of `s` run on a fresh graph. -/
theorem C14_fresh_equiv {σ' : Type} (q : Quirks) (hq1 : q.staleRelIndex = false) (hq2 : q.deadEndpointRaises = false)
    (S : Schema) (a : Alloc σ) (ha : a.Valid) (a' : Alloc σ') (ha' : a'.Valid) (p s : List Op)
    (hg : Garbage (specRun q S p))
    (hfresh : ∀ o c pid, Op.new o c pid ∈ s → o ∉ (specRun q S p).h.used)
    (hfreshR : ∀ o c pid t, Op.newrole o c pid t ∈ s → o ∉ (specRun q S p).h.used) :
    (run q S a (p ++ s)).relObs = (run q S a' s).relObs := by
  rw [(C14_model_eq_spec q S a ha (p ++ s) ⟨Or.inl hq1, Or.inl hq2⟩).2,
    (C14_model_eq_spec q S a' ha' s ⟨Or.inl hq1, Or.inl hq2⟩).2]
  exact spec_forgets q S p s hg hfresh hfreshR

/-- the garbage condition can be read off the model as well -/
theorem garbage_of_model (q : Quirks) (hq1 : q.staleRelIndex = false) (hq2 : q.deadEndpointRaises = false)
    (S : Schema) (a : Alloc σ) (ha : a.Valid) (p : List Op) (hg : Garbage (run q S a p).abs) :
    Garbage (specRun q S p) := by
  rw [← (C14_model_eq_spec q S a ha p ⟨Or.inl hq1, Or.inl hq2⟩).1]
  exact hg

/-! ### the garbage condition, from the death of the instances alone -/

/-- owners of field contents and ends of relations satisfy `L` -/
def RelOK (L : Obj → Bool) (fields : List FEntry) (edges : List AEdge) : Prop :=
  (∀ e ∈ fields, L e.owner = true) ∧ (∀ e ∈ edges, L e.src.obj = true ∧ L e.tgt.obj = true)

/-- a specification state only mentions live instances (the part of `SpecOK` that `garbage_of_dead` needs) -/
structure SpecInv (s : Spec) : Prop where
  held : ∀ o ∈ s.h.held, s.h.isLive o = true
  rel : RelOK s.h.isLive (s.h.fields) (s.edges)
  reg : ∀ r ∈ s.reg, s.h.isLive r.obj = true

theorem SpecInv.record {s : Spec} (hI : SpecInv s) (S : Schema) (f : Fld) (a b : R) (inf : Bool)
    (ha : s.h.isLive a.obj = true) (hb : s.h.isLive b.obj = true) : SpecInv (s.record S f a b inf) := by
  have he : ∀ e ∈ s.edges ++ [⟨f, a, b, inf⟩], s.h.isLive e.src.obj = true ∧ s.h.isLive e.tgt.obj = true := fun e he =>
    (List.mem_append.1 he).elim (hI.rel.2 e) fun h => List.mem_singleton.1 h ▸ ⟨ha, hb⟩
  unfold Spec.record
  cases inf with
  | false => exact ⟨hI.held, ⟨hI.rel.1, he⟩, hI.reg⟩
  | true =>
    exact ⟨hI.held, ⟨fun e h => (updateFields_mem (S := S) (f := f) (a := a.obj) (b := b.obj) h).elim (hI.rel.1 e)
      fun h' => h' ▸ ha, he⟩, hI.reg⟩

theorem ensure_live (s : Spec) (x : HObj) : (s.ensure x).h.live = s.h.live := rfl

theorem SpecOK.inv {q : Quirks} {s : Spec} (h : SpecOK q s) : SpecInv s :=
  ⟨fun o ho => h.hk.1.roots o (mem_roots.2 (.inl ho)), ⟨h.hk.1.owner, h.edges⟩, h.reg⟩

/-- if every instance the prefix created is dead and no query object of it is left, nothing else of it is left either:
the specification only mentions live instances -/
theorem garbage_of_dead (q : Quirks) (S : Schema) (p : List Op) (hl : (specRun q S p).h.live = [])
    (hq : (specRun q S p).h.qvars = []) : Garbage (specRun q S p) := by
  have hI := (specRun_ok q S p).inv
  have hdead : ∀ o, ¬ (specRun q S p).h.isLive o = true := by
    intro o
    simp [Heap.isLive, hl]
  refine ⟨hl, ?_, ?_, hq, ?_, ?_⟩
  · exact List.eq_nil_iff_forall_not_mem.2 fun o ho => hdead o (hI.held o ho)
  · exact List.eq_nil_iff_forall_not_mem.2 fun e he => hdead _ (hI.rel.1 e he)
  · exact List.eq_nil_iff_forall_not_mem.2 fun r hr => hdead _ (hI.reg r hr)
  · exact List.eq_nil_iff_forall_not_mem.2 fun e he => hdead _ (hI.rel.2 e he).1

/-- `C14_fresh_equiv` with the garbage condition in its plain form: every instance created
by the prefix is dead at its end and no query object of the prefix is left. -/
theorem C14_fresh_equiv_dead {σ' : Type} (q : Quirks) (hq1 : q.staleRelIndex = false)
    (hq2 : q.deadEndpointRaises = false) (S : Schema) (a : Alloc σ) (ha : a.Valid) (a' : Alloc σ') (ha' : a'.Valid)
    (p s : List Op) (hl : (specRun q S p).h.live = []) (hq : (specRun q S p).h.qvars = [])
    (hfresh : ∀ o c pid, Op.new o c pid ∈ s → o ∉ (specRun q S p).h.used)
    (hfreshR : ∀ o c pid t, Op.newrole o c pid t ∈ s → o ∉ (specRun q S p).h.used) :
    (run q S a (p ++ s)).relObs = (run q S a' s).relObs :=
  C14_fresh_equiv q hq1 hq2 S a ha a' ha' p s (garbage_of_dead q S p hl hq) hfresh hfreshR

/-! ### witnesses on the schema of the harness, and non-vacuity -/

open KrroodVerif.Drive.SG in
/-- Finding F-C14-1 on a concrete history: an `Emp` and an `Org` are created, `emp.works_for = org`, both are
dropped, collected and swept; a new `Org` and a new `Emp` get the recycled node indices 1 and 0 (LIFO), and
`emp.works_for = org` records NO relation and infers nothing — the stale pair `(0, 1)` of `_relation_index` answers
"already known". With the purge in `remove_node` the three relations of a fresh graph appear. -/
theorem C14_cex_recycled :
    let p := [Op.new 0 2 0, .new 1 1 1, .set 0 0 1, .drop 0, .drop 1, .sweep]
    let s := [Op.new 2 1 0, .new 3 2 1, .set 0 3 2]
    (run Quirks.original schema lifo (p ++ s)).staleHit = true ∧
    (run Quirks.original schema lifo (p ++ s)).relObs = some ([], [(3, 0, 2)]) ∧
    (run Quirks.original schema lifo s).relObs =
      some ([(0, 3, 2), (1, 3, 2), (2, 2, 3)], [(3, 0, 2), (3, 1, 2), (2, 2, 3)]) ∧
    (run Quirks.asIs schema lifo (p ++ s)).relObs = (run Quirks.original schema lifo s).relObs ∧
    (specRun Quirks.original schema (p ++ s)).relObs = (run Quirks.original schema lifo s).relObs := by
  dsimp only
  refine ⟨by decide, by decide, by decide, by decide, by decide⟩

open KrroodVerif.Drive.SG in
/-- Finding F-C14-2 on a concrete history: `a.sub_of.append(b)`, `a` is dropped and collected but not yet swept, then
`b.sub_of.append(c)` raises in the tree before the fixes (`Quirks.original`) and with that quirk alone on top of the
code at /repo HEAD (the transitive inference reaches the dead `a`); after a sweep, or with dead ends skipped — the code
at /repo HEAD, `Quirks.asIs` — the assertion records `b → c` as on a fresh graph. -/
theorem C14_cex_dead_source :
    let ops := [Op.new 0 1 0, .new 1 1 1, .new 2 1 2, .set 3 0 1, .drop 0, .set 3 1 2]
    let swept := [Op.new 0 1 0, .new 1 1 1, .new 2 1 2, .set 3 0 1, .drop 0, .sweep, .set 3 1 2]
    (run Quirks.original schema lifo ops).deadHit = true ∧ (run Quirks.original schema lifo ops).relObs = none ∧
    (run { Quirks.asIs with deadEndpointRaises := true } schema lifo ops).relObs = none ∧
    (run Quirks.asIs schema lifo ops).relObs = some ([(3, 1, 2)], [(1, 3, 2)]) ∧
    (run Quirks.original schema lifo swept).relObs = some ([(3, 1, 2)], [(1, 3, 2)]) ∧
    (run Quirks.none schema lifo ops).relObs = some ([(3, 1, 2)], [(1, 3, 2)]) ∧
    (specRun Quirks.original schema ops).relObs = some ([(3, 1, 2)], [(1, 3, 2)]) := by
  dsimp only
  -- `Quirks.none` is `Quirks.asIs`: the fourth and the sixth conjunct are one fact
  have h : (run Quirks.asIs schema lifo [Op.new 0 1 0, .new 1 1 1, .new 2 1 2, .set 3 0 1, .drop 0, .set 3 1 2]).relObs =
      some ([(3, 1, 2)], [(1, 3, 2)]) := by
    decide
  exact ⟨by decide, by decide, by decide, h, by decide, h, by decide⟩

open KrroodVerif.Drive.SG in
/-- non-vacuity of `C14_fresh_equiv`: a prefix with relations, inferences and recycling is garbage; the suffix uses
fresh labels and asserts relations with inferences -/
example :
    let p := [Op.new 0 2 0, .new 1 1 1, .set 0 0 1, .new 2 1 2, .set 3 1 2, .drop 0, .drop 1, .drop 2, .sweep]
    let s := [Op.new 10 1 0, .new 11 2 1, .set 0 11 10, .new 12 1 2, .set 3 10 12]
    Garbage (specRun Quirks.none schema p) ∧
    (∀ o c pid, Op.new o c pid ∈ s → o ∉ (specRun Quirks.none schema p).h.used) ∧
    (run Quirks.none schema lifo (p ++ s)).relObs =
      some ([(0, 11, 10), (1, 11, 10), (2, 10, 11), (3, 10, 12)], [(11, 0, 10), (11, 1, 10), (10, 2, 11), (10, 3, 12)]) := by
  refine ⟨by unfold Garbage; decide, ?_, by decide⟩
  intro o c pid hm
  simp only [List.mem_cons, Op.new.injEq, List.mem_nil_iff, or_false, reduceCtorEq, false_or] at hm
  rcases hm with ⟨rfl, _⟩ | ⟨rfl, _⟩ | ⟨rfl, _⟩ <;> decide

open KrroodVerif.Drive.SG in
/-- non-vacuity of `C14_partial_precise`: a history with garbage and a sweep in which the LIFO allocator recycles
indices, yet no stale entry is hit -/
example :
    let ops := [Op.new 0 2 0, .new 1 1 1, .set 0 0 1, .drop 0, .drop 1, .sweep, .new 2 2 0, .new 3 1 1, .set 0 2 3]
    (run Quirks.original schema lifo ops).staleHit = false ∧ (run Quirks.original schema lifo ops).deadHit = false ∧
    (run Quirks.original schema lifo ops).g.reused = true ∧ (run Quirks.original schema lifo ops).g.relIdx.length = 6 := by
  decide

open KrroodVerif.Drive.SG in
/-- Non-vacuity of the role-taker part of the theorems above (they quantify over every schema and every history, role
classes and `Op.newrole` included), on the schema of the harness: an Emp 0, an Org 1,
`Chair(2, emp=0)`; `clear()` makes the registry forget all three; `chair.head_of = org` wraps the chair and the org, and
the inference through the role taker wraps the Emp IN THE MIDDLE of the inference (third node) and infers, in the order
of the code: works_for and member_of on the role taker (super-properties of HeadOf on the role-taker type), members on
the org for the Emp (inverse of member_of), then members on the org for the chair (inverse of head_of), whose own inverse
— looked up on the chair's role taker — is the member_of relation already known. Model and specification agree. -/
theorem C14_role_witness :
    let ops : List Op := [.new 0 2 0, .new 1 1 1, .newrole 2 8 2 0, .clear, .set 6 2 1]
    (run Quirks.asIs schema lifo ops).g.nodes.map (·.obj) = [2, 1, 0] ∧
    (run Quirks.asIs schema lifo ops).abs.edges.map (fun e => (e.fld, e.src.obj, e.tgt.obj, e.inferred)) =
      [(6, 2, 1, false), (0, 0, 1, true), (1, 0, 1, true), (2, 1, 0, true), (2, 1, 2, true)] ∧
    (run Quirks.asIs schema lifo ops).h.fields.map (fun e => (e.owner, e.fld, e.val)) =
      [(2, 9, 0), (2, 6, 1), (0, 0, 1), (0, 1, 1), (1, 2, 0), (1, 2, 2)] ∧
    (run Quirks.asIs schema lifo ops).relObs = (specRun Quirks.asIs schema ops).relObs ∧
    (specRun Quirks.asIs schema ops).reg.map (·.obj) = [2, 1, 0] := by
  decide

open KrroodVerif.Drive.SG in
/-- the garbage hypotheses of `C14_fresh_equiv_dead` are met by a prefix WITH roles, and its conclusion holds for a
suffix with roles on fresh labels: the prefix creates an
Emp, an Org and a Chair, asserts `head_of`, and drops everything; the suffix does the same on fresh labels -/
example :
    let p : List Op := [.new 0 2 0, .new 1 1 1, .newrole 2 8 2 0, .set 6 2 1, .drop 2, .drop 1, .drop 0, .sweep]
    let s : List Op := [.new 10 2 0, .new 11 1 1, .newrole 12 8 2 10, .set 6 12 11]
    (specRun Quirks.asIs schema p).h.live = [] ∧ (specRun Quirks.asIs schema p).h.qvars = [] ∧
    (run Quirks.asIs schema lifo (p ++ s)).relObs = (run Quirks.asIs schema lifo s).relObs ∧
    ((run Quirks.asIs schema lifo s).relObs.map (·.1.length)) = some 5 := by
  decide

end KrroodVerif.SG
