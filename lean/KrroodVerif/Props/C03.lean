import KrroodVerif.Model.Dom
import KrroodVerif.Model.DomIdx
import KrroodVerif.Lemmas.DomShapeLemmas
/-!
# C03 — Evaluations are repeatable and do not interfere (M-DOM part)

* the machine with generator cursors: `run` over `State` (`Model/Dom.lean`) — `HashedIterable.__iter__` before krrood
  commit e48e46b (a dict-view replay, then the shared one-shot generator); validated against that code by the
  schedule-enumerating correspondence;
* the machine with index cursors: `runIdx` over `StateIdx` (`Model/DomIdx.lean`) — `HashedIterable.__iter__` since
  e48e46b (the fix of finding F-C03-1);
* the specification `specRun n sats`: every `next()` on an iterator of query `i` returns the next element of
  `isolated n (sats i)` — what the same query returns when it runs alone on a fresh query — and `stop` after the last.

All theorems are unbounded: every domain size `n`, every family of queries `sats`, every schedule length, any number
of iterators, any number of re-evaluations and abandonments. They are instances of the theorems about the interpreted
machine `runS s` in `Lemmas/DomShapeLemmas.lean` (`run_noOverlapS` for every `coreOk` shape, `run_fullS` for those whose
phase 1 is an index): `run` and `runIdx` are `runS Dom.shape` and `runS Dom.shapeIdx` on the embedded state
(`run_eq_interp`, `runIdx_eq_interp`).
-/
namespace KrroodVerif.Dom

/-- Generator cursors. On every schedule in which the *consumption phases* of the evaluations do not overlap
(`noOverlap`, `Model/DomIdx.lean`: iterators may be created in any order and in advance, abandoned at any point, and any
query may be evaluated any number of times), every `next()` returns exactly what the specification says. -/
theorem C03_nonoverlap_partial (n : Nat) (sats : Nat → List Nat) (ops : List Op)
    (hno : noOverlap ops = true) : run sats (init n) ops = specRun n sats [] ops :=
  (run_eq_interp sats ops (init n)).symm.trans (run_noOverlapS rfl n sats ops _ _ _ _ (noInvS_init shape n sats) hno)

/-- Generator cursors. On every schedule in which evaluations do not overlap (`sequential`: once another iterator has
been started, an earlier one is never advanced again), every `next()` returns exactly what the same query returns when
it runs alone on a fresh query.

In particular the fuel of `qnext` never runs out and `RuntimeError` never occurs on such schedules
(`specRun_no_error`). -/
theorem C03_sequential_partial (n : Nat) (sats : Nat → List Nat) (ops : List Op)
    (hseq : sequential ops = true) : run sats (init n) ops = specRun n sats [] ops :=
  C03_nonoverlap_partial n sats ops (sequential_noOverlap hseq)

/-! The invariants `NoInv` and `FullInv` of the hand-written machines (`Lemmas/DomLemmas.lean`) give `NoInvS` and
`FullInvS` of the embedded state. -/

theorem remS_emb {d : Dom} {c : Cursor} {l : List Nat} (h : Rem d c l) : RemS shape (embD d) (embC c) l := by
  cases c with
  | fresh => exact h
  | replay i size => exact ⟨h.2, h.1⟩
  | drain => exact ⟨nofun, h⟩
  | done => exact h

theorem noInvS_emb {n : Nat} {sats : Nat → List Nat} {s : State} {st : List (Nat × Nat)} {act : Option Nat}
    {fresh : List Nat} (h : NoInv n sats s st act fresh) : NoInvS shape n sats (embS s) st act fresh := by
  have hl : ∀ c, (embS s).its.lookup c = (s.get c).map embQ := fun c => lookup_map_snd ..
  refine ⟨⟨h.1, rfl⟩, fun c hc => ⟨?_, (h.2.1 c hc).2⟩, fun c hc => ⟨?_, (h.2.2 c hc).2⟩⟩
  · obtain ⟨q, k, l, hget, hsat, hk, hrem, hfil⟩ := (h.2.1 c hc).1
    refine ⟨embQ q, k, l, ?_, hsat, hk, remS_emb hrem, hfil⟩
    rw [hl, hget]
    rfl
  · rw [hl, (h.2.2 c hc).1]
    rfl

/-- `C03_nonoverlap_partial` from any configuration satisfying `NoInv`, not only `init n` -/
theorem C03_nonoverlap_partial_from (n : Nat) (sats : Nat → List Nat) (ops : List Op) (s : State)
    (st : List (Nat × Nat)) (act : Option Nat) (fresh : List Nat) (hinv : NoInv n sats s st act fresh)
    (hno : noOverlapAux act fresh ops = true) : run sats s ops = specRun n sats st ops :=
  (run_eq_interp sats ops s).symm.trans (run_noOverlapS rfl n sats ops _ _ _ _ (noInvS_emb hinv) hno)

/-- Index cursors (every iterator is an index into `cache ++ rest`). For EVERY schedule — any
interleaving of any number of iterators, nested loops, abandonment, re-evaluation — every `next()` returns exactly
what the same query returns when it runs alone on a fresh query. -/
theorem C03_full (n : Nat) (sats : Nat → List Nat) (ops : List Op) :
    runIdx sats (initIdx n) ops = specRun n sats [] ops :=
  (runIdx_eq_interp sats ops (initIdx n)).symm.trans (run_fullS rfl rfl n sats ops _ _ (fullInvS_init shapeIdx n sats))

theorem remS_embI {d : Dom} {i : Nat} (hi : i ≤ d.cache.length) :
    RemS shapeIdx (embD d) (embI i) ((d.cache ++ d.rest).drop i) := by
  -- an index cursor that was never advanced is a fresh generator
  unfold embI
  split
  · next h0 =>
    rw [h0]
    rfl
  · exact ⟨List.drop_append_of_le_length hi, hi⟩

theorem fullInvS_emb {n : Nat} {sats : Nat → List Nat} {s : StateIdx} {st : List (Nat × Nat)}
    (h : FullInv n sats s st) : FullInvS shapeIdx n sats (embSI s) st := by
  obtain ⟨hdom, hnone, hsome⟩ := h
  refine ⟨⟨hdom, rfl⟩, fun i => ?_⟩
  have hl : (embSI s).its.lookup i = (s.get i).map embQI := lookup_map_snd ..
  rw [hl]
  cases hget : s.get i with
  | none => exact .inl ⟨rfl, hnone i hget⟩
  | some q =>
    obtain ⟨hsat, hidx, k, hk, hfil⟩ := hsome i q hget
    have hq : (embSI s).its.lookup i = some (embQI q) := by
      rw [hl, hget]
      rfl
    exact .inr ⟨embQI q, k, _, hq, hsat, hk, hdom ▸ remS_embI hidx, hfil⟩

/-- `C03_full` from any configuration satisfying `FullInv` -/
theorem C03_full_from (n : Nat) (sats : Nat → List Nat) (ops : List Op) (s : StateIdx) (st : List (Nat × Nat))
    (hinv : FullInv n sats s st) : runIdx sats s ops = specRun n sats st ops :=
  (runIdx_eq_interp sats ops s).symm.trans (run_fullS rfl rfl n sats ops _ _ (fullInvS_emb hinv))

/-- on non-overlapping schedules generator cursors and index cursors are indistinguishable -/
theorem C03_repair_conservative (n : Nat) (sats : Nat → List Nat) (ops : List Op) (hno : noOverlap ops = true) :
    runIdx sats (initIdx n) ops = run sats (init n) ops := by
  rw [C03_full, C03_nonoverlap_partial n sats ops hno]

/-- What `isolated` means in the machine with generator cursors: a query evaluated alone on a fresh
domain, consumed to the end, yields exactly the satisfying elements of the domain in domain order, then `stop`. -/
theorem C03_alone (n : Nat) (sats : Nat → List Nat) (i : Nat) :
    run sats (init n) (.start i :: List.replicate ((isolated n (sats i)).length + 1) (.next i)) =
      none :: (isolated n (sats i)).map (fun x => some (.val x)) ++ [some .stop] := by
  have hseq : sequential (.start i :: List.replicate ((isolated n (sats i)).length + 1) (.next i)) = true := by
    simp only [sequential, sequentialAux]
    exact sequentialAux_replicate i _ _
  rw [C03_sequential_partial n sats _ hseq]
  exact specRun_alone n sats i

/-- the same for index cursors -/
theorem C03_alone_idx (n : Nat) (sats : Nat → List Nat) (i : Nat) :
    runIdx sats (initIdx n) (.start i :: List.replicate ((isolated n (sats i)).length + 1) (.next i)) =
      none :: (isolated n (sats i)).map (fun x => some (.val x)) ++ [some .stop] := by
  rw [C03_full]
  exact specRun_alone n sats i

/-- Generator cursors, every schedule and every state. If iterator `i` is not advanced
in `post` before it is started again, then inserting `abandon i` between `pre` and `post` only inserts a `none` at
that position of the output (first conjunct); equivalently, removing such an `abandon i` only removes its `none`
(second conjunct). -/
theorem C03_abandon_irrelevant (sats : Nat → List Nat) (s : State) (pre post : List Op) (i : Nat)
    (h : neverAdvanced i post = true) :
    run sats s (pre ++ .abandon i :: post) =
      (run sats s (pre ++ post)).take pre.length ++ none :: (run sats s (pre ++ post)).drop pre.length ∧
    (run sats s (pre ++ .abandon i :: post)).eraseIdx pre.length = run sats s (pre ++ post) := by
  have hlen := run_length sats pre s
  have key : run sats (stateAfter sats s pre) (.abandon i :: post) =
      none :: run sats (stateAfter sats s pre) post := by
    simp only [run, run1]
    congr 1
    refine run_agree sats post _ _ rfl fun j => ?_
    by_cases hji : j = i
    · exact .inr (hji ▸ h)
    · exact .inl (lookup_filter_ne hji _)
  rw [run_append, run_append, key]
  constructor
  · rw [List.take_left' hlen, List.drop_left' hlen]
  · rw [List.eraseIdx_append_of_length_le (Nat.le_of_eq hlen), hlen, Nat.sub_self]
    rfl

/-! ## Finding F-C03-1: generator cursors on overlapping schedules -/

/-- both queries are satisfied by every element of the domain `[0, 1, 2]` -/
def cexSats : Nat → List Nat := fun _ => [0, 1, 2]

/-- a nested loop: the outer iterator takes one element, the inner one runs to the end, the outer one continues -/
def cexOps : List Op :=
  [.start 0, .next 0, .start 1, .next 1, .next 1, .next 1, .next 1, .next 0, .next 0]

/-- On the nested-loop schedule the outer iterator gets `stop` where the specification says
`1` (the inner evaluation drained the shared one-shot generator; the outer cursor is past the cache replay), the
schedule is not `sequential`/`noOverlap`, and the machine with index cursors agrees with the specification. -/
theorem C03_cex_interleaved :
    run cexSats (init 3) cexOps ≠ specRun 3 cexSats [] cexOps ∧
    run cexSats (init 3) cexOps =
      [none, some (.val 0), none, some (.val 0), some (.val 1), some (.val 2), some .stop,
       some .stop, some .stop] ∧
    specRun 3 cexSats [] cexOps =
      [none, some (.val 0), none, some (.val 0), some (.val 1), some (.val 2), some .stop,
       some (.val 1), some (.val 2)] ∧
    sequential cexOps = false ∧ noOverlap cexOps = false ∧
    runIdx cexSats (initIdx 3) cexOps = specRun 3 cexSats [] cexOps := by
  decide +kernel

/-- iterator 1 is replaying the cache (dict view of size 1) when iterator 0 pulls the generator and grows the dict -/
def cexOpsErr : List Op := [.start 0, .next 0, .start 1, .next 1, .next 0, .next 1]

/-- The last `next` raises `RuntimeError` ("dictionary changed size during iteration") where the specification says
`1`. (The shorter schedule `[start 0, next 0, start 1, next 1, next 0]` does *not* fail: iterator 0 is already draining
the generator, see the `example` below.) -/
theorem C03_cex_runtime_error :
    run cexSats (init 3) cexOpsErr =
      [none, some (.val 0), none, some (.val 0), some (.val 1), some .runtimeError] ∧
    specRun 3 cexSats [] cexOpsErr =
      [none, some (.val 0), none, some (.val 0), some (.val 1), some (.val 1)] ∧
    sequential cexOpsErr = false ∧ noOverlap cexOpsErr = false ∧
    runIdx cexSats (initIdx 3) cexOpsErr = specRun 3 cexSats [] cexOpsErr := by
  decide +kernel

/-- an overlapping schedule that happens to agree with the specification (the discipline is sufficient, not
necessary) -/
example :
    run cexSats (init 3) [.start 0, .next 0, .start 1, .next 1, .next 0] =
      specRun 3 cexSats [] [.start 0, .next 0, .start 1, .next 1, .next 0] ∧
    run cexSats (init 3) [.start 0, .next 0, .start 1, .next 1, .next 0] =
      [none, some (.val 0), none, some (.val 0), some (.val 1)] ∧
    sequential [.start 0, .next 0, .start 1, .next 1, .next 0] = false := by
  decide +kernel

/-! ## Non-vacuity of the hypotheses -/

/-- two different queries over the domain `[0, 1, 2, 3]`, and one nothing satisfies -/
def nvSats : Nat → List Nat
  | 0 => [1, 3]
  | 1 => [0, 2, 3]
  | _ => []

def nvOps : List Op :=
  [.start 0, .next 0, .abandon 0,                              -- q0 partially consumed, then dropped
   .start 1, .next 1, .next 1,                                 -- q1 partially consumed, never closed
   .start 0, .next 0, .next 0, .next 0, .next 0,               -- q0 evaluated again, to the end and beyond
   .abandon 1, .start 1, .next 1, .next 1, .next 1, .next 1,   -- q1 evaluated again, completely
   .start 2, .next 2]                                          -- a query nothing satisfies

/-- iterators created in advance, consumed one after the other: not `sequential`, but `noOverlap` -/
def nvOps2 : List Op :=
  [.start 0, .start 1, .next 0, .next 0, .next 1, .abandon 0, .next 1, .next 1, .next 1]

/-- The hypothesis of `C03_sequential_partial` is decidable and is met by
non-trivial schedules (two different queries, partial consumption, abandonment, re-evaluation) whose outputs contain
real elements. -/
theorem C03_sequential_decidable_nonvacuous :
    sequential nvOps = true ∧
    run nvSats (init 4) nvOps =
      [none, some (.val 1), none,
       none, some (.val 0), some (.val 2),
       none, some (.val 1), some (.val 3), some .stop, some .stop,
       none, none, some (.val 0), some (.val 2), some (.val 3), some .stop,
       none, some .stop] ∧
    sequential nvOps2 = false ∧ noOverlap nvOps2 = true ∧
    run nvSats (init 4) nvOps2 =
      [none, none, some (.val 1), some (.val 3), some (.val 0), none, some (.val 2), some (.val 3), some .stop] := by
  decide +kernel

example : run nvSats (init 4) nvOps = specRun 4 nvSats [] nvOps :=
  C03_sequential_partial 4 nvSats nvOps (by decide)

example : run nvSats (init 4) nvOps2 = specRun 4 nvSats [] nvOps2 :=
  C03_nonoverlap_partial 4 nvSats nvOps2 (by decide)

example : runIdx nvSats (initIdx 4) nvOps2 = run nvSats (init 4) nvOps2 :=
  C03_repair_conservative 4 nvSats nvOps2 (by decide)

/-- `C03_full` on the interleaved schedule: index cursors yield all results of both iterators -/
example : runIdx cexSats (initIdx 3) cexOps =
    [none, some (.val 0), none, some (.val 0), some (.val 1), some (.val 2), some .stop,
     some (.val 1), some (.val 2)] := by
  decide +kernel
/-- `C03_abandon_irrelevant`: hypothesis met non-trivially (iterator 0 is restarted and advanced later) -/
example : neverAdvanced 0 [.start 1, .next 1, .start 0, .next 0] = true ∧
    run nvSats (init 4) ([.start 0, .next 0] ++ .abandon 0 :: [.start 1, .next 1, .start 0, .next 0]) =
      [none, some (.val 1), none, none, some (.val 0), none, some (.val 1)] := by
  decide +kernel

end KrroodVerif.Dom
