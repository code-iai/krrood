import KrroodVerif.Lemmas.EqlCount
import KrroodVerif.Props.C09
/-!
# C02 — No duplicated or dropped solutions in conjunctive / else-if queries

The lemmas are in `Lemmas/EqlCover.lean` and `Lemmas/EqlCount.lean`. The model (`evalQuery`, `eval`, `build`) transcribes
the engine; `solutions` / `sat` is the ordinary first-order reading.

Fragment `SExpr.F2`: `and_`, `or_` only between conditions with the same variables, `not_` only on atoms;
atoms are comparisons, membership, `HasType` and attribute/index chains used as conditions, over
variables, literals and attribute/index chains (no `flatten`, no quantifiers).
Side conditions: domains are duplicate-free, literal nodes have distinct ids (`LitNodup`), the selection
consists of plain variables that occur in the condition (`selOK`).
Both sides are assumed to return `.ok` (`Props/C01Typed.lean` discharges that for well-typed queries).

The theorems are about the engine at fix commit `78cb732`, which flags a BOUND variable with its truthiness only where
the variable itself is a condition (`boundFlag`); before it a comparison dropped the row when an operand was a bound
variable with a falsy value (F-C02-1 = F-C01-3, witness `C02_cex_falsyBound`).
-/
namespace KrroodVerif.Eql

/-- On `F2`, evaluation yields exactly one result row per satisfying assignment:
the rows of `evalQuery` are a permutation of the rows of the specification (multiset equality). Unbounded in
the query, the domains and the objects. -/
theorem C02_multiplicity (w : World) (q : SQuery) (c : SExpr)
    (hc : q.cond = some c) (hF : c.F2 = true) (hsel : selOK q.sel c = true)
    (hnd : ∀ v, (w.dom v).Nodup) (hlit : LitNodup (build c))
    {rows rows' : List (List Val)}
    (h1 : evalQuery w q.toQuery = .ok rows) (h2 : solutions w q = .ok rows') :
    rows.Perm rows' := by
  obtain ⟨sel, cond⟩ := q
  simp only at hc; subst hc
  simp only [selOK, Bool.and_eq_true, List.all_eq_true, List.contains_iff_mem] at hsel
  have hs := sel_plain (List.all_eq_true.mpr hsel.1)
  simp only [SQuery.toQuery, Option.map] at h1
  rw [hs] at h1 h2
  exact multiplicity_core w _ c hF hsel.2 hnd hlit h1 h2

/-- Under the hypotheses of `C02_multiplicity` `the(q)` sees the true number of solutions: the value `s` iff the
specification has exactly the solution `s`, `NoSolutionFound` iff it has none, `MultipleSolutionFound` iff it
has several (`Quant.theRun` is C09's model of `the`, `Quant.theSpec` its specification). -/
theorem C02_the (w : World) (q : SQuery) (c : SExpr)
    (hc : q.cond = some c) (hF : c.F2 = true) (hsel : selOK q.sel c = true)
    (hnd : ∀ v, (w.dom v).Nodup) (hlit : LitNodup (build c))
    {rows rows' : List (List Val)}
    (h1 : evalQuery w q.toQuery = .ok rows) (h2 : solutions w q = .ok rows') :
    rows.length = rows'.length ∧
    Quant.theRun rows = some (Quant.theSpec rows) ∧
    (Quant.theSpec rows = .noSolution ↔ rows' = []) ∧
    (∀ s, Quant.theSpec rows = .value s ↔ rows' = [s]) ∧
    (Quant.theSpec rows = .multipleSolutions ↔ 2 ≤ rows'.length) := by
  have hp := C02_multiplicity w q c hc hF hsel hnd hlit h1 h2
  refine ⟨hp.length_eq, Quant.C09_the rows, ?_⟩
  match rows, hp with
  | [], hp =>
    have : rows' = [] := hp.symm.eq_nil
    subst this; simp [Quant.theSpec]
  | [x], hp =>
    have : rows' = [x] := List.perm_singleton.mp hp.symm
    subst this; simp [Quant.theSpec]
  | x :: y :: r, hp =>
    have hl := hp.length_eq
    simp only [List.length_cons] at hl
    refine ⟨?_, ?_, ?_⟩
    · simp only [Quant.theSpec, reduceCtorEq, false_iff]
      intro h
      rw [h] at hl
      simp at hl
    · intro s
      simp only [Quant.theSpec, reduceCtorEq, false_iff]
      intro h
      rw [h] at hl
      simp at hl
    · simp only [Quant.theSpec, true_iff]
      omega

/-! ### The witness of F-C02-1 = F-C01-3 (`findings.d/C02.json`; `fixed:` by commit `78cb732`) -/

def cexFalsyW : World := { objs := [], doms := [(0, [.int 0, .int 1, .int 2, .int 3])] }
def cexFalsyQ : SQuery :=
  ⟨[.var 0], some (.and (.cmp .ge (.var 0) (.lit 101 (.int 0))) (.cmp .lt (.var 0) (.lit 102 (.int 2))))⟩

/-- The witness of F-C02-1 = F-C01-3, `and_(x >= 0, x < 2)` over `[0,1,2,3]`, at fix commit `78cb732`: evaluation EQUALS the
specification (two rows). The second comparison meets `x` already bound; the engine before `78cb732` flagged a bound
variable `is_false = not bool(value)` wherever it stood, the comparator filters its operand results by that flag, so
`x = 0` was dropped and one row came back for two satisfying assignments. The query is in `F2` and meets every hypothesis
of `C02_multiplicity` although its domain contains a falsy value (`domTruthyB … = false`). -/
theorem C02_cex_falsyBound :
    evalQuery cexFalsyW cexFalsyQ.toQuery = .ok [[.int 0], [.int 1]] ∧
    solutions cexFalsyW cexFalsyQ = .ok [[.int 0], [.int 1]] ∧
    evalQuery cexFalsyW cexFalsyQ.toQuery = solutions cexFalsyW cexFalsyQ ∧
    (∃ c, cexFalsyQ.cond = some c ∧ c.F2 = true ∧ selOK cexFalsyQ.sel c = true ∧ LitNodup (build c)) ∧
    domsNodupB cexFalsyW = true ∧ domTruthyB cexFalsyW = false := by
  refine ⟨by decide +kernel,
    by decide +kernel,
    by decide +kernel, ⟨_, rfl,
    by decide +kernel,
    by decide +kernel,
    by decide +kernel⟩,
    by decide +kernel,
    by decide +kernel⟩

/-- `C02_multiplicity` and `C02_the` apply to the witness of F-C02-1 (domain `[0,1,2,3]`, the value `0` is falsy) -/
example : [[Val.int 0], [.int 1]].Perm [[Val.int 0], [.int 1]] ∧
    Quant.theSpec [[Val.int 0], [.int 1]] = .multipleSolutions :=
  ⟨C02_multiplicity cexFalsyW cexFalsyQ _ rfl
    (by decide +kernel)
    (by decide +kernel)
    (domsNodup_of_B (by decide +kernel))
    (by decide +kernel)
    (by decide +kernel)
    (by decide +kernel),
   ((C02_the cexFalsyW cexFalsyQ _ rfl
    (by decide +kernel)
    (by decide +kernel)
    (domsNodup_of_B (by decide +kernel))
    (by decide +kernel)
      (rows := [[Val.int 0], [.int 1]]) (rows' := [[Val.int 0], [.int 1]])
    (by decide +kernel)
    (by decide +kernel)).2.2.2.2).mpr
      (by decide +kernel)⟩

/-! ### Non-vacuity

A 3-object world and an `F2` query with a non-empty, non-total answer that meets every hypothesis of `C02_multiplicity` /
`C02_the`. -/

def c02nvW : World :=
  { objs := [cexObj false 0 true [] 0, cexObj false 1 true [] 2, cexObj false 2 true [] 4],
    doms := [(0, [.obj 0, .obj 1, .obj 2]), (1, [.obj 0, .obj 1, .obj 2])] }
def c02nvC : SExpr :=
  .and (.or (.cmp .lt (.attr (.var 0) "a") (.attr (.var 1) "a")) (.cmp .eq (.attr (.var 0) "a") (.attr (.var 1) "a")))
       (.not (.cmp .eq (.attr (.var 1) "a") (.lit 101 (.int 2))))
def c02nvQ : SQuery := ⟨[.var 0, .var 1], some c02nvC⟩

example :
    c02nvQ.cond = some c02nvC ∧ c02nvC.F2 = true ∧ selOK c02nvQ.sel c02nvC = true ∧
    (∀ v, (c02nvW.dom v).Nodup) ∧ LitNodup (build c02nvC) ∧
    evalQuery c02nvW c02nvQ.toQuery = .ok [[.obj 0, .obj 0], [.obj 0, .obj 1], [.obj 1, .obj 1]] ∧
    solutions c02nvW c02nvQ = .ok [[.obj 0, .obj 0], [.obj 0, .obj 1], [.obj 1, .obj 1]] ∧
    (assignments c02nvW c02nvQ.vars).length = 9 :=
  ⟨rfl,
    by decide +kernel,
    by decide +kernel,
    domsNodup_of_B (by decide +kernel),
    by decide +kernel,
    by decide +kernel,
    by decide +kernel,
    by decide +kernel⟩

/-! ### Partially ordered values

On `frozenset`s the negation of an ordering comparison is NOT the "inverse" operator — `{0} < {1}` and `{0} >= {1}` are
both false — so a negated atom must be evaluated as `Not(Comparator)`, which is what `invert` builds; the multiplicity
theorems above hold for every value universe because they never inspect `applyCmp`. -/

theorem C02_poset_not_lt_ne_ge (w : World) :
    applyCmp w .lt (.set [0]) (.set [1]) = .ok false ∧ applyCmp w .ge (.set [0]) (.set [1]) = .ok false := by
  constructor <;> rfl

def c02setW : World :=
  { objs := [{ cls := 0, fields := [("s", .set [0])], veq := false }, { cls := 0, fields := [("s", .set [1])], veq := false }],
    doms := [(0, [.obj 0, .obj 1]), (1, [.obj 0, .obj 1])] }
def c02setQ : SQuery := ⟨[.var 0, .var 1], some (.not (.cmp .lt (.attr (.var 0) "s") (.attr (.var 1) "s")))⟩

/-- every one of the four assignments satisfies `not_(x.s < y.s)` over `{0}`, `{1}` (two of them only because the
sets are incomparable), and each yields exactly one row -/
theorem C02_poset_negated_atom :
    evalQuery c02setW c02setQ.toQuery = solutions c02setW c02setQ ∧
    solutions c02setW c02setQ =
      .ok [[.obj 0, .obj 0], [.obj 0, .obj 1], [.obj 1, .obj 0], [.obj 1, .obj 1]] := by
  constructor <;> decide +kernel

end KrroodVerif.Eql
