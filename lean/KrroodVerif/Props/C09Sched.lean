import KrroodVerif.Props.C09Shape
import KrroodVerif.Lemmas.ListBasics
/-! C09 — interleaved evaluations of a node described by an accepted `LoopShape` are independent
(`C09_shape_ok_sched`), and concrete witnesses that descriptions refused by `ShapeOk` break the property. -/
namespace KrroodVerif.Quant

/-- a generator frame reduced to what it will still show: the results left to yield and how it ends -/
inductive CFrame (α : Type) where
  | live (r : List α × Outcome)
  | dead

/-- one `next()` on a reduced frame -/
def cstep {α} : CFrame α → NextObs α × CFrame α
  | .dead => (.exhausted, .dead)
  | .live (y :: ys, o) => (.value y, .live (ys, o))
  | .live ([], o) => (.finished o, .dead)

/-- the reduced frame of an evaluation with result `r` after `p` calls of `next()` -/
def cafter {α} (r : List α × Outcome) (p : Nat) : CFrame α :=
  if p ≤ r.1.length then .live (r.1.drop p, r.2) else .dead

theorem cstep_cafter {α} (r : List α × Outcome) (p : Nat) :
    cstep (cafter r p) = (nextObs r p, cafter r (p + 1)) := by
  unfold cafter nextObs
  by_cases h1 : p < r.1.length
  · have h2 : p ≤ r.1.length := by omega
    have h3 : p + 1 ≤ r.1.length := by omega
    simp only [h2, h3, if_true]
    rw [List.drop_eq_getElem_cons h1]
    simp [cstep, List.getElem?_eq_getElem h1]
  · by_cases h2 : p = r.1.length
    · subst h2
      simp [cstep]
    · have h3 : ¬ p ≤ r.1.length := by omega
      have h4 : ¬ p + 1 ≤ r.1.length := by omega
      have h5 : r.1[p]? = none := List.getElem?_eq_none (Nat.le_of_not_lt h1)
      simp [h3, h4, h5, h2, cstep]

/-- a frame of the described loop and the reduced frame it behaves like. A frame suspended at the `yield` of an accepted
body has either nothing of the body left or the increment (`okBodies`): in the second case the count is still one
behind. -/
def FrameRel {α} (c : Option Constraint) (sols : List α) : Frame α → CFrame α → Prop
  | .fresh, g => g = .live (loop c 0 sols)
  | .susp loc evs _ rest, g =>
      (evs = [] ∧ g = .live (loop c loc rest)) ∨ (evs = [.incr 1] ∧ g = .live (loop c (loc + 1) rest))
  | .done, g => g = .dead

theorem advance_ok {α} {s : LoopShape} (hs : ShapeOk s) (truth : α → Bool) (c : Option Constraint) (sols : List α)
    (k attr : Nat) (rest : List α) :
    ∃ g', cstep (.live (loop c k rest)) = ((advance s truth c k attr rest).1, g') ∧
      FrameRel c sols (advance s truth c k attr rest).2.1 g' ∧ (advance s truth c k attr rest).2.2 = attr := by
  have hc := hs.counter_eq
  cases rest with
  | nil =>
    simp only [advance, hs.final_eq, hc, List.filter, notYield, execEvs, rd, atEnd, loop, Nat.add_zero]
    cases assertOpt c k true <;> exact ⟨.dead, rfl, rfl, rfl⟩
  | cons x xs =>
    simp only [advance, hs.filter_eq, keeps, if_true, hc, loop]
    rcases okBodies_cases hs.body_mem with hb | hb | hb
    · -- count, check, yield: suspended with nothing of the body left
      rw [hb]
      simp only [execEvs, rd, wr, Nat.add_zero]
      cases assertOpt c (k + 1) false with
      | error e => exact ⟨.dead, rfl, rfl, by simp [atEnd, hc]⟩
      | ok u => exact ⟨.live (loop c (k + 1) xs), rfl, Or.inl ⟨rfl, rfl⟩, rfl⟩
    · -- check, count, yield: likewise
      rw [hb]
      simp only [execEvs, rd, wr]
      cases assertOpt c (k + 1) false with
      | error e => exact ⟨.dead, rfl, rfl, by simp [atEnd, hc]⟩
      | ok u => exact ⟨.live (loop c (k + 1) xs), rfl, Or.inl ⟨rfl, rfl⟩, rfl⟩
    · -- check, yield, count: suspended with the increment still to come
      rw [hb]
      simp only [execEvs, rd]
      cases assertOpt c (k + 1) false with
      | error e => exact ⟨.dead, rfl, rfl, by simp [atEnd, hc]⟩
      | ok u => exact ⟨.live (loop c (k + 1) xs), rfl, Or.inr ⟨rfl, rfl⟩, rfl⟩

theorem step_ok {α} {s : LoopShape} (hs : ShapeOk s) (truth : α → Bool) (c : Option Constraint) (sols : List α)
    (attr : Nat) (f : Frame α) (g : CFrame α) (hR : FrameRel c sols f g) :
    ∃ g', cstep g = ((step s truth c sols attr f).1, g') ∧
      FrameRel c sols (step s truth c sols attr f).2.1 g' ∧ (step s truth c sols attr f).2.2 = attr := by
  have hc := hs.counter_eq
  cases f with
  | done =>
    simp only [FrameRel] at hR
    subst hR
    exact ⟨.dead, rfl, rfl, rfl⟩
  | fresh =>
    simp only [FrameRel] at hR
    subst hR
    simp only [step, hc, hs.init_eq]
    exact advance_ok hs truth c sols 0 attr sols
  | susp loc evs cur rest =>
    simp only [FrameRel] at hR
    rcases hR with ⟨rfl, rfl⟩ | ⟨rfl, rfl⟩
    · simp only [step, execEvs]
      exact advance_ok hs truth c sols loc attr rest
    · simp only [step, hc, execEvs, rd, wr]
      exact advance_ok hs truth c sols (loc + 1) attr rest

/-- The invariant of a schedule: the frame of every evaluation `j` (a fresh one if it has none yet) is related to the
reduced frame of the model run after as many `next()` as `pos` records for `j`. -/
theorem sched_ok {α} {s : LoopShape} (hs : ShapeOk s) (truth : α → Bool) (c : Option Constraint) (sols : List α)
    (js : List Nat) : ∀ (frames : List (Nat × Frame α)) (pos : List (Nat × Nat)) (attr : Nat),
      (∀ j, FrameRel c sols ((frames.lookup j).getD .fresh) (cafter (run c sols) ((pos.lookup j).getD 0))) →
      interpSched s truth c sols js frames attr = interleaved c sols js pos := by
  induction js with
  | nil =>
    intros
    rfl
  | cons j rest ih =>
    intro frames pos attr hinv
    obtain ⟨g', h1, h2, h3⟩ := step_ok hs truth c sols attr _ _ (hinv j)
    -- the step shows what the model run shows at `j`'s position (`hobs`) and leaves `j`'s frame related to the next
    -- position (`hg`)
    rw [cstep_cafter] at h1
    have hobs := (Prod.mk.inj h1).1
    have hg := (Prod.mk.inj h1).2
    simp only [interpSched, interleaved]
    rw [← hobs, h3]
    congr 1
    apply ih
    intro i
    by_cases hij : i = j
    · subst hij
      simp only [List.lookup, beq_self_eq_true, Option.getD_some]
      rw [hg]
      exact h2
    · rw [lookup_cons_ne hij, lookup_cons_ne hij, lookup_filter_ne hij, lookup_filter_ne hij]
      exact hinv i

/-- Evaluations of ONE query node described by an accepted `LoopShape`, advanced in ANY
interleaved order `js`, whatever the node attribute holds: each evaluation's `p`-th `next()` shows what the `p`-th
`next()` of the model run alone shows (`Quant.interleaved`; the counter is not shared). -/
theorem C09_shape_ok_sched {α} {s : LoopShape} (hs : ShapeOk s) (truth : α → Bool) (c : Option Constraint)
    (sols : List α) (js : List Nat) (attr : Nat) :
    interpSched s truth c sols js [] attr = interleaved c sols js [] := by
  apply sched_ok hs truth c sols js [] [] attr
  intro j
  simp [FrameRel, cafter, run]

/-! ### Descriptions `ShapeOk` refuses

Run by the same interpreters they break the property; the observations are the ones the real code showed under the
corresponding seeded change. -/

/-- counter kept on the node, reset when an evaluation starts (seeded changes C03-m2, C02-r4m1) -/
def shapeAttrStart : LoopShape := { shape with counter := .attrResetAtStart }
/-- counter kept on the node, reset in a `finally` (seeded change C09-m1) -/
def shapeAttrEnd : LoopShape := { shape with counter := .attrResetAtEnd }

example : ¬ ShapeOk shapeAttrStart ∧ ¬ ShapeOk shapeAttrEnd := by decide

/-- alone, `shapeAttrStart` still evaluates like the model -/
example : interpLoop shapeAttrStart (fun _ => true) (some (.range 2 2)) [0, 1, 2] = run (some (.range 2 2)) [0, 1, 2] := by
  decide

/-- interleaved it does not: `(histi (range 2 2) 3 1 2 0 0 2 1 1 2 0 1 0)` under C03-m2 showed exactly this -/
example : interpSched shapeAttrStart (fun _ => true) (some (.range 2 2)) [0, 1, 2] [1, 2, 0, 0, 2, 1, 1, 2, 0, 1, 0] [] 0 =
    [(1, .value 0), (2, .value 0), (0, .value 0), (0, .value 1), (2, .finished (.err .greater)),
     (1, .finished (.err .greater)), (1, .exhausted), (2, .exhausted), (0, .finished (.err .greater)), (1, .exhausted),
     (0, .exhausted)] ∧
    interpSched shapeAttrStart (fun _ => true) (some (.range 2 2)) [0, 1, 2] [1, 2, 0, 0, 2, 1, 1, 2, 0, 1, 0] [] 0 ≠
      interleaved (some (.range 2 2)) [0, 1, 2] [1, 2, 0, 0, 2, 1, 1, 2, 0, 1, 0] [] := by decide

/-- `(histi (atMost 3) 2 1 2 2 0 2 2)` under C09-m1 -/
example : interpSched shapeAttrEnd (fun _ => true) (some (.atMost 3)) [0, 1] [1, 2, 2, 0, 2, 2] [] 0 =
    [(1, .value 0), (2, .value 0), (2, .value 1), (0, .finished (.err .greater)), (2, .finished .ok), (2, .exhausted)] ∧
    interleaved (some (.atMost 3)) [0, 1] [1, 2, 2, 0, 2, 2] [] =
    [(1, .value 0), (2, .value 0), (2, .value 1), (0, .value 0), (2, .finished .ok), (2, .exhausted)] := by decide

/-- the upper bound only looked at after the loop (body without incremental check): one result too many is yielded -/
example : interpLoop { shape with body := [.incr 1, .yield] } (fun _ => true) (some (.atMost 1)) [7, 8, 9] =
    ([7, 8, 9], .err .greater) ∧ spec (some (.atMost 1)) [7, 8, 9] = ([7], .err .greater) := by decide

/-- the check placed after the yield: the result that exceeds the bound is handed out before the error -/
example : interpLoop { shape with body := [.incr 1, .yield, .check 0 false] } (fun _ => true) (some (.atMost 1)) [7, 8, 9] =
    ([7, 8], .err .greater) := by decide

/-- only results flagged true are counted (seeded change C09-r3m1): solutions carried by results flagged false vanish -/
example : interpLoop { shape with filter := .onlyTrue } (fun x => x != 0) (some (.atLeast 2)) [3, 0] = ([3], .err .less) ∧
    spec (some (.atLeast 2)) [3, 0] = ([3, 0], .ok) := by decide

/-- the renaming of the count errors moved to `The.evaluate` (seeded change C09-r4m2): right at the root, wrong as an
operand -/
example : let s : LoopShape := { shape with the := { shape.the with site := .outer } }
    interpThe s (fun _ => true) false ([] : List Nat) = .raised .noSolution ∧
    interpThe s (fun _ => true) true ([] : List Nat) = .raised .less ∧
    interpThe s (fun _ => true) true [1, 2] = .raised .greater := by decide

end KrroodVerif.Quant
