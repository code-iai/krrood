import KrroodVerif.Model.DescriptorRules
import KrroodVerif.Props.C15
/-!
# C15 — the rule table

`interpRules tbl` reaches the closure for every table with `RulesOk`. A table whose rules are all guarded by "new",
recurse and do not look at `inferred` flags is `addGen` of the generators of its rules (`interp_g_eq_addGen`), so the
closure argument of `Props/C15.lean` applies to it; on the hand
table `rules` the interpreter IS `addFact` (`addFact_eq_interp`). `harness/translate/c15_translate.py` regenerates
the table from the Python source on every run and emits four obligations: `Translated.rules = rules`,
`Translated.proc = proc`, `RulesOk Translated.rules = true` (all by `decide`) and `C15_rules_order_independent`
instantiated with the translated table.
-/
namespace KrroodVerif.PD

/-! ### From a rule table to generators -/

/-- the candidates of a rule when no `inferred` flag is looked at -/
def Rule.gen (P : Sem) (ρ : Rule) : Gen := fun h r => ρ.candidates P ⟨h, []⟩ r false

/-- the rule looks at no `inferred` flag, neither the new relation's nor a neighbour's -/
def Rule.flagFree (ρ : Rule) : Bool :=
  !ρ.selfNotInferred && (match ρ.source with | .neighbours _ _ φ => !φ.notInferred | _ => true)

def Rule.plain (ρ : Rule) : Bool := ρ.guardNew && ρ.recurses && ρ.flagFree

theorem candidates_flagFree (P : Sem) (ρ : Rule) (hf : ρ.flagFree = true) (G : TGraph) (r : Fact) (b : Bool) :
    ρ.candidates P G r b = ρ.gen P G.g r := by
  obtain ⟨src, gn, nd, sni, s, t, f, ifl, rc⟩ := ρ
  simp only [Rule.flagFree, Bool.and_eq_true, Bool.not_eq_true'] at hf
  obtain ⟨h1, h2⟩ := hf
  subst h1
  cases src with
  | superRelations => rfl
  | inversePair => rfl
  | neighbours d e φ =>
    -- with `notInferred` off, the last conjunct of `NbFilter.ok` is `true` whatever the neighbour's flag
    obtain ⟨sd, sw, ls, lt, ni⟩ := φ
    simp only [Bool.not_eq_true'] at h2
    subst h2
    rfl

theorem foldl_id_mem {α β : Type} (F : α → β → α) (ts : List β) (h : ∀ a, ∀ b ∈ ts, F a b = a) (a : α) :
    ts.foldl F a = a :=
  List.foldlRecOn (motive := (· = a)) ts F rfl fun b hb x hx => (h b x hx).trans hb

theorem interp_g_eq_addGen (P : Sem) (tbl : List Rule) (hp : ∀ ρ ∈ tbl, ρ.plain = true) :
    ∀ n G r b, (interpRules P tbl n G r b).g = addGen (tbl.map (Rule.gen P)) n G.g r := by
  intro n
  induction n with
  | zero =>
    intro G r b
    rfl
  | succ n ih =>
    intro G r b
    unfold interpRules addGen
    by_cases hm : r ∈ G.g
    · simp only [hm, decide_true, if_true, Bool.and_true]
      -- a known relation: every rule is guarded by "new" and leaves the graph as it is
      rw [foldl_id_mem]
      intro H ρ hρ
      have := hp ρ hρ
      simp only [Rule.plain, Bool.and_eq_true] at this
      simp [this.1.1]
    · simp only [hm, decide_false, Bool.and_false, Bool.false_eq_true, if_false, List.foldl_map]
      refine foldl_proj_mem TGraph.g _ _ tbl (fun H ρ hρ => ?_) _
      have := hp ρ hρ
      simp only [Rule.plain, Bool.and_eq_true] at this
      obtain ⟨⟨_, hrec⟩, hff⟩ := this
      simp only [hrec, if_true]
      rw [candidates_flagFree P ρ hff]
      exact foldl_proj TGraph.g _ _ (fun a t => ih a t ρ.inferredFlag) _ _

/-! ### The four admissible derivations in closed form -/

/-- the generator of each admissible derivation -/
def kindGen (P : Sem) : Kind4 → Gen
  | .super => fun _ r => (P.sup r).map fun df => (df.2, df.1, r.2.2)
  | .inverse => fun _ r => (P.inv r).toList.map fun df => (df.2, df.1, r.2.1)
  | .transOut => outGen P.tr
  | .transIn => inGen P.tr

theorem gen_core (P : Sem) (ρ : Rule) : ρ.core.gen P = ρ.gen P := by
  obtain ⟨src, gn, nd, sni, s, t, f, ifl, rc⟩ := ρ
  cases src <;> rfl

theorem NbFilter.ok_sameDescriptor (b : Bool) (r q : Fact) :
    NbFilter.ok ⟨true, false, false, false, false⟩ b r q = (q.1 == r.1) := by
  show ((q.1 == r.1) && true && true) = _
  rw [Bool.and_true, Bool.and_true]

/-- a join that builds its relation with the neighbour's field builds it with the new relation's field -/
theorem map_filter_sameField (h : List Fact) (f : Nat) (c p : Fact → Bool) (F : Nat → Fact → Fact)
    (hc : ∀ q, c q = (q.1 == f)) :
    (h.filter fun q => c q && p q).map (fun q => F q.1 q) = (h.filter fun q => q.1 == f && p q).map fun q => F f q := by
  rw [funext hc]
  apply List.map_congr_left
  intro q hq
  simp only [List.mem_filter, Bool.and_eq_true, beq_iff_eq] at hq
  rw [hq.2.1]

theorem gen_coreRule (P : Sem) (k : Kind4) : (coreRule k).gen P = kindGen P k := by
  funext h r
  cases k
  · rfl
  · rfl
  -- the joins test `P.tr` first, as `outGen` / `inGen` do; past the test their neighbour filter is the same
  · show (if (Need.transitive == Need.transitive && !P.tr r.1) = true then [] else _) = outGen P.tr h r
    unfold outGen
    cases P.tr r.1
    · rfl
    · exact map_filter_sameField h r.1 _ (fun q => q.2.1 == r.2.2) (fun f q => (f, r.2.1, q.2.2))
        (NbFilter.ok_sameDescriptor _ r)
  · show (if (Need.transitive == Need.transitive && !P.tr r.1) = true then [] else _) = inGen P.tr h r
    unfold inGen
    cases P.tr r.1
    · rfl
    · exact map_filter_sameField h r.1 _ (fun q => q.2.2 == r.2.1) (fun f q => (f, q.2.1, r.2.2))
        (NbFilter.ok_sameDescriptor _ r)

theorem gen_of_isKind (P : Sem) (ρ : Rule) (k : Kind4) (h : ρ.isKind k = true) : ρ.gen P = kindGen P k := by
  simp only [Rule.isKind, decide_eq_true_eq] at h
  rw [← gen_core, h, gen_coreRule]

theorem plain_core (ρ : Rule) : ρ.core.plain = ρ.plain := by
  obtain ⟨src, gn, nd, sni, s, t, f, ifl, rc⟩ := ρ
  cases src <;> rfl

theorem plain_of_isKind (ρ : Rule) (k : Kind4) (h : ρ.isKind k = true) : ρ.plain = true := by
  simp only [Rule.isKind, decide_eq_true_eq] at h
  rw [← plain_core, h]
  cases k <;> rfl

theorem exists_kind_of_wf (ρ : Rule) (h : ρ.wf = true) : ∃ k, ρ.isKind k = true := by
  simp only [Rule.wf, Bool.or_eq_true] at h
  rcases h with ((h | h) | h) | h
  · exact ⟨_, h⟩
  · exact ⟨_, h⟩
  · exact ⟨_, h⟩
  · exact ⟨_, h⟩

theorem kindGen_sound (P : Sem) (k : Kind4) : Gen.Sound P.toRules (kindGen P k) := by
  cases k with
  | super => exact fun _ _ _ ht => Or.inl (List.mem_append_left _ ht)
  | inverse => exact fun _ _ _ ht => Or.inl (List.mem_append_right _ ht)
  | transOut => exact outGen_sound P.toRules
  | transIn => exact inGen_sound P.toRules

theorem rulesOk_parts {tbl : List Rule} (hok : RulesOk tbl = true) :
    (∀ ρ ∈ tbl, ρ.wf = true) ∧ ∀ k : Kind4, ∃ ρ ∈ tbl, ρ.isKind k = true := by
  simp only [RulesOk, Bool.and_eq_true, List.all_eq_true, List.any_eq_true] at hok
  obtain ⟨⟨⟨⟨h0, h1⟩, h2⟩, h3⟩, h4⟩ := hok
  refine ⟨h0, fun k => ?_⟩
  cases k
  · exact h1
  · exact h2
  · exact h3
  · exact h4

theorem plain_of_rulesOk {tbl : List Rule} (hok : RulesOk tbl = true) : ∀ ρ ∈ tbl, ρ.plain = true := by
  intro ρ hρ
  obtain ⟨k, hk⟩ := exists_kind_of_wf ρ ((rulesOk_parts hok).1 ρ hρ)
  exact plain_of_isKind ρ k hk

theorem gensOk_of_rulesOk (P : Sem) (tbl : List Rule) (hok : RulesOk tbl = true) :
    GensOk P.toRules (tbl.map (Rule.gen P)) := by
  obtain ⟨hwf, hk⟩ := rulesOk_parts hok
  have hmem : ∀ k, kindGen P k ∈ tbl.map (Rule.gen P) := by
    intro k
    obtain ⟨ρ, hρ, hk'⟩ := hk k
    rw [← gen_of_isKind P ρ k hk']
    exact List.mem_map_of_mem hρ
  refine ⟨?_, ?_, ⟨_, hmem .transOut, outGen_covers P.tr⟩, ⟨_, hmem .transIn, inGen_covers P.tr⟩⟩
  · intro γ hγ
    obtain ⟨ρ, hρ, rfl⟩ := List.mem_map.mp hγ
    obtain ⟨k, hk'⟩ := exists_kind_of_wf ρ (hwf ρ hρ)
    rw [gen_of_isKind P ρ k hk']
    exact kindGen_sound P k
  · intro r q hq
    rcases List.mem_append.mp hq with hq | hq
    · exact ⟨_, hmem .super, fun _ => hq⟩
    · exact ⟨_, hmem .inverse, fun _ => hq⟩

/-! ### The hand table -/

/-- the four generators of the hand table do what the three of `addFact` do: the unary rules are the super
relations followed by the inverse -/
theorem addGen_kindGens_eq_addFact (P : Sem) : ∀ n g r,
    addGen [kindGen P .super, kindGen P .inverse, kindGen P .transOut, kindGen P .transIn] n g r
      = addFact P.toRules n g r := by
  intro n
  induction n with
  | zero =>
    intro g r
    rfl
  | succ n ih =>
    intro g r
    have e : (fun h t => addGen [kindGen P .super, kindGen P .inverse, kindGen P .transOut, kindGen P .transIn] n h t)
        = fun h t => addGen P.toRules.gens n h t := by
      funext h t
      rw [ih, addFact_eq_addGen]
    rw [addFact_eq_addGen]
    unfold addGen
    simp only [e]
    simp only [Rules.gens, List.foldl_cons, List.foldl_nil, Sem.toRules, kindGen, List.foldl_append]

theorem rules_gens (P : Sem) :
    rules.map (Rule.gen P) = [kindGen P .super, kindGen P .inverse, kindGen P .transOut, kindGen P .transIn] := by
  simp only [rules, List.map_cons, List.map_nil]
  rw [gen_of_isKind P _ .super (by decide), gen_of_isKind P _ .inverse (by decide),
      gen_of_isKind P _ .transOut (by decide), gen_of_isKind P _ .transIn (by decide)]

theorem rules_ok : RulesOk rules = true := by decide +kernel

/-- The interpreter on the hand table `rules` computes, for every fuel, graph, relation and
flag, exactly the graph of the hand-written transcription `addFact` (unbounded; the `inferred` flags the interpreter
also keeps are not consulted by any rule of the table). -/
theorem addFact_eq_interp (P : Sem) (n : Nat) (G : TGraph) (r : Fact) (b : Bool) :
    (interpRules P rules n G r b).g = addFact P.toRules n G.g r := by
  rw [interp_g_eq_addGen P rules (plain_of_rulesOk rules_ok), rules_gens, addGen_kindGens_eq_addFact]

/-! ### The property for every admissible table -/

theorem runRules_g (P : Sem) (tbl : List Rule) (hok : RulesOk tbl = true) (fuel : Nat) (hist : List Fact) :
    (runRules P tbl fuel hist).g = runGen (tbl.map (Rule.gen P)) fuel hist := by
  unfold runRules runGen
  exact foldl_proj TGraph.g _ _ (fun a r => interp_g_eq_addGen P tbl (plain_of_rulesOk hok) fuel a r false) _ _

/-- For EVERY rule table with `RulesOk` (all four derivations present, each guarded by "new",
recursing through the full procedure, joins over all relations of the same descriptor class irrespective of
`inferred` flags; any order, any repetition), the interpreter reaches exactly the derivable closure of the asserted
relations. -/
theorem C15_rules_closure (P : Sem) (tbl : List Rule) (hok : RulesOk tbl = true) (U : List Fact)
    (hU : UClosed P.toRules U) (hist : List Fact) (hh : ∀ t ∈ hist, t ∈ U) (x : Fact) :
    x ∈ (runRules P tbl (U.length + 1) hist).g ↔ Derivable P.toRules (fun y => y ∈ hist) x := by
  rw [runRules_g P tbl hok]
  exact runGen_eq_closure P.toRules _ (gensOk_of_rulesOk P tbl hok) U hU hist hh x

theorem schemaSem_toRules (S : Schema) (W : World) : (schemaSem S W).toRules = schemaRules S W := by
  unfold Sem.toRules schemaSem schemaRules
  congr 1
  funext r
  simp only [uRule, List.map_append, List.map_map]
  congr 1
  -- super relations: of the source (the same term on both sides), then of its role taker
  · congr 1
    cases W.rtOf r.2.1 <;> simp [Function.comp_def]
  -- the inverse: `schemaSem` and `uRule` go through the same look-ups (target, then the target's role taker)
  · cases S.inverseOf (S.propOf r.1) with
    | none => rfl
    | some q =>
      simp only
      cases S.exactField (W.clsOf r.2.2) q with
      | some g => rfl
      | none =>
        simp only
        cases W.rtOf r.2.2 with
        | none => rfl
        | some x =>
          simp only
          cases S.exactField (W.clsOf x) q <;> rfl

theorem C15_rules_closure_schema (S : Schema) (W : World) (hW : W.WF) (tbl : List Rule) (hok : RulesOk tbl = true)
    (ops : List Op) (hin : InWorld S W ops) (x : Fact) :
    x ∈ (runRules (schemaSem S W) tbl (fuelFor S W) (asserted ops)).g ↔
      Derivable (schemaRules S W) (fun y => y ∈ asserted ops) x := by
  have hU : UClosed (schemaSem S W).toRules (allFacts S.fields.length W.size) := by
    rw [schemaSem_toRules]
    exact schema_UClosed S W hW
  have := C15_rules_closure (schemaSem S W) tbl hok _ hU (asserted ops) hin x
  rw [schemaSem_toRules] at this
  exact this

/-- Two histories that assert the same relations — every permutation, every
repetition — end with the same relations under every admissible rule table. -/
theorem C15_rules_order_independent (S : Schema) (W : World) (hW : W.WF) (tbl : List Rule) (hok : RulesOk tbl = true)
    (ops1 ops2 : List Op) (hin : InWorld S W ops1) (hsame : ∀ r, r ∈ asserted ops1 ↔ r ∈ asserted ops2) (x : Fact) :
    x ∈ (runRules (schemaSem S W) tbl (fuelFor S W) (asserted ops1)).g ↔
    x ∈ (runRules (schemaSem S W) tbl (fuelFor S W) (asserted ops2)).g := by
  have hin2 : InWorld S W ops2 := fun r hr => hin r ((hsame r).mpr hr)
  rw [C15_rules_closure_schema S W hW tbl hok ops1 hin, C15_rules_closure_schema S W hW tbl hok ops2 hin2]
  exact Derivable.congr hsame x

/-- Under every admissible table the interpreter ends with the relations of the
hand-written model `runModel` — the one the correspondence validates against the running code. -/
theorem C15_rules_agree_with_model (S : Schema) (W : World) (hW : W.WF) (tbl : List Rule) (hok : RulesOk tbl = true)
    (ops : List Op) (hin : InWorld S W ops) (x : Fact) :
    x ∈ (runRules (schemaSem S W) tbl (fuelFor S W) (asserted ops)).g ↔ x ∈ (runModel S W ops).g := by
  rw [C15_rules_closure_schema S W hW tbl hok ops hin]
  exact ⟨C15_closed S W hW ops hin x, C15_sound S W hW ops hin x⟩

example : RulesOk rules = true := rules_ok
/-- order and repetition of the rules are free -/
example : RulesOk (rules.reverse ++ rules) = true := by decide +kernel

/-- the joins skip relations flagged `inferred` (the change of seeded patch C15-r5m2) -/
def rulesSkipInferred : List Rule :=
  rules.map fun ρ => match ρ.source with
    | .neighbours d e φ => { ρ with source := .neighbours d e { φ with notInferred := true } }
    | _ => ρ

/-- `part_of` (field 0, transitive) ↔ `has_part` (field 1): one class, objects 0..2 -/
def exPartSem : Sem :=
  { sup := fun _ => [], inv := fun r => some (r.2.2, 1 - r.1), tr := fun f => f == 0 }

/-- that table is rejected, and it IS order dependent — `has_part(1,0)` stated before `part_of(1,2)` loses
`part_of(0,2)`, stated after it does not -/
theorem C15_rules_cex_skip_inferred :
    RulesOk rulesSkipInferred = false ∧
    (0, 0, 2) ∉ (runRules exPartSem rulesSkipInferred 19 [(1, 1, 0), (0, 1, 2)]).g ∧
    (0, 0, 2) ∈ (runRules exPartSem rulesSkipInferred 19 [(0, 1, 2), (1, 1, 0)]).g ∧
    (0, 0, 2) ∈ (runRules exPartSem rules 19 [(1, 1, 0), (0, 1, 2)]).g := by decide +kernel

/-- without the incoming join (or without recursion, or without the guard by "new") the table is rejected -/
example : RulesOk (rules.take 3) = false := by decide +kernel
example : RulesOk (rules.map fun ρ => { ρ with recurses := false }) = false := by decide +kernel
example : RulesOk (rules.map fun ρ => { ρ with guardNew := false }) = false := by decide +kernel

end KrroodVerif.PD
