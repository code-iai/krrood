import KrroodVerif.Lemmas.EqlTraceSubLemmas
/-!
# C10S — laziness with nested queries as operands

`Model/EqlTraceSub.lean` traces `x.a == an(entity(y, φ))`: `traceOperand`, `traceCmpX`, `traceX`, `traceQueryX`
(`the(...)` is modelled too, `theWalk`; the theorems here are about `an(...)`, i.e. `thes = []`, except
`C10S_pulled_mono`). This file relates it to the list model of the same fragment (`Model/EqlSub.lean`: `evalOperand`,
`evalX`, `evalQueryX`) and states what it says about laziness. All theorems are unbounded in the world, the domains, the
condition (any nesting of `and`/`or`/`not`, any number of sub-query operands, sub-query conditions with quantifiers),
the selection, the continuation and `k`.
-/
namespace KrroodVerif.Eql

/-! ## 1. what the consumer sees: the trace against the list model -/

/-- An operand (plain term or `an(...)` sub-query): the consumer-visible events of its trace are the
continuation applied to the list model's results, in order. -/
theorem C10S_operand_vis (w : World) (o : Operand) (env : Env) (k : Kont) (rs : List (Env × Val × Bool))
    (h : evalOperand w o env = .ok rs) :
    vis (traceOperand w [] o env k) = rs.flatMap fun r => vis (k r.1 r.2.1 r.2.2) := by
  cases o with
  | plain t => exact traceTerm_vis w false t env k rs h
  | sub id y c =>
    cases hx : env.lookup (.lit id) with
    | some x =>
      simp only [evalOperand, hx, Except.ok.injEq] at h
      subst h
      simp [traceOperand, hx]
    | none =>
      simp only [traceOperand, hx, List.contains_nil, Bool.false_eq_true, if_false]
      exact traceSubAn_vis w id y c env k rs hx h

/-- A condition with `an(...)` sub-query operands anywhere: the consumer-visible events of the trace are
the continuation applied to the list model's result cells, in order — the sub-queries themselves emit no row and no
exception. -/
theorem C10S_vis (w : World) (x : XExpr) (env : Env) (k : Env → Bool → List Ev)
    (rs : List (Env × Bool)) (h : evalX w x env = .ok rs) :
    vis (traceX w [] x env k) = rs.flatMap fun p => vis (k p.1 p.2) := by
  suffices H : Sim (traceX w [] x) (evalX w x) from H env rs h k
  clear h
  induction x with
  | base e => exact traceN_sim w e
  | cmpX op l r =>
    exact fun env rs h k =>
      cmp_vis (fun env k rs => C10S_operand_vis w _ env k rs) (fun env k rs => C10S_operand_vis w _ env k rs)
        (fun v1 v2 => applyCmp w op (if (!env.isEmpty && envHasAny env r.nodes) then v2 else v1)
          (if (!env.isEmpty && envHasAny env r.nodes) then v1 else v2)) env k rs h
  | and l r ihl ihr => exact Sim.and ihl ihr
  | elseIf l r ihl ihr => exact Sim.elseIf ihl ihr
  | union l r ihl ihr => exact Sim.union ihl ihr
  | not e ih => exact Sim.map ih (!·)

theorem C10S_query_vis (w : World) (sel : List Term) (x : XExpr) (rows : List (List Val))
    (h : evalQueryX w sel x = .ok rows) : vis (traceQueryX w [] sel x) = rows.map Ev.row := by
  unfold evalQueryX at h
  unfold traceQueryX
  simp only [bind_eq_ok] at h
  obtain ⟨rs, hrs, h⟩ := h
  rw [C10S_vis w x [] _ rs hrs]
  exact flatMap_cells_traceSel_vis w sel rs rows h

/-- The rows yielded by the demand-driven trace of a query with nested `an(...)` operands are exactly the
rows of the list model (`evalQueryX`), in order and with multiplicity, and no exception escapes. -/
theorem C10S_rows (w : World) (sel : List Term) (x : XExpr) (rows : List (List Val))
    (h : evalQueryX w sel x = .ok rows) :
    rowsOf (traceQueryX w [] sel x) = rows ∧ hasErr (traceQueryX w [] sel x) = false :=
  rows_of_vis (C10S_query_vis w sel x rows h)

/-- The consumer that stops after `k` results has performed a prefix of the events, has received the
first `k` rows of the list model, and nothing is evaluated before the first `next()`. -/
theorem C10S_prefix (w : World) (sel : List Term) (x : XExpr) (rows : List (List Val))
    (h : evalQueryX w sel x = .ok rows) (k : Nat) :
    uptoRow k (traceQueryX w [] sel x) <+: traceQueryX w [] sel x ∧
    rowsOf (uptoRow k (traceQueryX w [] sel x)) = rows.take k ∧
    uptoRow 0 (traceQueryX w [] sel x) = [] := by
  refine ⟨uptoRow_prefix k _, ?_, uptoRow_zero _⟩
  rw [rowsOf_uptoRow, (C10S_rows w sel x rows h).1]

/-- for any `thes`: `the(...)` sub-queries included -/
theorem C10S_pulled_mono (w : World) (thes : List Nat) (sel : List Term) (x : XExpr) (v : VarId) (k : Nat) :
    pulled v (uptoRow k (traceQueryX w thes sel x)) ≤ pulled v (uptoRow (k + 1) (traceQueryX w thes sel x)) ∧
    pulled v (uptoRow k (traceQueryX w thes sel x)) ≤ pulled v (traceQueryX w thes sel x) :=
  ⟨pulled_mono_prefix v (uptoRow_mono (Nat.le_succ k) _), pulled_mono_prefix v (uptoRow_prefix k _)⟩

/-! ## 2. bound variables -/

/-- Evaluating a condition with `an(...)` sub-query operands from bindings that contain `u`
never pulls an element of `u`'s domain, provided the consumer does not: a sub-query whose variable (or a variable of
whose condition) is bound by the enclosing query — a CORRELATED sub-query — reads that value and leaves the generator
alone; and once a sub-query has bound its variable nothing to its right re-enumerates it. -/
theorem C10S_never_pulls_bound (w : World) (u : VarId) (x : XExpr) (env : Env) (k : Env → Bool → List Ev)
    (hb : Bnd u env) (hk : ∀ e b, Bnd u e → NoPull u (k e b)) : NoPull u (traceX w [] x env k) :=
  (noPull_iff_allEv u _).2
    (traceX_inv (evInv_noPull w u) x env hb k fun e b he => (noPull_iff_allEv u _).1 (hk e b he))

/-- the inner variable of a sub-query that the enclosing query has bound costs no pull at all -/
theorem C10S_bound_inner_pulled_zero (w : World) (u : VarId) (x : XExpr) (env : Env) (hb : Bnd u env) :
    pulled u (traceX w [] x env cell) = 0 :=
  pulled_noPull u _ (C10S_never_pulls_bound w u x env cell hb fun _ _ _ i h => by simp [cell] at h)

/-! ## 3. streaming: independence of the sub-query's events from the enclosing query -/

/-- The trace of an `an(...)` sub-query under ANY continuation is the sub-query's OWN stream
(`subStream`: its pull/read/exception events with its results in place) with the enclosing query's events spliced in
at the results. So what the sub-query performs before handing out its `j`-th result is a prefix of its own stream that
does not depend on the enclosing query — and nothing of the stream AFTER a result (in particular no further pull of the
inner domain) is performed before the enclosing query is done with that result. -/
theorem C10S_streaming (w : World) (id : Nat) (y : VarId) (c : Option SExpr) (env : Env) (k : Kont) :
    traceSubAn w id y c env k = substCells (fun e _ => k e (subVal id e) true) (subStream w id y c env) := by
  have hg := substEv_keeps (fun e (_ : Bool) => k e (subVal id e) true)
  -- `inner` of `traceSubAn`: the splice keeps the pulls of `y` and turns each cell into the consumer's events for it
  have hin : ∀ e : Env,
      ((traceVar w true y e fun _ _ _ => []) ++
        (evalVar w y e).flatMap fun r => cell ((Key.lit id, r.2.1) :: r.1) true).flatMap
          (substEv fun e (_ : Bool) => k e (subVal id e) true) =
      (traceVar w true y e fun _ _ _ => []) ++
        (evalVar w y e).flatMap fun r => k ((Key.lit id, r.2.1) :: r.1) r.2.1 true := by
    intro e
    rw [List.flatMap_append, traceVar_flatMap hg, List.flatMap_assoc]
    simp only [List.flatMap_nil, substEv_cell, subVal_cons]
  unfold substCells subStream
  cases c with
  | none =>
    simp only [traceSubAn]
    exact (hin env).symm
  | some c =>
    simp only [traceSubAn]
    rw [traceN_flatMap hg]
    congr 1
    funext e t
    split
    · exact (hin e).symm
    · rfl

/-- Split the sub-query's own stream at its first result: `a` (no result in it), the result `r`,
the rest `b`. Under any enclosing query the trace is `a`, then the enclosing query's events for that result, then the
rest with the later results' events spliced in: when the enclosing query receives the first inner result exactly `a`
has been performed — nothing of `b`. -/
theorem C10S_inner_first (w : World) (id : Nat) (y : VarId) (c : Option SExpr) (env : Env) (k : Kont)
    (a b : List Ev) (r : List Val) (hs : subStream w id y c env = a ++ Ev.row r :: b) (ha : NoRow a) :
    traceSubAn w id y c env k =
      a ++ k (decCell r).1 (subVal id (decCell r).1) true ++
        substCells (fun e _ => k e (subVal id e) true) b := by
  rw [C10S_streaming, hs, substCells_append, substCells_cons_row, substCells_noRow _ a ha, List.append_assoc]

/-- If the enclosing query turns the FIRST inner result into a result of its own (its events for
it contain a row), then the consumer that stops after one result has performed `a` — the sub-query's own events up to
its first result — and the enclosing query's events up to that row, and NOTHING else: the elements of the inner
variable's domain pulled after the first result are those pulled in `a` and by the enclosing query itself; what the
rest `b` of the inner stream would pull (the remaining inner domain) has not been pulled. A sub-query that is solved
completely before its first result is handed out violates this equation (that is seeded change C10-r5m2). -/
theorem C10S_inner_pulls (w : World) (id : Nat) (y : VarId) (c : Option SExpr) (env : Env) (k : Kont)
    (a b : List Ev) (r : List Val) (hs : subStream w id y c env = a ++ Ev.row r :: b) (ha : NoRow a)
    (hrow : rowsOf (k (decCell r).1 (subVal id (decCell r).1) true) ≠ []) (v : VarId) :
    uptoRow 1 (traceSubAn w id y c env k) = a ++ uptoRow 1 (k (decCell r).1 (subVal id (decCell r).1) true) ∧
    pulled v (uptoRow 1 (traceSubAn w id y c env k)) ≤
      pulled v (a ++ k (decCell r).1 (subVal id (decCell r).1) true) := by
  have h1 : uptoRow 1 (traceSubAn w id y c env k) =
      a ++ uptoRow 1 (k (decCell r).1 (subVal id (decCell r).1) true) := by
    rw [C10S_inner_first w id y c env k a b r hs ha, List.append_assoc, uptoRow_noRow_append 0 a _ ha,
      uptoRow_one_append _ _ hrow]
  refine ⟨h1, ?_⟩
  rw [h1]
  exact pulled_mono_prefix v ((List.prefix_append_right_inj a).2 (uptoRow_prefix 1 _))

/-! ## 4. non-vacuity -/

section Tests

/-- three objects with `a = 0, 1, 2`; `x` ranges over them, the inner variable `y` over the integers `0, 1, 2` -/
def subWorld : World :=
  { objs := [⟨0, [("a", .int 0)], false⟩, ⟨0, [("a", .int 1)], false⟩, ⟨0, [("a", .int 2)], false⟩],
    doms := [(0, [.obj 0, .obj 1, .obj 2]), (1, [.int 0, .int 1, .int 2])] }

/-- `x.a == an(entity(y, y >= 0))` (uncorrelated) -/
def subCond : XExpr :=
  .cmpX .eq (.plain (.attr (.var 0) "a")) (.sub 101 1 (some (.cmp .ge (.var 1) (.lit 102 (.int 0)))))

/-- `x.a == an(entity(y, y == x.a))` (correlated) -/
def subCondCorr : XExpr :=
  .cmpX .eq (.plain (.attr (.var 0) "a")) (.sub 101 1 (some (.cmp .eq (.var 1) (.attr (.var 0) "a"))))

/-- Laziness is real in the model; hypotheses of `C10S_rows`/`C10S_prefix` satisfiable with 3 results: after the
first result ONE element of the inner domain has been pulled, (the second outer result comes after the inner
loop for the first outer value has run to its end: three); exhausting pulls three. -/
example :
    (evalQueryX subWorld [.var 0] subCond).toOption = some [[.obj 0], [.obj 1], [.obj 2]] ∧
    rowsOf (traceQueryX subWorld [] [.var 0] subCond) = [[.obj 0], [.obj 1], [.obj 2]] ∧
    pulled 1 (uptoRow 1 (traceQueryX subWorld [] [.var 0] subCond)) = 1 ∧
    pulled 1 (uptoRow 2 (traceQueryX subWorld [] [.var 0] subCond)) = 3 ∧
    pulled 1 (traceQueryX subWorld [] [.var 0] subCond) = 3 ∧
    pulled 0 (uptoRow 1 (traceQueryX subWorld [] [.var 0] subCond)) = 1 := by decide

/-- the same for the correlated sub-query and for `the(...)` (exactly one inner solution per outer value: no
exception, same rows, same pulls) -/
example :
    rowsOf (traceQueryX subWorld [] [.var 0] subCondCorr) = [[.obj 0], [.obj 1], [.obj 2]] ∧
    pulled 1 (uptoRow 1 (traceQueryX subWorld [] [.var 0] subCondCorr)) = 1 ∧
    traceQueryX subWorld [101] [.var 0] subCondCorr = traceQueryX subWorld [] [.var 0] subCondCorr ∧
    hasErr (traceQueryX subWorld [101] [.var 0] subCondCorr) = false := by decide

/-- `the(...)` over a sub-query with a second solution raises the moment the second one is produced (after the
first outer result was handed out), and `the(...)` without a solution raises at the end of the inner stream -/
example :
    hasErr (traceQueryX subWorld [101] [.var 0] subCond) = true ∧
    rowsOf (uptoRow 1 (traceQueryX subWorld [101] [.var 0] subCond)) = [[.obj 0]] ∧
    hasErr (uptoRow 1 (traceQueryX subWorld [101] [.var 0] subCond)) = false ∧
    hasErr (traceQueryX subWorld [101] [.var 0]
      (.cmpX .eq (.plain (.attr (.var 0) "a")) (.sub 101 1 (some (.cmp .ge (.var 1) (.lit 102 (.int 7))))))) = true := by
  decide

/-- the hypotheses of `C10S_inner_first` / `C10S_inner_pulls` are satisfiable: the sub-query's own stream from the
bindings `x = o0` starts with ONE pull and its first result, and more follows -/
example :
    let s := subStream subWorld 101 1 (some (.cmp .ge (.var 1) (.lit 102 (.int 0)))) [(.var 0, .obj 0)]
    s.take 1 = [Ev.pull 1 0] ∧ ((s.drop 1).head?.map Ev.isRow) = some true ∧ (s.drop 2).length = 4 ∧
    s = s.take 1 ++ (s.drop 1).headD (Ev.row []) :: s.drop 2 := by decide

/-- hypotheses of `C10S_never_pulls_bound`: `y` bound by the enclosing bindings — no pull of `y` -/
example : pulled 1 (traceX subWorld [] subCond [(.var 1, .int 1)] cell) = 0 ∧
    rowsOf (traceX subWorld [] subCond [(.var 1, .int 1)] cell) ≠ [] := by decide

end Tests

end KrroodVerif.Eql
