import KrroodVerif.Model.MutatorTable
import KrroodVerif.Props.C16
/-!
# C16: the mutator table

`Model/MutatorTable.lean` describes every public mutating method of `MonitoredList` / `MonitoredSet` and the
descriptor's `__set__` as a row of a table; `harness/translate/c16_translate.py` regenerates such a table from the
CURRENT source on every run and has the kernel check `normTable Translated.mutatorTable = normTable mutatorTable`.
Interpreting the hand-written table is `stepC … Quirks.none` (`C16_interp_eq_stepC`), so every table with the same normal
form meets the property: for the operations the property lists, contents = Python semantics and exactly the elements
that entered were recorded; for the removing operations outside its list, contents = Python semantics, nothing
recorded, nothing retracted.
-/
namespace KrroodVerif.PD

/-- the table has exactly one row for every public mutator of `list` and `set`, `_add_item` and `__set__` -/
theorem C16_table_total : tableTotal mutatorTable = true := by decide

theorem normTable_total : tableTotal (normTable mutatorTable) = true := by decide

theorem callNF_direct {t : NormTable} (isSet : Bool) {m : Meth} {g : Bool} {e : Elems} {st : StoreOp} {o : Order}
    (h : lookup t (clsOf isSet, m) = some (some ⟨g, .direct e st o⟩)) (key : Nat → Nat) (σ : CState) (a : MArg) :
    callNF t key isSet m σ a = applyDirect key isSet e st σ a := by
  simp only [callNF, h]

theorem callNF_inherited {t : NormTable} (isSet : Bool) {m : Meth} {g : Bool}
    (h : lookup t (clsOf isSet, m) = some (some ⟨g, .inherited⟩)) (key : Nat → Nat) (σ : CState) (a : MArg) :
    callNF t key isSet m σ a = (builtin key isSet m σ.c a).map fun c => ⟨c, σ.calls⟩ := by
  simp only [callNF, h]

theorem applyDirect_arg (key : Nat → Nat) (isSet : Bool) (τ : CState) (x : Nat) :
    applyDirect key isSet .arg (if isSet then .add else .append) τ (.elem x) =
      some (addItemC key Quirks.none isSet τ x) := by
  cases isSet <;> simp [applyDirect, handed, storeOf, addItemC, recorded_none]

theorem applyDirect_each (key : Nat → Nat) (isSet snap one : Bool) (τ : CState) (xs : List Nat) :
    applyDirect key isSet (.each snap) (if isSet then .add else .append) τ (.elems one xs) =
      some (xs.foldl (addItemC key Quirks.none isSet) τ) := by
  cases isSet <;> simp [applyDirect, handed, storeOf, foldl_addItemC, recorded_none]

theorem foldOpt_some {α β : Type} (f : β → α → Option β) (g : β → α → β) (h : ∀ b x, f b x = some (g b x)) :
    ∀ (xs : List α) (b : β), foldOpt f xs b = some (xs.foldl g b) := by
  intro xs
  induction xs with
  | nil =>
    intro b
    rfl
  | cons x xs ih =>
    intro b
    simp only [foldOpt, h, List.foldl_cons, ih]

/-! `normTable mutatorTable` is a closed term: below, the row of a mutator is found by evaluating `lookup` on it, inside the
`exact` or `show` that names what the row says. -/

theorem setterNF_eq (key : Nat → Nat) (isSet : Bool) (σ : CState) (v : Assigned) :
    setterNF (normTable mutatorTable) key isSet σ v = some (setterC key Quirks.none isSet σ v) := by
  cases isSet
  · cases v <;> exact foldOpt_some _ _ (applyDirect_arg key false) _ _
  · cases v <;> exact foldOpt_some _ _ (applyDirect_arg key true) _ _

theorem inplace_eq (key : Nat → Nat) (isSet : Bool) (σ : CState) (xs : List Nat) :
    callNF (normTable mutatorTable) key isSet (if isSet then .ior else .iadd) σ (.elems false xs) =
      some (inplaceC key Quirks.none isSet σ xs) := by
  cases isSet
  · exact applyDirect_each key false true false σ xs
  · exact applyDirect_each key true false false σ xs

/-- Interpreting the hand-written table IS the model of the code (all quirks off) that `C16_full` and `C16_two_full` are
about: for every operation applicable to the kind of field, every state and ALL argument values. -/
theorem C16_interp_eq_stepC (key : Nat → Nat) (isSet : Bool) (σ : CState) (op : COp)
    (happ : op.applicable isSet = true) :
    interp mutatorTable key isSet σ op = some (stepC key Quirks.none isSet σ op) := by
  -- `insert`, item and slice operations, `pop`: lists only; `discard`: sets only
  have hlist : (!isSet) = true → isSet = false := by simp
  cases op with
  | append x =>
    cases isSet
    · exact applyDirect_arg key false σ x
    · exact applyDirect_arg key true σ x
  | extend xs =>
    cases isSet
    · exact applyDirect_each key false true false σ xs
    · exact applyDirect_each key true false false σ xs
  | insert i x =>
    obtain rfl := hlist happ
    show applyDirect key false .arg .insert σ (.at i x) = _
    simp [applyDirect, handed, storeOf, stepC, recorded_none]
  | setitem i x =>
    obtain rfl := hlist happ
    show applyDirect key false (.argOrEach true) .setitem σ (.at i x) = _
    simp [applyDirect, handed, storeOf, stepC, recorded_none]
  | setslice i j one xs =>
    obtain rfl := hlist happ
    show applyDirect key false (.argOrEach true) .setitem σ (.slice i j one xs) = _
    simp [applyDirect, handed, storeOf, stepC, recorded_none, show Quirks.none.sliceBatchHook = false from rfl]
  | assign xs => exact setterNF_eq key isSet σ (.other xs)
  | assignSelf => exact setterNF_eq key isSet σ .same
  | assignView v => exact setterNF_eq key isSet σ (.lazyOf v)
  | iadd xs => simp only [interp, interpNF, inplace_eq, setterNF_eq, stepC]
  | iaddAlias xs => exact inplace_eq key isSet σ xs
  -- inherited rows: the plain `list` / `set` method
  | remove x =>
    cases isSet
    · rfl
    · rfl
  | discard x =>
    obtain rfl : isSet = true := happ
    rfl
  | pop i =>
    obtain rfl := hlist happ
    rfl
  | delitem i =>
    obtain rfl := hlist happ
    rfl
  | delslice i j =>
    obtain rfl := hlist happ
    rfl
  | clear =>
    cases isSet
    · rfl
    · rfl

/-- what the property says of ONE write operation interpreted from a table: from states in agreement the interpretation
is defined and agrees with the specification again — contents = Python list / set semantics, recorded = exactly what
entered -/
def TableMeetsProperty (t : MutatorTable) : Prop :=
  ∀ (key : Nat → Nat) (isSet : Bool) (m s : CState) (op : COp),
    CRel key isSet m s → op.applicable isSet = true →
    ∃ σ', interp t key isSet m op = some σ' ∧ CRel key isSet σ' (specStepC key isSet s op)

/-- The hand-written table meets the property, for every operation of the grammar (the ten the property lists and the
six removing ones) and ALL argument values. -/
theorem C16_table_hand_meets_property : TableMeetsProperty mutatorTable := by
  intro key isSet m s op h happ
  exact ⟨_, C16_interp_eq_stepC key isSet m op happ, stepC_none_rel h happ⟩

/-- Whatever table has the normal form of the hand-written one inherits the property
(used by the obligation regenerated from the source on every run). -/
theorem C16_of_table_norm_eq (t : MutatorTable) (h : normTable t = normTable mutatorTable) :
    TableMeetsProperty t := by
  intro key isSet m s op hr happ
  have := C16_table_hand_meets_property key isSet m s op hr happ
  -- `interp` reads a table only through its normal form
  simpa only [interp, h] using this

/-- a sequence of write operations interpreted from a table, undefined as soon as one step is -/
def runTable (t : MutatorTable) (key : Nat → Nat) (isSet : Bool) : List COp → CState → Option CState
  | [], σ => some σ
  | op :: ops, σ => match interp t key isSet σ op with | some τ => runTable t key isSet ops τ | none => none

/-- For every sequence of write operations (any length, any contents to start from): the run of a table with the
hand-written normal form is defined and ends in agreement with the specification. -/
theorem C16_table_run (t : MutatorTable) (h : normTable t = normTable mutatorTable) (key : Nat → Nat)
    (isSet : Bool) (ops : List COp) :
    ∀ (m s : CState), CRel key isSet m s → (∀ op ∈ ops, op.applicable isSet = true) →
      ∃ σ', runTable t key isSet ops m = some σ' ∧ CRel key isSet σ' (specC key isSet s ops) := by
  induction ops with
  | nil =>
    intro m s hr _
    exact ⟨m, rfl, hr⟩
  | cons op ops ih =>
    intro m s hr happ
    obtain ⟨τ, h1, h2⟩ := C16_of_table_norm_eq t h key isSet m s op hr (happ op List.mem_cons_self)
    obtain ⟨σ', h3, h4⟩ := ih τ _ h2 (fun o ho => happ o (List.mem_cons_of_mem _ ho))
    exact ⟨σ', by simp only [runTable, h1, h3], by simpa only [specC, List.foldl_cons] using h4⟩

/-! ### The interpreter on concrete tables -/

/-- F-C16-4 from the table: with `__iadd__` / `__ior__` inherited the element is stored and not recorded -/
example :
    interp mutatorTableNoInplace id true ⟨[1], [1]⟩ (.iaddAlias [4]) = some ⟨[1, 4], [1]⟩ ∧
    interp mutatorTable id true ⟨[1], [1]⟩ (.iaddAlias [4]) = some ⟨[1, 4], [1, 4]⟩ := by decide

/-- F-C16-1 / F-C16-3 from the table: a setter that clears before it reads, and walks `make_set(value)` -/
example :
    interp mutatorTableOldSetter id false ⟨[1, 2], [1, 2]⟩ .assignSelf = some ⟨[], [1, 2]⟩ ∧
    interp mutatorTableOldSetter id false ⟨[], []⟩ (.assign [3, 1, 3, 0]) = some ⟨[0, 1, 3], [0, 1, 3]⟩ ∧
    interp mutatorTable id false ⟨[1, 2], [1, 2]⟩ .assignSelf = some ⟨[1, 2], [1, 2, 1, 2]⟩ := by decide

/-- a table whose `append` does not reach the hook is NOT the normal form of the code -/
example :
    normTable (mutatorTable.map fun r => if r.1 == (.list, .append) then (r.1, ⟨false, .direct .nothing .append .recordFirst⟩) else r)
      ≠ normTable mutatorTable := by decide

/-- HOW a mutator reaches the hook is normalised away: `append` written out instead of calling `_add_item`,
`__iadd__` written as its own loop instead of delegating -/
example :
    normTable (mutatorTable.map fun r =>
        if r.1 == (.list, .append) then (r.1, ⟨false, .direct .arg .append .recordFirst⟩)
        else if r.1 == (.list, .iadd) then (r.1, ⟨false, .viaAddItem (.each true)⟩) else r)
      = normTable mutatorTable := by decide

/-- a run of `runTable` on the hand-written table: adding, removing, slice and self-assigning operations of a list -/
example :
    let ops : List COp := [.extend [1, 2, 3], .remove 2, .iadd [2, 4], .pop none, .delitem 0, .setslice (some 0) (some 1) true [5, 6],
      .assignSelf, .delslice (some 1) none, .clear, .append 7]
    (∀ op ∈ ops, op.applicable false = true) ∧
    runTable mutatorTable id false ops ⟨[], []⟩ = some ⟨[7], [1, 2, 3, 2, 4, 1, 3, 2, 4, 5, 6, 5, 6, 2, 7]⟩ ∧
    specC id false ⟨[], []⟩ ops = ⟨[7], [1, 2, 3, 2, 4, 5, 6, 7]⟩ := by decide

end KrroodVerif.PD
