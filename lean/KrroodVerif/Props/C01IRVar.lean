import KrroodVerif.Props.C01IROr
/-!
C01 (c01b) — `runIR irTable` against `eval`: the node lemma and leaf theorems of `Props/C01IROr.lean` at
`condPos = true`, the fragments on which the agreement holds without hypotheses (`IRFrag2`, with variables and literals
as conditions, and `IRFrag` inside it), and examples on a concrete world.
-/
open KrroodVerif.Eql KrroodVerif.Eql.IR
namespace KrroodVerif.Eql.IR

/-- `ndKey` at `condPos = true`: the node `runIRTerm` builds for a variable / literal used as a condition -/
def ndKeyC (cls : String) (k : Key) (d : List Val) : Node :=
  { cls := cls, keyOf := fun | .self => some k | _ => none, condPos := true, domain := some d }

theorem ok_bind {α β} (a : α) (f : α → R β) : (Except.ok a >>= f) = f a := rfl

/-- `Variable._evaluate__` (also `Literal`) for a node used as a CONDITION: a bound value is flagged with its truthiness -/
theorem runNode_keyC (cls : String) (hfind : irTable.find cls "_evaluate__" = some mVar) (k : Key) (d : List Val)
    (w : World) (env : Env) :
    runNode irTable (ndKeyC cls k d) w env = .ok (match env.lookup k with
      | some x => [(env, x, truthy x)]
      | none => d.map fun x => ((k, x) :: env, x, true)) := by
  cases hx : env.lookup k with
  | some x => exact runNode_var_bound (ndKeyC cls k d) hfind rfl w hx
  | none => exact runNode_var_unbound (ndKeyC cls k d) hfind rfl rfl w hx

theorem C01_runIRTerm_var_cond (w : World) (v : VarId) (env : Env) :
    runIRTerm irTable w true (.var v) env = liftE (evalTerm w true (.var v) env) :=
  C01_runIRTerm_var w true v env

theorem C01_runIRTerm_lit_cond (w : World) (id : VarId) (x : Val) (env : Env) :
    runIRTerm irTable w true (.lit id x) env = liftE (evalTerm w true (.lit id x) env) :=
  C01_runIRTerm_lit w true id x env

/-- a fragment, containing `IRFrag`, on which `runIR irTable = eval` holds WITHOUT hypotheses: variables / literals as
conditions and `HasType` of a variable or a literal, under `not_` / `and_` / `or_` (both forms) -/
inductive IRFrag2 : Expr → Prop where
  | truthVar (v : VarId) : IRFrag2 (.truth (.var v))
  | truthLit (id : VarId) (x : Val) : IRFrag2 (.truth (.lit id x))
  | hasTypeVar (v : VarId) (c : Nat) : IRFrag2 (.hasType (.var v) c)
  | hasTypeLit (id : VarId) (x : Val) (c : Nat) : IRFrag2 (.hasType (.lit id x) c)
  | not {e} (h : IRFrag2 e) : IRFrag2 (.not e)
  | and {l r} (hl : IRFrag2 l) (hr : IRFrag2 r) : IRFrag2 (.and l r)
  | elseIf {l r} (hl : IRFrag2 l) (hr : IRFrag2 r) : IRFrag2 (.elseIf l r)
  | union {l r} (hl : IRFrag2 l) (hr : IRFrag2 r) : IRFrag2 (.union l r)

/-- PARTIAL form of `∀ e env, runIR irTable w e env = liftE (eval w e env)`: proved on `IRFrag2`, for every world and every
environment (missing: `Comparator`, attribute / index / flatten terms, `Exists`, `ForAll`) -/
theorem C01_runIR_eq_eval_frag2_partial (w : World) : ∀ e, IRFrag2 e → ∀ env, runIR irTable w e env = liftE (eval w e env) := by
  obtain ⟨hnot, hand, helse, hunion⟩ := C01_runIR_eq_eval_connectives_partial w
    (fun e => ∀ env, runIR irTable w e env = liftE (eval w e env)) fun _ => Iff.rfl
  intro e h
  induction h with
  | truthVar v => exact fun env => C01_runIR_eq_eval_truth_partial w _ env (C01_runIRTerm_var_cond w v env)
  | truthLit id x => exact fun env => C01_runIR_eq_eval_truth_partial w _ env (C01_runIRTerm_lit_cond w id x env)
  | hasTypeVar v c => exact fun env => C01_runIR_eq_eval_hasType_partial w _ c env (C01_runIRTerm_var_operand w v env)
  | hasTypeLit id x c => exact fun env => C01_runIR_eq_eval_hasType_partial w _ c env (C01_runIRTerm_lit_operand w id x env)
  | not _ ih => exact hnot _ ih
  | and _ _ ihl ihr => exact hand _ _ ihl ihr
  | elseIf _ _ ihl ihr => exact helse _ _ ihl ihr
  | union _ _ ihl ihr => exact hunion _ _ ihl ihr

example : IRFrag2 (.and (.truth (.var 0)) (.union (.not (.truth (.var 1))) (.hasType (.var 0) 2))) :=
  .and (.truthVar 0) (.union (.not (.truthVar 1)) (.hasTypeVar 0 2))

/-- a fragment on which `runIR irTable = eval` holds WITHOUT hypotheses: `HasType` of a variable or a literal under
`not_` / `and_` / `or_` (both forms) -/
inductive IRFrag : Expr → Prop where
  | hasTypeVar (v : VarId) (c : Nat) : IRFrag (.hasType (.var v) c)
  | hasTypeLit (id : VarId) (x : Val) (c : Nat) : IRFrag (.hasType (.lit id x) c)
  | not {e} (h : IRFrag e) : IRFrag (.not e)
  | and {l r} (hl : IRFrag l) (hr : IRFrag r) : IRFrag (.and l r)
  | elseIf {l r} (hl : IRFrag l) (hr : IRFrag r) : IRFrag (.elseIf l r)
  | union {l r} (hl : IRFrag l) (hr : IRFrag r) : IRFrag (.union l r)

theorem IRFrag.frag2 {e : Expr} (h : IRFrag e) : IRFrag2 e := by
  induction h with
  | hasTypeVar v c => exact .hasTypeVar v c
  | hasTypeLit id x c => exact .hasTypeLit id x c
  | not _ ih => exact .not ih
  | and _ _ ihl ihr => exact .and ihl ihr
  | elseIf _ _ ihl ihr => exact .elseIf ihl ihr
  | union _ _ ihl ihr => exact .union ihl ihr

/-- PARTIAL form of `∀ e env, runIR irTable w e env = liftE (eval w e env)`: proved for the fragment `IRFrag`, every
world, every environment (missing here: terms as conditions, which `IRFrag2` adds; missing in both: `Comparator`,
attribute / index / flatten terms, `Exists`, `ForAll` — validated by the driver cross-check on every case) -/
theorem C01_runIR_eq_eval_frag_partial (w : World) : ∀ e, IRFrag e → ∀ env, runIR irTable w e env = liftE (eval w e env) :=
  fun e h => C01_runIR_eq_eval_frag2_partial w e h.frag2

example : IRFrag (.union (.and (.hasType (.var 0) 1) (.not (.hasType (.var 1) 2))) (.elseIf (.hasType (.lit 7 (.int 3)) 1) (.hasType (.var 0) 2))) :=
  .union (.and (.hasTypeVar 0 1) (.not (.hasTypeVar 1 2))) (.elseIf (.hasTypeLit 7 (.int 3) 1) (.hasTypeVar 0 2))

/-! ### the step theorems on a concrete world -/

example : runIR irTable w0 (.and (.truth (.var 0)) (.not (.truth (.var 0)))) []
    = liftE (eval w0 (.and (.truth (.var 0)) (.not (.truth (.var 0)))) []) :=
  C01_runIR_eq_eval_and_partial w0 _ _ _ leaf0 fun _ _ p _ _ =>
    C01_runIR_eq_eval_not_partial w0 _ _ (C01_runIR_eq_eval_truth_partial w0 _ _ (C01_runIRTerm_var_cond w0 0 p.1))

example : runIR irTable w0 (.elseIf (.not (.truth (.var 0))) (.truth (.var 0))) []
    = liftE (eval w0 (.elseIf (.not (.truth (.var 0))) (.truth (.var 0))) []) :=
  C01_runIR_eq_eval_elseIf_partial w0 _ _ _ (C01_runIR_eq_eval_not_partial w0 _ _ leaf0) fun _ _ p _ _ =>
    C01_runIR_eq_eval_truth_partial w0 _ _ (C01_runIRTerm_var_cond w0 0 p.1)

example : runIR irTable w0 (.union (.not (.truth (.var 0))) (.truth (.var 0))) []
    = liftE (eval w0 (.union (.not (.truth (.var 0))) (.truth (.var 0))) []) :=
  C01_runIR_eq_eval_union_partial w0 _ _ _ (C01_runIR_eq_eval_not_partial w0 _ _ leaf0)
    (fun _ _ p _ _ => C01_runIR_eq_eval_truth_partial w0 _ _ (C01_runIRTerm_var_cond w0 0 p.1)) leaf0

example : runIRTerm irTable w0 false (.var 0) [] = liftE (evalTerm w0 false (.var 0) []) :=
  C01_runIRTerm_var_operand w0 0 []

example : runIR irTable w0 (.hasType (.var 0) 3) [] = liftE (eval w0 (.hasType (.var 0) 3) []) :=
  C01_runIR_eq_eval_hasType_partial w0 _ _ _ (C01_runIRTerm_var_operand w0 0 [])

example : runIR irTable w0 (.truth (.var 0)) [] = liftE (eval w0 (.truth (.var 0)) []) :=
  leaf0

end KrroodVerif.Eql.IR
