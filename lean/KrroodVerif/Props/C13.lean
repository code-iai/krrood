import KrroodVerif.Lemmas.SymbolGraphAbs
/-!
# C13 — domain-less variables range over exactly the live instances of their type

The invariant `SG.Inv` of the registry (Lemmas/SymbolGraphInv.lean) is preserved by every operation of a history, for EVERY
valid node-index allocator, every `id()` assignment and every setting of the quirk flags (`step_sims`, the one case analysis
of `step`, which also says how the heap moves and that the operation is the specification's `specStep` at the level of
objects; `add_to_graph` by the walk through the inference of Lemmas/SymbolGraphAbs.lean); from it the census theorems, for the
registry after a sweep and for a query object evaluated for the first time. The allocators of the model are valid; the
witnesses of F-C13-1 and F-C13-2.
-/

namespace KrroodVerif.SG

variable {σ : Type}

theorem C13_inv_init (q : Quirks) (a : Alloc σ) : Inv q (St.init a) :=
  Inv.empty a Heap.empty false false false false rfl nofun nofun nofun nofun fun _ => rfl

@[simp] theorem register_live (h : Heap) (o : Obj) : (h.register o).live = h.live := rfl

@[simp] theorem register_used (h : Heap) (o : Obj) : (h.register o).used = h.used := rfl

@[simp] theorem register_fields (h : Heap) (o : Obj) : (h.register o).fields = h.fields := rfl

@[simp] theorem updateValue_live (S : Schema) (h : Heap) (f : Fld) (s t : Obj) :
    (h.updateValue S f s t).live = h.live := rfl

@[simp] theorem updateValue_used (S : Schema) (h : Heap) (f : Fld) (s t : Obj) :
    (h.updateValue S f s t).used = h.used := rfl

@[simp] theorem updateValue_epoch (S : Schema) (h : Heap) (f : Fld) (s t : Obj) :
    (h.updateValue S f s t).epoch = h.epoch := rfl

theorem Inv.collect {q q' : Quirks} {st : St σ} (hI : Inv q st) :
    Inv q { st with h := st.h.collect q' } := hI.heap_sub _ (fun _ => mem_collect_live) rfl rfl

/-! ### `add_to_graph` -/

theorem Inv.addFact {q : Quirks} (S : Schema) {a : Alloc σ} (ha : a.Valid) :
    ∀ (fuel : Nat) (st : St σ) (f : Fld) (ws wt : W) (inf : Bool),
    Inv q st → ws ∈ st.g.nodes → wt ∈ st.g.nodes → Keeps q st (SG.addFact q S a fuel st f ws wt inf) :=
  fun fuel st f ws wt inf hI hs ht =>
    (sims_addFact (L := False) S ha fuel st f ws wt inf hI ⟨hs, False.elim⟩ ⟨ht, False.elim⟩).keeps

/-! ### one operation, a history -/

theorem step_sweep (q : Quirks) (S : Schema) (a : Alloc σ) (st : St σ) (he : st.err = false) :
    step q S a st .sweep = { st with g := sweep q a st.g st.h.isLive } := by
  unfold step
  simp only [he, Bool.false_eq_true, ↓reduceIte]

theorem step_sweep_heap (q : Quirks) (S : Schema) (a : Alloc σ) (st : St σ) : (step q S a st .sweep).h = st.h := by
  unfold step
  split
  · rfl
  · rfl

theorem step_mkq_graph (q : Quirks) (S : Schema) (a : Alloc σ) (st : St σ) (k : Nat) (c : Cls)
    (dom : Option (List Obj)) : (step q S a st (.mkq k c dom)).g = st.g := by
  unfold step
  split
  · rfl
  · dsimp only
    split
    · rfl
    · rfl

theorem step_mkq (q : Quirks) (S : Schema) (a : Alloc σ) {st : St σ} (k : Nat) (c : Cls) (dom : Option (List Obj))
    (he : st.err = false) (hk : st.h.qvars.any (fun v => v.key == k) = false) :
    step q S a st (.mkq k c dom) =
      { st with h := { st.h with
          qvars := st.h.qvars ++ [⟨k, c, dom.isSome,
            dom.map (fun d => d.filter (fun o => (st.h.find o).any (fun x => (S.below c).contains x.cls))), true⟩],
          exprs := st.h.exprs + 1 } } := by
  unfold step
  simp only [he, hk, Bool.false_eq_true, ↓reduceIte]

theorem step_evalq (q : Quirks) (S : Schema) (a : Alloc σ) {st : St σ} {k : Nat} {v : QVar} (he : st.err = false)
    (hf : st.h.qvars.find? (fun v => v.key == k) = some v) :
    step q S a st (.evalq k) =
      { st with g := sweep q a st.g st.h.isLive,
                h := (st.h.recordEval S k v (evalQuery q S (sweep q a st.g st.h.isLive) v)).collect q } := by
  unfold step
  simp only [he, hf, Bool.false_eq_true, ↓reduceIte]

/-- what a transition may do to the heap: no `clear` (the epoch only grows), no resurrection, labels stay used -/
structure HeapAdm (h h' : Heap) : Prop where
  epoch : ∀ o ∈ h.epoch, o ∈ h'.epoch
  live : ∀ x ∈ h'.live, x ∈ h.live ∨ x.obj ∉ h.used
  used : ∀ o ∈ h.used, o ∈ h'.used

theorem HeapAdm.refl (h : Heap) : HeapAdm h h := ⟨fun _ h => h, fun _ h => Or.inl h, fun _ h => h⟩

theorem HeapAdm.trans {h1 h2 h3 : Heap} (a : HeapAdm h1 h2) (b : HeapAdm h2 h3) : HeapAdm h1 h3 := by
  refine ⟨fun o ho => b.epoch o (a.epoch o ho), ?_, fun o ho => b.used o (a.used o ho)⟩
  intro x hx
  rcases b.live x hx with h | h
  · exact a.live x h
  · exact Or.inr (fun hu => h (a.used _ hu))

theorem HeapAdm.shrink {h h' : Heap} (hl : ∀ x ∈ h'.live, x ∈ h.live) (hu : ∀ o ∈ h.used, o ∈ h'.used)
    (he : ∀ o ∈ h.epoch, o ∈ h'.epoch) : HeapAdm h h' := ⟨he, fun x hx => Or.inl (hl x hx), hu⟩

theorem HeapAdm.collect (q : Quirks) (h : Heap) : HeapAdm h (h.collect q) :=
  HeapAdm.shrink (fun _ => mem_collect_live) (fun _ h => h) (fun _ h => h)

theorem HeapAdm.register (h : Heap) (o : Obj) : HeapAdm h (h.register o) :=
  HeapAdm.shrink (fun _ hx => hx) (fun _ h => h) (fun o' ho => (mem_register h o o').2 (Or.inl ho))

theorem HeapAdm.frame {st st' : St σ} (f : Frame st st') : HeapAdm st.h st'.h :=
  HeapAdm.shrink (fun _ hx => f.live ▸ hx) (fun _ ho => f.used ▸ ho) (fun o ho => f.epoch o ho)

theorem HeapAdm.of_eq {h h' : Heap} (hl : h'.live = h.live) (hu : h'.used = h.used) (he : h'.epoch = h.epoch) :
    HeapAdm h h' :=
  HeapAdm.shrink (fun _ hx => hl ▸ hx) (fun _ ho => hu ▸ ho) (fun _ ho => he ▸ ho)

theorem HeapAdm.create {h h' : Heap} {n : HObj} {pid : Nat}
    (hg : (h.used.contains n.obj || h.live.any (fun x => x.pid == pid)) = false) (hl : h'.live = h.live ++ [n])
    (hu : h'.used = h.used ++ [n.obj]) (he : h'.epoch = h.epoch ++ [n.obj]) : HeapAdm h h' := by
  refine ⟨fun o ho => he ▸ List.mem_append_left _ ho, fun x hx => ?_, fun o ho => hu ▸ List.mem_append_left _ ho⟩
  rcases List.mem_append.1 (hl ▸ hx) with hx | hx
  · exact Or.inl hx
  · exact Or.inr (List.mem_singleton.1 hx ▸ (fresh_of_guard hg).1)

/-- `st'` comes from `st` by one operation of a history, or by a piece of one in which instances may die (which a piece of
`add_to_graph`, `Sims`, excludes): the registry stays consistent; under `C` (the operation is no `clear`) the heap moves
admissibly; and, unless something stale or dead was hit, `st'` shows `b` -/
structure StepSims (q : Quirks) (C : Prop) (st st' : St σ) (b : Spec) : Prop where
  inv : Inv q st'
  adm : C → HeapAdm st.h st'.h
  abs : OK q st' → OK q st ∧ st'.abs = b

theorem StepSims.of_sims {q : Quirks} {C : Prop} {st st' : St σ} {b : Spec} (h : Sims q True st st' b) :
    StepSims q C st st' b :=
  ⟨h.keeps.inv, fun _ => HeapAdm.frame h.keeps.frame, h.abs trivial⟩

theorem StepSims.skip {q : Quirks} {C : Prop} {st : St σ} (hI : Inv q st) : StepSims q C st st st.abs :=
  .of_sims (.refl hI)

/-- `G` is what the specification does in the second piece -/
theorem StepSims.trans {q : Quirks} {C : Prop} {s1 s2 s3 : St σ} {b : Spec} (h1 : StepSims q C s1 s2 b)
    (G : Spec → Spec) (h2 : StepSims q C s2 s3 (G s2.abs)) : StepSims q C s1 s3 (G b) := by
  refine ⟨h2.inv, fun hc => (h1.adm hc).trans (h2.adm hc), fun hok => ?_⟩
  have r2 := h2.abs hok
  have r1 := h1.abs r2.1
  exact ⟨r1.1, by rw [r2.2, r1.2]⟩

/-- the model tests `err` where the specification tests nothing: a state in which an operation raised is not `OK` -/
theorem StepSims.unless_err {q : Quirks} {C : Prop} {st X : St σ} {b : Spec} (hI : Inv q st)
    (h : StepSims q C st X b) : StepSims q C st (if st.err then st else X) b := by
  split
  · rename_i herr
    exact .of_sims (.of_err hI herr b)
  · exact h

theorem StepSims.guard {q : Quirks} {C : Prop} (c : Bool) {st X : St σ} {Y : Spec} (hI : Inv q st)
    (h : c = false → StepSims q C st X Y) : StepSims q C st (if c then st else X) (if c then st.abs else Y) := by
  cases c with
  | true => exact .skip hI
  | false => exact h rfl

theorem StepSims.sweep {q : Quirks} {C : Prop} {a : Alloc σ} {st : St σ} (hI : Inv q st) :
    StepSims q C st { st with g := SG.sweep q a st.g st.h.isLive } st.abs :=
  ⟨hI.sweep, fun _ => HeapAdm.refl _, fun hok => ⟨hok, abs_sweep hI⟩⟩

theorem StepSims.heap {q : Quirks} {C : Prop} {st : St σ} (hI : Inv q st) (h1 : Heap) (hl : h1.live = st.h.live)
    (hu : h1.used = st.h.used) (he : h1.epoch = st.h.epoch) :
    StepSims q C st { st with h := h1 } { st.abs with h := h1 } :=
  ⟨hI.heap_irrelevant h1 hl hu he, fun _ => HeapAdm.of_eq hl hu he, fun hok => ⟨hok, abs_heap st h1 hl⟩⟩

/-- what dies in the collection leaves registry and relation graph of the specification at once (`prune`) -/
theorem StepSims.release {q : Quirks} {C : Prop} {st : St σ} (hI : Inv q st) (h1 : Heap) (hl : h1.live = st.h.live)
    (hu : h1.used = st.h.used) (he : h1.epoch = st.h.epoch) :
    StepSims q C st { st with h := h1.collect q } ({ st.abs with h := h1.collect q } : Spec).prune :=
  ⟨(hI.heap_irrelevant h1 hl hu he).collect, fun _ => (HeapAdm.of_eq hl hu he).trans (HeapAdm.collect q h1),
    fun hok => ⟨hok, abs_collect q st h1 hl⟩⟩

theorem StepSims.create {q : Quirks} {C : Prop} {a : Alloc σ} (ha : a.Valid) {st : St σ} (hI : Inv q st) {o : Obj}
    {c : Cls} {pid : Nat} (hg : (st.h.used.contains o || st.h.live.any (fun x => x.pid == pid)) = false) (h' : Heap)
    (hl : h'.live = st.h.live ++ [⟨o, c, pid⟩]) (hu : h'.used = st.h.used ++ [o])
    (he : h'.epoch = st.h.epoch ++ [o]) :
    StepSims q C st { st with g := (SG.addNode a st.g o c pid).1, h := h' }
      { st.abs with reg := st.abs.reg ++ [⟨o, c⟩], h := h' } :=
  ⟨hI.create ha hg h' hl hu he, fun _ => HeapAdm.create (n := ⟨_, _, _⟩) hg hl hu he,
    fun hok => ⟨hok, abs_new hI o c pid (fresh_of_guard hg).1 h' hl⟩⟩

/-- a descriptor-managed assignment to a container field: `_on_add` (both ends wrapped, `add_to_graph`), then the item goes
into the container unless the relation raised -/
theorem stepSims_set_container {q : Quirks} {C : Prop} {S : Schema} {a : Alloc σ} (ha : a.Valid) {st : St σ}
    (hI : Inv q st) (f : Fld) (s t : Obj) {xs xt : HObj} (hs : xs ∈ st.h.live) (ht : xt ∈ st.h.live) :
    let p := SG.ensure2 a st xs xt
    let st3 := SG.addFact q S a S.fuel p.1 f p.2.1 p.2.2 false
    let B := ((st.abs.ensure xs).ensure xt).assert S f ⟨xs.obj, xs.cls⟩ ⟨xt.obj, xt.cls⟩
    StepSims q C st (if st3.err then st3 else { st3 with h := (st3.h.write S f s t).collect q })
      ({ B with h := (B.h.write S f s t).collect q } : Spec).prune := by
  intro p st3 B
  have h1 : StepSims q C st st3 B := .of_sims (sims_wrapAssert S ha hI f hs ht)
  exact h1.trans (fun b => ({ b with h := (b.h.write S f s t).collect q } : Spec).prune)
    (.unless_err h1.inv (.release h1.inv _ (write_live ..) (write_used ..) (write_epoch ..)))

/-- ONE case analysis of `step` for all that is asked of an operation of a history: the registry stays consistent; `clear`
apart, the heap moves admissibly; and the operation commutes with `abs` — the model does what the index-free specification
`specStep` does — unless an existence check was answered by a stale entry or the transitive inference met a dead end -/
theorem step_sims (q : Quirks) (S : Schema) (a : Alloc σ) (ha : a.Valid) (st : St σ) (op : Op) (hI : Inv q st) :
    StepSims q (op ≠ .clear) st (step q S a st op) (specStep q S st.abs op) := by
  unfold step specStep
  -- `step` and `specStep` branch alike, so each alternative is one of the `StepSims` lemmas above, or a chain of them
  refine .unless_err hI ?_
  cases op with
  | new o c pid => exact .guard _ hI fun hc => .create ha hI hc _ rfl rfl rfl
  | drop o => exact .release hI _ rfl rfl rfl
  | sweep => exact .sweep hI
  | clear => exact ⟨hI.clear, fun h => absurd rfl h, fun hok => ⟨hok, by simp [abs_def, SG.empty]⟩⟩
  | rel f s t =>
    dsimp only [abs_h]
    cases hs : st.h.find s with
    | none => exact .skip hI
    | some xs =>
      cases ht : st.h.find t with
      | none => exact .skip hI
      | some xt => exact .of_sims (sims_rel ha hI f xs xt (find_some hs).1 (find_some ht).1)
  | set f s t =>
    dsimp only [abs_h]
    cases hs : st.h.find s with
    | none => exact .skip hI
    | some xs =>
      cases ht : st.h.find t with
      | none => exact .skip hI
      | some xt =>
        have hxs := (find_some hs).1
        have hxt := (find_some ht).1
        cases hk : S.kind f with
        | scalar =>
          -- `setattr` first; the value it overwrote may be garbage once the relation is in
          have hl := write_live S st.h f s t
          have h0 : StepSims q (Op.set f s t ≠ .clear) st { st with h := st.h.write S f s t } _ :=
            .heap hI _ hl (write_used ..) (write_epoch ..)
          have h1 := h0.trans (fun b => ((b.ensure xs).ensure xt).assert S f ⟨xs.obj, xs.cls⟩ ⟨xt.obj, xt.cls⟩)
            (.of_sims (sims_wrapAssert S ha h0.inv f (hl.symm ▸ hxs) (hl.symm ▸ hxt)))
          exact h1.trans (fun b => ({ b with h := b.h.collect q } : Spec).prune) (.release h1.inv _ rfl rfl rfl)
        | _ => exact stepSims_set_container ha hI f s t hxs hxt
  | mkq k c dom => exact .guard _ hI fun _ => .heap hI _ rfl rfl rfl
  | evalq k =>
    dsimp only [abs_h]
    cases hf : st.h.qvars.find? fun v => v.key == k with
    | none => exact .skip hI
    | some v =>
      -- after the sweep the registry's census is the specification's
      have hres : st.abs.evalQuery q S v = evalQuery q S (SG.sweep q a st.g st.h.isLive) v := by
        unfold evalQuery Spec.evalQuery
        rw [census_eq hI]
      dsimp only
      rw [hres]
      -- the sweep, which `abs` does not see; then the result is recorded and what the old cached domain held is released
      exact (StepSims.sweep hI).trans (fun b => ({ b with h := (st.h.recordEval S k v
        (evalQuery q S (SG.sweep q a st.g st.h.isLive) v)).collect q } : Spec).prune) (.release hI.sweep _ rfl rfl rfl)
  | dropq k =>
    dsimp only [abs_h]
    cases hf : st.h.qvars.find? fun v => v.key == k with
    | none => exact .skip hI
    | some v =>
      exact .guard _ hI fun _ => .release hI _ (by rw [dropQuery_eq]) (by rw [dropQuery_eq]) (by rw [dropQuery_eq])
  | newrole o c pid e =>
    exact .guard _ hI fun hc => .create ha hI (Bool.or_eq_false_iff.1 hc).1 _ rfl rfl rfl

/-- every operation of a history keeps the registry consistent — for every valid node-index
allocator, every `id()` the new instance may get, every quirk setting -/
theorem C13_inv_step (q : Quirks) (S : Schema) (a : Alloc σ) (ha : a.Valid) (st : St σ) (op : Op)
    (hI : Inv q st) : Inv q (step q S a st op) :=
  (step_sims q S a ha st op hI).inv

theorem C13_inv_run (q : Quirks) (S : Schema) (a : Alloc σ) (ha : a.Valid) (ops : List Op) :
    Inv q (run q S a ops) :=
  List.foldlRecOn (motive := Inv q) ops _ (C13_inv_init q a) fun st h op _ => C13_inv_step q S a ha st op h

theorem run_append (q : Quirks) (S : Schema) (a : Alloc σ) (ops ops' : List Op) :
    run q S a (ops ++ ops') = ops'.foldl (step q S a) (run q S a ops) := by
  unfold run
  rw [List.foldl_append]

/-! ### the census -/

theorem mem_expected (S : Schema) (h : Heap) (T : Cls) (o : Obj) :
    o ∈ h.expected S T ↔ ∃ x ∈ h.live, x.obj = o ∧ x.cls ∈ S.below T ∧ o ∈ h.epoch := by
  unfold Heap.expected
  simp only [List.mem_map, List.mem_filter, Bool.and_eq_true, List.contains_iff_mem]
  constructor
  · rintro ⟨x, ⟨hx, hc, he⟩, rfl⟩
    exact ⟨x, hx, rfl, hc, he⟩
  · rintro ⟨x, hx, rfl, hc, he⟩
    exact ⟨x, ⟨hx, hc, he⟩, rfl⟩

theorem mem_classes (q : Quirks) (S : Schema) (T c : Cls) :
    c ∈ (if q.dupSubclasses then S.below T else (S.below T).eraseDups) ↔ c ∈ S.below T := by
  split
  · rfl
  · exact List.mem_eraseDups

theorem mem_instancesOf {q : Quirks} {S : Schema} {g : SG σ} {T : Cls} {o : Obj} :
    o ∈ instancesOf q S g T ↔ ∃ w ∈ g.byClass, w.cls ∈ S.below T ∧ w.obj = o := by
  unfold instancesOf
  simp only [List.mem_flatMap, List.mem_map, List.mem_filter, mem_classes, beq_iff_eq]
  constructor
  · rintro ⟨c, hc, w, ⟨hw, rfl⟩, rfl⟩
    exact ⟨w, hw, hc, rfl⟩
  · rintro ⟨w, hw, hc, rfl⟩
    exact ⟨w.cls, hc, w, ⟨hw, rfl⟩, rfl⟩

theorem Inv.mem_instancesOf {q : Quirks} {S : Schema} {st : St σ} (hI : Inv q st)
    (hl : ∀ w ∈ st.g.nodes, st.h.isLive w.obj = true) (T : Cls) (o : Obj) :
    o ∈ instancesOf q S st.g T ↔ o ∈ st.h.expected S T := by
  rw [SG.mem_instancesOf, mem_expected, hI.byClassEq]
  constructor
  · rintro ⟨w, hw, hc, rfl⟩
    obtain ⟨x, hx, hxo⟩ := (isLive_iff _ _).1 (hl w hw)
    exact ⟨x, hx, hxo, (hI.nodeLive w hw x hx hxo).1 ▸ hc, hxo ▸ (hI.epochNodes x hx).2 ⟨w, hw, hxo.symm⟩⟩
  · rintro ⟨x, hx, rfl, hc, he⟩
    obtain ⟨w, hw, hwo⟩ := (hI.epochNodes x hx).1 he
    exact ⟨w, hw, (hI.nodeLive w hw x hx hwo.symm).1 ▸ hc, hwo⟩

theorem nodup_classObjs {cl : List Cls} {l : List W} (hcl : cl.Nodup) (hl : l.Nodup)
    (hinj : ∀ w1 ∈ l, ∀ w2 ∈ l, w1.obj = w2.obj → w1 = w2) :
    (cl.flatMap fun c => (l.filter (fun w => w.cls == c)).map (·.obj)).Nodup := by
  rw [← List.map_flatMap]
  refine nodup_map_flatMap _ hcl (fun c _ => Nodup.map_on (fun _ h1 _ h2 =>
    hinj _ (List.mem_filter.1 h1).1 _ (List.mem_filter.1 h2).1) (hl.filter _)) ?_
  intro c1 _ c2 _ hne w1 h1 w2 h2 e
  rw [List.mem_filter, beq_iff_eq] at h1 h2
  exact hne (by rw [← h1.2, ← h2.2, hinj w1 h1.1 w2 h2.1 e])

theorem Inv.nodup_instancesOf {q : Quirks} {S : Schema} {st : St σ} (hI : Inv q st) (T : Cls)
    (hT : q.dupSubclasses = false ∨ (S.below T).Nodup) : (instancesOf q S st.g T).Nodup := by
  unfold instancesOf
  rw [hI.byClassEq]
  refine nodup_classObjs ?_ hI.nodesNodup hI.objInj
  split
  · rename_i hq
    exact hT.resolve_left (by simp [hq])
  · exact nodup_eraseDups _

theorem census_mem {q : Quirks} {S : Schema} {a : Alloc σ} {st : St σ} (hI : Inv q st) (T : Cls) (o : Obj) :
    o ∈ instancesOf q S (SG.sweep q a st.g st.h.isLive) T ↔ o ∈ st.h.expected S T :=
  hI.sweep.mem_instancesOf (fun w hw => ((mem_sweep_nodes hI w).1 hw).2) T o

theorem census_nodup {q : Quirks} {S : Schema} {a : Alloc σ} {st : St σ} (hI : Inv q st) (T : Cls)
    (hT : q.dupSubclasses = false ∨ (S.below T).Nodup) :
    (instancesOf q S (SG.sweep q a st.g st.h.isLive) T).Nodup :=
  (hI.sweep (a := a)).nodup_instancesOf T hT

/-- After the sweep that precedes every evaluation, `get_instances_of_type(T)` yields exactly the
live instances of `T` and of its subclasses that the registry has been handed since it was last cleared — whatever
was created, related, dropped, collected or swept before, in whatever order, under every node-index allocator,
every `id()` recycling and every quirk setting. -/
theorem C13_census (q : Quirks) (S : Schema) (a : Alloc σ) (ha : a.Valid) (ops : List Op) (T : Cls) (o : Obj) :
    let st := run q S a ops
    o ∈ instancesOf q S (sweep q a st.g st.h.isLive) T ↔ o ∈ st.h.expected S T :=
  census_mem (C13_inv_run q S a ha ops) T o

/-- After that sweep `get_instances_of_type(T)` yields no instance twice, provided no class is listed twice below `T`: a
tree-shaped hierarchy, or `recursive_subclasses` with its de-duplication (`dupSubclasses` off). -/
theorem C13_census_once (q : Quirks) (S : Schema) (a : Alloc σ) (ha : a.Valid) (ops : List Op) (T : Cls)
    (hT : q.dupSubclasses = false ∨ (S.below T).Nodup) :
    let st := run q S a ops
    (instancesOf q S (sweep q a st.g st.h.isLive) T).Nodup :=
  census_nodup (C13_inv_run q S a ha ops) T hT

/-- The operation the property is about: a query object built with `let(T, None)` and evaluated
for the first time (after any history that did not raise) yields exactly the live instances of `T` and subclasses
known to the registry (`expected` is computed from the heap alone), each once when no class is listed twice — for
every quirk setting. -/
theorem C13_query_fresh (q : Quirks) (S : Schema) (a : Alloc σ) (ha : a.Valid) (ops : List Op) (k : Nat) (T : Cls)
    (herr : (run q S a ops).err = false) (hk : ∀ v ∈ (run q S a ops).h.qvars, v.key ≠ k) :
    ∃ r, (run q S a (ops ++ [.mkq k T none, .evalq k])).h.out = (run q S a ops).h.out ++ [r] ∧ r.key = k ∧
      (∀ o, o ∈ r.res ↔ o ∈ r.expected) ∧ r.expected = (run q S a ops).h.expected S T ∧
      ((q.dupSubclasses = false ∨ (S.below T).Nodup) → r.res.Nodup) := by
  have hI := C13_inv_run q S a ha ops
  rw [run_append]
  generalize run q S a ops = st at *
  have hany : st.h.qvars.any (fun v => v.key == k) = false :=
    List.any_eq_false.2 fun v hv => by simpa using hk v hv
  have hfind : (st.h.qvars ++ [(⟨k, T, false, none, true⟩ : QVar)]).find? (fun v => v.key == k)
      = some ⟨k, T, false, none, true⟩ := by
    rw [List.find?_append, List.find?_eq_none.2 fun v hv => by simpa using hk v hv]
    simp
  -- the new query object has no cached domain: its evaluation sweeps and asks the registry
  rw [List.foldl_cons, List.foldl_cons, List.foldl_nil, step_mkq q S a k T none herr hany, Option.isSome_none,
    Option.map_none,
    step_evalq q S a (st := { st with h := { st.h with qvars := st.h.qvars ++ [⟨k, T, false, none, true⟩],
                                                          exprs := st.h.exprs + 1 } }) herr hfind]
  exact ⟨⟨k, instancesOf q S (SG.sweep q a st.g st.h.isLive) T, st.h.expected S T⟩, rfl, rfl,
    census_mem hI T, rfl, census_nodup hI T⟩

/-! ### allocators and witnesses -/

theorem freshIdx_ge : ∀ (used : List Nat) (m : Nat), m ≤ used.foldl (fun m x => max m (x + 1)) m ∧
    ∀ x ∈ used, x < used.foldl (fun m x => max m (x + 1)) m
  | [], m => ⟨Nat.le_refl _, by simp⟩
  | y :: ys, m => by
    simp only [List.foldl_cons, List.mem_cons]
    have ih := freshIdx_ge ys (max m (y + 1))
    refine ⟨by omega, ?_⟩
    rintro x (rfl | hx)
    · omega
    · exact ih.2 x hx

theorem freshIdx_not_mem (used : List Nat) : freshIdx used ∉ used := by
  intro h
  have := (freshIdx_ge used 0).2 _ h
  unfold freshIdx at this
  omega

/-- rustworkx's LIFO free list (as modelled) is a valid allocator: the theorems apply to it -/
theorem lifo_valid : lifo.Valid := by
  intro s used
  simp only [lifo]
  split <;> split
  · exact freshIdx_not_mem used
  · rename_i h
    simpa using h
  · exact freshIdx_not_mem used
  · rename_i h
    simpa using h

theorem monotone_valid : monotone.Valid := by
  intro s used h
  simp only [monotone] at h
  have := (freshIdx_ge used 0).2 _ h
  unfold freshIdx at *
  omega

/-- two classes, `1` a subclass of `0`; no descriptors -/
def cexSchema : Schema where
  subs := fun c => if c = 0 then [1] else []
  depth := 2
  kind := fun _ => .plain
  supers := fun _ _ => []
  inverse := fun _ _ => none
  transitive := fun _ => false
  desc := fun f => f
  fuel := 4

/-- a diamond: `3` inherits from `1` and from `2`, both subclasses of `0` -/
def diamondSchema : Schema where
  subs := fun c => match c with | 0 => [1, 2] | 1 => [3] | 2 => [3] | _ => []
  depth := 3
  kind := fun _ => .plain
  supers := fun _ _ => []
  inverse := fun _ _ => none
  transitive := fun _ => false
  desc := fun f => f
  fuel := 4

/-- per evaluation, what the query yielded and what it should have -/
def outs (st : St σ) : List (List Obj × List Obj) := st.h.out.map (fun r => (r.res, r.expected))

/-- The witness of finding F-C13-1: a query object is evaluated, a new instance is created, the SAME query object is
evaluated again. With the domain cached on the variable (`Quirks.cached`) it misses the new instance, and a fresh query
object sees both; with the quirk off (`Quirks.asIs`, the code at /repo HEAD) the re-evaluated one sees both as well. -/
theorem C13_cex_reevaluated :
    outs (run Quirks.cached cexSchema lifo
      [.new 0 0 0, .mkq 1 0 none, .evalq 1, .new 1 1 1, .evalq 1, .mkq 2 0 none, .evalq 2])
      = [([0], [0]), ([0], [0, 1]), ([0, 1], [0, 1])] ∧
    outs (run Quirks.asIs cexSchema lifo
      [.new 0 0 0, .mkq 1 0 none, .evalq 1, .new 1 1 1, .evalq 1])
      = [([0], [0]), ([0, 1], [0, 1])] := by
  decide +kernel

/-- The witness of finding F-C13-2: with `dupSubclasses` on (`recursive_subclasses` lists a class once per inheritance
path) an instance of a class reachable from `T` along two paths is yielded twice; with the de-duplicated listing
(`Quirks.asIs`, the code at /repo HEAD) once. -/
theorem C13_cex_diamond :
    outs (run { Quirks.asIs with dupSubclasses := true } diamondSchema lifo [.new 0 3 0, .mkq 1 0 none, .evalq 1])
      = [([0, 0], [0])] ∧
    outs (run Quirks.asIs diamondSchema lifo [.new 0 3 0, .mkq 1 0 none, .evalq 1]) = [([0], [0])] := by
  decide +kernel

/-! Non-vacuity: the hypotheses of the theorems above are met by non-trivial inputs. -/

example : lifo.Valid ∧ (cexSchema.below 0).Nodup ∧ ¬ (diamondSchema.below 0).Nodup := by
  refine ⟨lifo_valid, by decide +kernel, by decide +kernel⟩

/-- a history with recycling: two instances die, a sweep frees their node indices, the LIFO allocator hands index 1
then 0 to the next two instances; the census is still exact -/
example :
    let st := run Quirks.asIs cexSchema lifo
      [.new 0 0 0, .new 1 1 1, .drop 0, .drop 1, .sweep, .new 2 1 0, .new 3 0 1, .mkq 1 0 none, .evalq 1]
    st.err = false ∧ outs st = [([3, 2], [2, 3])] ∧ st.g.nodes.map (·.idx) = [1, 0] := by
  decide +kernel

end KrroodVerif.SG
