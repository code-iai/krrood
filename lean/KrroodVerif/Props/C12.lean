import KrroodVerif.Model.Predicate
import KrroodVerif.Lemmas.Predicate
/-!
# C12 — Predicates and symbolic functions agree between concrete and symbolic calls

The property theorems, with the lemmas about `dispatch` they share (the other functions of the model:
`Lemmas/Predicate.lean`). `bind` (Python's own binding of a call) and `spec` are what the property demands. All theorems
are unbounded in arity, number of arguments, number of variables and domain sizes; the counter-examples are `decide`d on
concrete witnesses.

`Quirks` is `⟨symFnIgnoresFirst, childVarsIndependent, acceptsRejected⟩` (F-C12-1, -2, -3). `Quirks.today` (all on) is
krrood before 671da6e and ce0b294; `⟨false, true, true⟩` is krrood from 671da6e on (`symbolic_function` passes
`ignore_first=False`); `⟨false, true, false⟩` from ce0b294 on (both dispatchers bind the call as written first).
-/
namespace KrroodVerif.Pred
variable {α β : Type}

/-- On every call Python accepts (`bind … = .ok b`), `merge_args_and_kwargs` with `ignore_first := paramsIncludeSelf`
(the inspected function has a leading `self` that the caller does not pass — `cls.__init__` — or it has not) yields, as
a Python dict, exactly Python's own binding `b`. -/
theorem C12_merge_eq_bind (ps : List Param) (hnd : (ps.map (·.name)).Nodup) (args : List α) (kw : Dict α)
    (hkw : kw.keys.Nodup) (b : Dict α) (hb : bind ps args kw = .ok b) (selfName : String) (paramsIncludeSelf : Bool) :
    DictEq (mergeArgs (if paramsIncludeSelf then selfName :: ps.map (·.name) else ps.map (·.name))
      paramsIncludeSelf args kw) b := by
  have hm : mergeArgs (if paramsIncludeSelf then selfName :: ps.map (·.name) else ps.map (·.name))
      paramsIncludeSelf args kw = mergeArgs (ps.map (·.name)) false args kw := by
    cases paramsIncludeSelf with
    | false => rfl
    | true => exact mergeArgs_cons_true _ _ _ _
  rw [hm, mergeArgs_valid hnd hkw hb]
  exact dictEq_zip_append hnd hkw hb

theorem dispatch_of_accepted (q : Quirks) (c : Call) {b : Dict Arg} (hb : bind c.params c.pos c.kw = .ok b) :
    dispatch q c = (if isSymbolic (c.merged q) then .symbolic (c.merged q)
      else .concrete (callSpec Arg.lit c.params c.pos c.kw)) := by
  simp [dispatch, hb, Except.isOk']

theorem dispatch_of_rejected (q : Quirks) (c : Call) {e : BindErr} (hb : bind c.params c.pos c.kw = .error e) :
    dispatch q c = (if q.acceptsRejected && isSymbolic (c.merged q) then .symbolic (c.merged q)
      else .concrete (.error e)) := by
  cases hq : q.acceptsRejected with
  | false => simp [dispatch, hb, hq, Except.isOk', callSpec]
  | true => simp [dispatch, hb, hq, callSpec]

theorem dispatch_noQuirks (c : Call) (hwf : c.WF) {b : Dict Arg} (hb : bind c.params c.pos c.kw = .ok b) :
    dispatch Quirks.none c = (if c.hasVar then .symbolic (c.paramNames.zip c.pos ++ c.kw)
      else .concrete (.ok (applyDefaults Arg.lit c.params b))) := by
  rw [dispatch_of_accepted _ _ hb, merged_noQuirks c hwf hb, isSymbolic_merged c hb]
  simp only [callSpec, hb]

/-- With all quirks off, on every call Python accepts: no variable written ⇒ the call is executed immediately and the
body sees Python's binding with defaults applied (the plain result is returned); some variable written, positionally or
by keyword ⇒ nothing is executed and the condition carries exactly Python's binding of the written arguments. -/
theorem C12_dispatch (c : Call) (hwf : c.WF) (b : Dict Arg) (hb : bind c.params c.pos c.kw = .ok b) :
    (c.hasVar = false → dispatch Quirks.none c = .concrete (.ok (applyDefaults Arg.lit c.params b))) ∧
    (c.hasVar = true → ∃ d, dispatch Quirks.none c = .symbolic d ∧ DictEq d b) := by
  constructor
  · intro hv
    simp [dispatch_noQuirks c hwf hb, hv]
  · intro hv
    refine ⟨c.paramNames.zip c.pos ++ c.kw, by simp [dispatch_noQuirks c hwf hb, hv], ?_⟩
    exact dictEq_zip_append hwf.names_nodup hwf.kw_nodup hb

theorem dispatch_quirk_eq (q : Quirks) (c : Call) {b : Dict Arg} (hb : bind c.params c.pos c.kw = .ok b)
    (ht : q.symFnIgnoresFirst = true → trigPositional c = false) : dispatch q c = dispatch Quirks.none c := by
  rw [dispatch_of_accepted _ _ hb, dispatch_of_accepted _ _ hb]
  cases hv : c.hasVar with
  | false =>
    -- no variable written: executed at once, whatever was merged
    rw [isSymbolic_merged_of_no_var q c hv, isSymbolic_merged_of_no_var _ c hv]
    rfl
  | true =>
    -- outside the trigger nothing is passed positionally to a `@symbolic_function`: the flag merges nothing else
    have hm : c.merged q = c.merged Quirks.none := by
      rw [Call.merged, Call.merged]
      cases hk : c.kind with
      | pred => rfl
      | symFn =>
        cases hq : q.symFnIgnoresFirst with
        | false => simp only [ignoreFirst, hq, Quirks.none]
        | true =>
          have hp : c.pos = [] := by
            simpa [trigPositional, hk, hv] using ht hq
          simp [ignoreFirst, hq, hp, mergeArgs, Quirks.none]
    rw [hm]

/-- Under any setting of the three quirk flags, on every accepted call outside the triggers of the quirks that are on,
the model of the code equals the specification. (`Quirks.today` gives `C12_calls_once_partial`; `⟨false, true, _⟩`,
krrood from 671da6e on, gives `C12_calls_once_fixed_partial`; the third flag, F-C12-3, concerns only calls Python
rejects.) -/
theorem C12_calls_once_quirks (q : Quirks) (x : Experiment) (hwf : x.call.WF) (b : Dict Arg)
    (hb : bind x.call.params x.call.pos x.call.kw = .ok b)
    (h1 : q.symFnIgnoresFirst = true → trigPositional x.call = false)
    (h2 : q.childVarsIndependent = true → trigShared x = false) :
    run q x = spec x := by
  simp only [run, spec, hb, dispatch_quirk_eq q x.call hb h1, dispatch_noQuirks x.call hwf hb]
  cases hv : x.call.hasVar with
  | false => rfl
  | true =>
    simp only [if_true]
    have hev : ∀ e ∈ assignsFrom x.doms Env.empty x.pre, evalSym q x.world x.call.params
          (x.call.paramNames.zip x.call.pos ++ x.call.kw) x.doms e x.body x.neg x.sel
        = Except.ok (observe x.body x.neg (rowsOf x.doms x.sel)
            ((assignsFrom x.doms e (freeVars x.call.written x.pre)).map
              (fun e' => (applyDefaults id x.call.params (b.mapVals (substW x.world e')), e')))) := by
      intro e he
      refine evalSym_accepted q x.call hb x.world x.doms e x.pre (pre_bound_iff he) (fun hq => ?_) x.body x.neg x.sel
      -- from `e` exactly `x.pre` is bound, so no unbound variable is written twice
      have hpre : (fun j => (e j).isSome) = (fun i => x.pre.contains i) := by
        funext j
        rw [Bool.eq_iff_iff, List.contains_iff_mem, ← pre_bound_iff he j]
      rw [hpre]
      exact h2 hq
    rw [List.map_congr_left hev, sequence_map_ok]
    simp only [Outcome.symbolic.injEq, Except.ok.injEq]
    rw [concatObs_map_observe, assignsFrom_append, List.map_flatMap]
    -- same calls on both sides; the engine's rows (`rowsOf`) are the one row `rowOf` of the specification because every
    -- selected variable, being written in the call, is bound by `pre` or by the evaluation
    apply observe_congr
    intro c hc
    simp only [List.mem_flatMap, List.mem_map] at hc
    obtain ⟨e, he, e', he', rfl⟩ := hc
    apply rowsOf_bound
    intro i hi
    simp only [Experiment.sel, mem_freeVars] at hi
    by_cases hp : i ∈ x.pre
    · exact assignsFrom_bound he' i (Or.inr (assignsFrom_bound he i (Or.inl hp)))
    · exact assignsFrom_bound he' i (Or.inl ((mem_freeVars _ _ _).mpr ⟨hi.1, hp⟩))

/-- With all quirks off, on every accepted call — any domains, any variables bound by conjuncts to the left (`pre`),
under `not_` or not, any body — construction + evaluation equals the specification: the call log is the list of
candidate bindings of the distinct variables, in order, each exactly once, every parameter bound to the value of the
argument written in its position (`C12_calls_once_log` spells this out), and a binding is a result iff the body's value
for it is truthy. -/
theorem C12_calls_once (x : Experiment) (hwf : x.call.WF) (b : Dict Arg)
    (hb : bind x.call.params x.call.pos x.call.kw = .ok b) :
    run Quirks.none x = spec x :=
  C12_calls_once_quirks Quirks.none x hwf b hb nofun nofun

theorem C12_calls_once_log (x : Experiment) (hwf : x.call.WF) (b : Dict Arg)
    (hb : bind x.call.params x.call.pos x.call.kw = .ok b) (hv : x.call.hasVar = true) :
    let cands := assignsFrom x.doms Env.empty (x.pre ++ freeVars x.call.written x.pre)
    let tuple := fun e => applyDefaults id x.call.params (b.mapVals (substW x.world e))
    ∃ obs, run Quirks.none x = .symbolic (.ok obs) ∧
      obs.log = cands.map tuple ∧
      obs.rows = (cands.filter (fun e => (x.body (tuple e) != 0) != x.neg)).map (rowOf x.sel) := by
  intro cands tuple
  refine ⟨observe x.body x.neg (fun e => [rowOf x.sel e]) (cands.map (fun e => (tuple e, e))), ?_, ?_, ?_⟩
  · rw [C12_calls_once x hwf b hb]
    simp only [spec, hb, hv, if_true, cands, tuple]
  · simp [observe, List.map_map, Function.comp_def]
  · simp only [observe, List.filter_map, List.flatMap_map, Function.comp_def]
    exact List.map_eq_flatMap.symm

/-- For krrood before 671da6e: `symbolic_function` passes `ignore_first=True` for a function without `self`; on
keyword-only call shapes (no positional argument) the merged dictionary is still Python's binding. (Full statement =
`C12_merge_eq_bind` with `paramsIncludeSelf := false`; it fails for the unchanged code as soon as one argument is
positional: `C12_cex_positional`.) -/
theorem C12_merge_eq_bind_partial (ps : List Param) (hnd : (ps.map (·.name)).Nodup) (kw : Dict α)
    (hkw : kw.keys.Nodup) (b : Dict α) (hb : bind ps [] kw = .ok b) :
    DictEq (mergeArgs (ps.map (·.name)) true [] kw) b := by
  have := C12_merge_eq_bind ps hnd [] kw hkw b hb "self" false
  simpa [mergeArgs] using this

/-- For krrood before 671da6e (`Quirks.today`, all quirks on). On every accepted call that is outside the
trigger of F-C12-1 (a `Predicate` subclass, or a `@symbolic_function` callable called by keyword only, or no variable
at all) and outside the trigger of F-C12-2 (no variable, unless bound by a conjunct to the left, is written in two
argument positions), the unchanged code does what the property demands.
Full statement (false of `Quirks.today`, `C12_cex_positional` / `C12_cex_shared`): the same without the two trigger hypotheses. -/
theorem C12_calls_once_partial (x : Experiment) (hwf : x.call.WF) (b : Dict Arg)
    (hb : bind x.call.params x.call.pos x.call.kw = .ok b)
    (h1 : trigPositional x.call = false) (h2 : trigShared x = false) :
    run Quirks.today x = spec x :=
  C12_calls_once_quirks Quirks.today x hwf b hb (fun _ => h1) (fun _ => h2)

/-- after the repair of F-C12-1 alone: every call shape, positional or not, outside the trigger of F-C12-2 -/
theorem C12_calls_once_fixed_partial (x : Experiment) (hwf : x.call.WF) (b : Dict Arg)
    (hb : bind x.call.params x.call.pos x.call.kw = .ok b) (h2 : trigShared x = false) (q3 : Bool) :
    run ⟨false, true, q3⟩ x = spec x :=
  C12_calls_once_quirks ⟨false, true, q3⟩ x hwf b hb (fun h => by cases h) (fun _ => h2)

/-! ### Calls Python itself rejects -/

/-- With quirk `acceptsRejected` off (the wrapper / `__new__` binds the call as written before
merging): every call Python rejects raises that `TypeError` at the call, whatever variables it contains - nothing is
merged, nothing is evaluated, the body never runs. -/
theorem C12_rejected (q : Quirks) (hq : q.acceptsRejected = false) (x : Experiment) (e : BindErr)
    (hb : bind x.call.params x.call.pos x.call.kw = .error e) :
    run q x = .concrete (.error e) ∧ spec x = .invalid ∧ (run q x).rejected = true := by
  have h : run q x = .concrete (.error e) := by
    simp [run, dispatch_of_rejected q x.call hb, hq]
  exact ⟨h, by simp [spec, hb], by rw [h]; rfl⟩

/-- For krrood before ce0b294 (no up-front binding) with the positional repair 671da6e in place (`hq1`). On every call
Python rejects that is outside the trigger of F-C12-3 - no variable survives the merge, or the merged dictionary is
itself no valid keyword call (unknown keyword, missing argument) - the `TypeError` is raised at the call or leaves the
evaluation at the first candidate: no invocation succeeds and no result is returned (`Outcome.rejected`).
Full statement (false of `⟨false, true, true⟩`, `C12_cex_rejected`): the same without the trigger hypothesis. -/
theorem C12_rejected_partial (q : Quirks) (hq1 : q.symFnIgnoresFirst = false) (x : Experiment) (e : BindErr)
    (hb : bind x.call.params x.call.pos x.call.kw = .error e)
    (ht : q.acceptsRejected = true → trigRejected x.call = false) :
    spec x = .invalid ∧ (run q x).rejected = true := by
  cases hq : q.acceptsRejected with
  | false => exact (C12_rejected q hq x e hb).2
  | true =>
    refine ⟨by simp [spec, hb], ?_⟩
    have hm : x.call.merged q = x.call.merged Quirks.none := by
      simp [Call.merged, ignoreFirst, hq1, Quirks.none]
    have ht := ht hq
    simp only [trigRejected, hb, Except.isOk', Bool.not_false, Bool.true_and, Bool.and_eq_false_iff] at ht
    simp only [run, dispatch_of_rejected q x.call hb, hq, Bool.true_and, hm]
    cases hs : isSymbolic (x.call.merged Quirks.none) with
    | false => simp [Outcome.rejected]
    | true =>
      have hd : Except.isOk' (bind x.call.params [] (x.call.merged Quirks.none)) = false := by
        rcases ht with h | h
        · rw [hs] at h
          cases h
        · exact h
      simp only [if_true]
      split
      · next os hseq =>
        -- every observation collected is one that some evaluation returned, and on this dictionary that is the empty one
        rw [Outcome.rejected, concatObs_silent fun o ho => ?_]
        · rfl
        · obtain ⟨e', _, he⟩ := List.mem_map.1 (sequence_ok hseq ▸ List.mem_map_of_mem (f := Except.ok) ho)
          exact evalSym_rejected q _ _ _ hd _ e' _ _ _ he
      · rfl

/-! ### Knobs, history, one condition in both branches of an if/else -/

/-- The outcome of evaluating the query now is the same whatever class-level knobs
the callable sets (`is_expensive`, any future `ClassVar` of `Predicate`, attributes of the function) and whatever
worlds the same query object was evaluated in before. (True by construction of the model — the transcribed code keeps
no state on the condition node and reads no knob; the correspondence is what ties this to the code: it draws every
knob, mutates the candidates between evaluations of one query object and compares with this knob- and history-free
model.) -/
theorem C12_knobs_history_irrelevant (q : Quirks) (knobs knobs' : Knobs) (history history' : List World)
    (x : Experiment) : evalAfter q knobs history x = evalAfter q knobs' history' x := rfl

/-- For every knob setting and every history of earlier evaluations, under the hypotheses of `C12_calls_once_quirks`:
the evaluation invokes the callable once per candidate binding with the CURRENT values of the arguments written
(`substW x.world`: the candidate's state now, seen through the attribute / method call / index written at the call
site) and contributes exactly the truth value of that concrete call — never a value remembered from an earlier
evaluation or from another candidate. -/
theorem C12_truth_is_current_call (q : Quirks) (knobs : Knobs) (history : List World) (x : Experiment)
    (hwf : x.call.WF) (b : Dict Arg) (hb : bind x.call.params x.call.pos x.call.kw = .ok b)
    (h1 : q.symFnIgnoresFirst = true → trigPositional x.call = false)
    (h2 : q.childVarsIndependent = true → trigShared x = false) :
    evalAfter q knobs history x = spec x :=
  C12_calls_once_quirks q x hwf b hb h1 h2

/-- One query object evaluated in a sequence of worlds (the candidates are mutated in between):
every evaluation equals the specification in ITS world, for any knobs and any number of earlier evaluations. -/
theorem C12_history (q : Quirks) (knobs : Knobs) (x : Experiment)
    (hwf : x.call.WF) (b : Dict Arg) (hb : bind x.call.params x.call.pos x.call.kw = .ok b)
    (h1 : q.symFnIgnoresFirst = true → trigPositional x.call = false)
    (h2 : q.childVarsIndependent = true → trigShared x = false) (before ws : List World) :
    runHistory q knobs x before ws = specHistory x ws := by
  induction ws generalizing before with
  | nil => rfl
  | cons w r ih =>
    simp only [runHistory, specHistory, List.map_cons, List.cons.injEq]
    exact ⟨C12_truth_is_current_call q knobs before { x with world := w } hwf b hb h1 h2, ih _⟩

/-- The SAME condition object written in both branches of an if/else
(`or_(and_(c, A), and_(not_(c), B))`, an `ElseIf`), evaluated in a sequence of worlds: on every accepted call outside the
triggers of the quirks that are on, every evaluation invokes the callable once per candidate binding (not once per
occurrence) and selects exactly the candidates for which "if the concrete call holds then A else B". -/
theorem C12_framed_history (q : Quirks) (knobs : Knobs) (f : Frame) (x : Experiment)
    (hwf : x.call.WF) (b : Dict Arg) (hb : bind x.call.params x.call.pos x.call.kw = .ok b)
    (h1 : q.symFnIgnoresFirst = true → trigPositional x.call = false)
    (h2 : q.childVarsIndependent = true → trigShared x = false) (before ws : List World) :
    runFramedHistory q knobs f x before ws = specFramedHistory f x ws := by
  unfold runFramedHistory specFramedHistory
  rw [C12_history q knobs x hwf b hb h1 h2 before ws,
    C12_history q knobs { x with neg := !x.neg } hwf b hb h1 h2 before ws]

theorem Obs.framed_spec (f : Frame) (pos negd : Obs) :
    (Obs.framed f pos negd).log = pos.log ∧
    ∀ r, r ∈ (Obs.framed f pos negd).rows ↔
      (f.thenHolds = true ∧ r ∈ pos.rows) ∨ (f.elseHolds = true ∧ r ∈ negd.rows) := by
  refine ⟨rfl, fun r => ?_⟩
  cases f with
  | mk t e => cases t <;> cases e <;> simp [Obs.framed]

/-! ### Counter-examples for `Quirks.today`

`cexShared`, the witness of the open finding F-C12-2, is also stored in `findings.d/C12.json` and replayed against the
real code. -/

def bodyParity : List Nat → Nat := fun t => (t.foldl (· + ·) 0) % 2

/-- `f(a, b=8)` called as `f(x)`, `x ∈ {1,2,3}`: the unchanged code binds `x` to `b` and raises `TypeError` -/
def cexPositional : Experiment :=
  { call := ⟨.symFn, [⟨"a", none, false⟩, ⟨"b", some 8, false⟩], [.var 0 0], []⟩
    doms := fun _ => [1, 2, 3], pre := [], neg := false, body := bodyParity }

/-- `f(a=9, b=8)` called as `f(x)`: every invocation is one position off, `(9, x)` instead of `(x, 8)` -/
def cexShifted : Experiment :=
  { cexPositional with call := ⟨.symFn, [⟨"a", some 9, false⟩, ⟨"b", some 8, false⟩], [.var 0 0], []⟩ }

/-- `f(a)` called as `f(x)`: the variable is not recognised and the body runs at construction time on the variable -/
def cexExecuted : Experiment :=
  { cexPositional with call := ⟨.symFn, [⟨"a", none, false⟩], [.var 0 0], []⟩ }

/-- `k.m(a=x)` for `def m(self, a)`: the receiver is dropped, evaluation raises `TypeError` -/
def cexMethod : Experiment :=
  { cexPositional with call := ⟨.symFn, [⟨"self", none, false⟩, ⟨"a", none, false⟩], [.lit 0], [("a", .var 0 0)]⟩ }

/-- F-C12-1 on the four witnesses above, each inside the trigger of F-C12-1 only: `Quirks.today` differs from the
specification, the positional repair alone (`⟨false, true, true⟩`) agrees with it. -/
theorem C12_cex_positional :
    (∀ x ∈ [cexPositional, cexShifted, cexExecuted, cexMethod],
      x.call.paramNames.Nodup ∧ x.call.kw.keys.Nodup ∧ (bind x.call.params x.call.pos x.call.kw).isOk
      ∧ trigPositional x.call = true ∧ trigShared x = false
      ∧ run Quirks.today x ≠ spec x ∧ run ⟨false, true, true⟩ x = spec x) ∧
    run Quirks.today cexPositional = .symbolic (.error .missingArgument) ∧
    spec cexPositional = .symbolic (.ok ⟨[[1, 8], [2, 8], [3, 8]], [[1], [3]]⟩) ∧
    run Quirks.today cexShifted = .symbolic (.ok ⟨[[9, 1], [9, 2], [9, 3]], [[2]]⟩) ∧
    run Quirks.today cexExecuted = .concrete (.ok [.var 0 0]) ∧
    run Quirks.today cexMethod = .symbolic (.error .missingArgument) := by
  decide +kernel

/-- `f(a, b)` called as `f(a=x, b=x)`, `x ∈ {1,2,3}` -/
def cexShared : Experiment :=
  { call := ⟨.symFn, [⟨"a", none, false⟩, ⟨"b", none, false⟩], [], [("a", .var 0 0), ("b", .var 0 0)]⟩
    doms := fun _ => [1, 2, 3], pre := [], neg := false, body := fun t => (t.headD 0) % 2 }

/-- F-C12-2 on the witness above: nine invocations instead of three, on pairs of *different* values of the
one variable, and a result (`x = 2`) for which the concrete call `f(2, 2)` is false. -/
theorem C12_cex_shared :
    cexShared.call.paramNames.Nodup ∧ cexShared.call.kw.keys.Nodup
    ∧ (bind cexShared.call.params cexShared.call.pos cexShared.call.kw).isOk
    ∧ trigShared cexShared = true ∧ trigPositional cexShared.call = false
    ∧ run Quirks.today cexShared = .symbolic (.ok
        ⟨[[1, 1], [1, 2], [1, 3], [2, 1], [2, 2], [2, 3], [3, 1], [3, 2], [3, 3]], [[1], [2], [3], [1], [2], [3]]⟩)
    ∧ spec cexShared = .symbolic (.ok ⟨[[1, 1], [2, 2], [3, 3]], [[1], [3]]⟩)
    ∧ run ⟨true, false, true⟩ cexShared = spec cexShared
    ∧ run Quirks.today { cexShared with pre := [0] } = spec { cexShared with pre := [0] } := by
  decide +kernel

/-! ### Non-vacuity -/

/-- `P(a, b=8, c=9)` (a `Predicate` subclass) called `P(x, c=y)` under a conjunct binding `y`: accepted by Python,
well-formed, outside both triggers — the hypotheses of `C12_calls_once_partial` — and the outcome is a proper subset
of six invocations -/
def exPred : Experiment :=
  { call := ⟨.pred, [⟨"a", none, false⟩, ⟨"b", some 8, false⟩, ⟨"c", some 9, false⟩], [.var 0 0], [("c", .var 1 0)]⟩
    doms := fun i => if i = 0 then [1, 2, 3] else [4, 5], pre := [1], neg := false, body := bodyParity }

example : exPred.call.paramNames.Nodup ∧ exPred.call.kw.keys.Nodup
    ∧ bind exPred.call.params exPred.call.pos exPred.call.kw = .ok [("a", .var 0 0), ("c", .var 1 0)]
    ∧ trigPositional exPred.call = false ∧ trigShared exPred = false
    ∧ run Quirks.today exPred = .symbolic (.ok
        ⟨[[1, 8, 4], [2, 8, 4], [3, 8, 4], [1, 8, 5], [2, 8, 5], [3, 8, 5]], [[1, 4], [3, 4], [2, 5]]⟩) := by
  decide +kernel

/-- hypotheses of `C12_merge_eq_bind` / `C12_dispatch` on a call with positionals, keywords and a default left out,
and on calls Python rejects (which the theorems do not speak about) -/
example :
    bind [⟨"a", none, false⟩, ⟨"b", some 8, false⟩, ⟨"c", some 9, false⟩] [1] [("c", 2)] = .ok [("a", 1), ("c", 2)]
    ∧ mergeArgs ["self", "a", "b", "c"] true [1] [("c", 2)] = [("a", 1), ("c", 2)]
    ∧ mergeArgs ["a", "b", "c"] true [1] [("c", 2)] = [("b", 1), ("c", 2)]
    ∧ bind [⟨"a", none, false⟩] [1, 2] ([] : Dict Nat) = .error .tooManyPositional
    ∧ bind [⟨"a", none, false⟩] [1] [("a", 2)] = .error .multipleValues
    ∧ bind [⟨"a", none, false⟩, ⟨"b", none, false⟩] [1] ([] : Dict Nat) = .error .missingArgument
    ∧ bind [⟨"a", none, false⟩] [] [("z", 2)] = .error .unexpectedKeyword := by
  decide +kernel

/-- a concrete call: executed immediately with defaults applied -/
example : run Quirks.today { exPred with call := { exPred.call with pos := [.lit 3], kw := [("c", .lit 2)] } }
    = .concrete (.ok [.lit 3, .lit 8, .lit 2]) := by
  decide +kernel

/-- `P(x.get())` with `is_expensive = True`, `x` bound by a conjunct to the left, evaluated, candidates mutated
(1 ↦ state 2, 2 ↦ state 3, 3 ↦ state 4), evaluated again: hypotheses of `C12_history` hold and the two evaluations
differ — the second one sees the new states (accessor 1 adds 100) and returns the complementary candidates -/
def exHistory : Experiment :=
  { call := ⟨.pred, [⟨"a", none, false⟩], [.var 0 1], []⟩
    doms := fun _ => [1, 2, 3], pre := [0], neg := false, body := bodyParity }

example : exHistory.call.paramNames.Nodup ∧ exHistory.call.kw.keys.Nodup
    ∧ (bind exHistory.call.params exHistory.call.pos exHistory.call.kw).isOk
    ∧ trigShared exHistory = false
    ∧ runHistory Quirks.today [("is_expensive", true)] exHistory [] [id, fun o => o + 1]
      = [.symbolic (.ok ⟨[[101], [102], [103]], [[1], [3]]⟩), .symbolic (.ok ⟨[[102], [103], [104]], [[2]]⟩)] := by
  decide +kernel

/-- `exHistory` in the frame "then: selected, else: selected" - both evaluations select every candidate,
with one invocation per candidate -/
example : runFramedHistory Quirks.today [] ⟨true, true⟩ exHistory [] [id, fun o => o + 1]
    = [.symbolic (.ok ⟨[[101], [102], [103]], [[1], [3], [2]]⟩), .symbolic (.ok ⟨[[102], [103], [104]], [[2], [1], [3]]⟩)] := by
  decide +kernel

/-! ### F-C12-3: calls Python rejects that the symbolic path accepts silently -/

/-- `f(a, b=8)` called as `f(x, 1, 2)`: Python: "takes from 1 to 2 positional arguments but 3 were given"; the
surplus `2` is dropped by `zip` -/
def cexTooMany : Experiment :=
  { call := ⟨.symFn, [⟨"a", none, false⟩, ⟨"b", some 8, false⟩], [.var 0 0, .lit 1, .lit 2], []⟩
    doms := fun _ => [1, 2, 3], pre := [], neg := false, body := bodyParity }

/-- `f(a, b=8)` called as `f(1, a=x)`: Python: "got multiple values for argument 'a'"; `update(kwargs)` overwrites
the positional `1` -/
def cexMultiple : Experiment :=
  { cexTooMany with call := ⟨.symFn, [⟨"a", none, false⟩, ⟨"b", some 8, false⟩], [.lit 1], [("a", .var 0 0)]⟩ }

/-- `h(a, *, b)` called as `h(x, 2)`: Python: "takes 1 positional argument but 2 were given"; `zip` pairs the
keyword-only name with the positional value -/
def cexKwOnly : Experiment :=
  { cexTooMany with call := ⟨.pred, [⟨"a", none, false⟩, ⟨"b", none, true⟩], [.var 0 0, .lit 2], []⟩ }

/-- `f(a, b=8)` called as `f(x, a=2)`: the keyword overwrites the only variable, so the call is executed and raises -
outside the trigger, as the property demands -/
def exMultipleConcrete : Experiment :=
  { cexTooMany with call := ⟨.symFn, [⟨"a", none, false⟩, ⟨"b", some 8, false⟩], [.var 0 0], [("a", .lit 2)]⟩ }

/-- `f(a, b=8)` called as `f(x, z=1)`: unknown keyword, the `TypeError` leaves the evaluation - outside the trigger -/
def exUnexpected : Experiment :=
  { cexTooMany with call := ⟨.symFn, [⟨"a", none, false⟩, ⟨"b", some 8, false⟩], [.var 0 0], [("z", .lit 1)]⟩ }

/-- F-C12-3 on the three witnesses above: Python rejects each, yet with `acceptsRejected` on the evaluation
invokes the body and returns results; with the flag off (`⟨false, true, false⟩`) each is rejected. -/
theorem C12_cex_rejected :
    (∀ x ∈ [cexTooMany, cexMultiple, cexKwOnly],
      x.call.paramNames.Nodup ∧ x.call.kw.keys.Nodup ∧ Except.isOk' (bind x.call.params x.call.pos x.call.kw) = false
      ∧ trigRejected x.call = true ∧ spec x = .invalid
      ∧ (run ⟨false, true, true⟩ x).rejected = false ∧ (run ⟨false, true, false⟩ x).rejected = true) ∧
    run ⟨false, true, true⟩ cexTooMany = .symbolic (.ok ⟨[[1, 1], [2, 1], [3, 1]], [[2]]⟩) ∧
    run ⟨false, true, true⟩ cexMultiple = .symbolic (.ok ⟨[[1, 8], [2, 8], [3, 8]], [[1], [3]]⟩) ∧
    run ⟨false, true, true⟩ cexKwOnly = .symbolic (.ok ⟨[[1, 2], [2, 2], [3, 2]], [[1], [3]]⟩) := by
  decide +kernel

/-- non-vacuity of `C12_rejected_partial`: rejected calls outside the trigger, with the two ways of being rejected -/
example :
    (∀ x ∈ [exMultipleConcrete, exUnexpected],
      Except.isOk' (bind x.call.params x.call.pos x.call.kw) = false ∧ trigRejected x.call = false) ∧
    run ⟨false, true, true⟩ exMultipleConcrete = .concrete (.error .multipleValues) ∧
    run ⟨false, true, true⟩ exUnexpected = .symbolic (.error .unexpectedKeyword) := by
  decide +kernel

/-- keyword-only parameters: `P(a, *, b, c=9)` called `P(x, b=y)` is accepted, bound by keyword, the default of the
keyword-only `c` applied at each invocation; passed positionally it is rejected; a missing keyword-only argument is
rejected -/
example :
    bind [⟨"a", none, false⟩, ⟨"b", none, true⟩, ⟨"c", some 9, true⟩] [1] [("b", 2)] = .ok [("a", 1), ("b", 2)]
    ∧ bind [⟨"a", none, false⟩, ⟨"b", none, true⟩, ⟨"c", some 9, true⟩] [1, 2] ([] : Dict Nat) = .error .tooManyPositional
    ∧ bind [⟨"a", none, false⟩, ⟨"b", none, true⟩, ⟨"c", some 9, true⟩] [1] ([] : Dict Nat) = .error .missingArgument
    ∧ run ⟨false, true, true⟩ { exPred with call := ⟨.pred, [⟨"a", none, false⟩, ⟨"b", none, true⟩, ⟨"c", some 9, true⟩],
        [.var 0 0], [("b", .var 1 0)]⟩ }
      = .symbolic (.ok ⟨[[1, 4, 9], [2, 4, 9], [3, 4, 9], [1, 5, 9], [2, 5, 9], [3, 5, 9]], [[2, 4], [1, 5], [3, 5]]⟩) := by
  decide +kernel

/-! ### `isinstance` by the class statements of `symbolic.py`

For the obligations that `harness/translate/c12_translate.py` generates from the source. -/

theorem isInstance_eq_isVar (t : ClassTable) (cls : String)
    (h : (isSubclass t "Variable" cls && isSubclass t "Attribute" cls && isSubclass t "Index" cls
      && isSubclass t "Call" cls && !isSubclass t "object" cls) = true) (a : Arg) :
    isInstance t a cls = a.isVar := by
  simp only [Bool.and_eq_true, Bool.not_eq_true'] at h
  obtain ⟨⟨⟨⟨h1, h2⟩, h3⟩, h4⟩, h5⟩ := h
  cases a with
  | lit v => simp [isInstance, Arg.pyClass, Arg.isVar, h5]
  | var i k =>
    simp only [isInstance, Arg.pyClass, Arg.isVar]
    split
    · exact h1
    · split
      · exact h2
      · split
        · exact h3
        · exact h4

/-- a decision of the shape `any(isinstance(v, cls) for v in merged.values())` is `isSymbolic` -/
theorem any_isInstance_eq_isSymbolic (t : ClassTable) (cls : String)
    (h : (isSubclass t "Variable" cls && isSubclass t "Attribute" cls && isSubclass t "Index" cls
      && isSubclass t "Call" cls && !isSubclass t "object" cls) = true) (d : Dict Arg) :
    (Dict.vals d).any (fun a => isInstance t a cls) = isSymbolic d := by
  rw [isSymbolic_eq_any_vals]
  congr 1
  funext a
  exact isInstance_eq_isVar t cls h a

/-! ### the dispatch under other flag settings (for the same obligations) -/

theorem dispatch_congr (q q' : Quirks) (h1 : q.symFnIgnoresFirst = q'.symFnIgnoresFirst)
    (h3 : q.acceptsRejected = q'.acceptsRejected) (c : Call) : dispatch q c = dispatch q' c := by
  have hm : c.merged q = c.merged q' := by
    simp only [Call.merged, ignoreFirst, h1]
  simp only [dispatch, hm, h3]

theorem dispatch_accepted_eq_none (q : Quirks) (hq : q.symFnIgnoresFirst = false) (c : Call) (hwf : c.WF)
    {b : Dict Arg} (hb : bind c.params c.pos c.kw = .ok b) : dispatch q c = dispatch Quirks.none c :=
  dispatch_quirk_eq q c hb (fun h => by rw [hq] at h; cases h)

end KrroodVerif.Pred
