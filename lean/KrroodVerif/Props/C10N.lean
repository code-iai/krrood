import KrroodVerif.Lemmas.EqlTraceNLemmas
import KrroodVerif.Props.C10Q
/-!
# C10N — laziness with quantifiers in arbitrary position

`Model/EqlTraceN.lean` extends the demand-driven trace model to `exists_` / `forAll` anywhere below `and` / `elseIf` /
`union` / `not` and below each other (`traceN`, `streamN`, `traceQueryN`). This file relates it to the list model
`Eql.eval` / `Eql.evalQuery` and to the quantifier-free trace `traceE` and states what it says about
laziness. Helper lemmas: `Lemmas/EqlTraceNLemmas.lean`.

All theorems are unbounded in the world, the domains, the expression (any nesting of quantifiers), the selection, the
continuation and `k`.
-/
namespace KrroodVerif.Eql

/-! ## 0. `traceN` on quantifier-free expressions -/

/-- On quantifier-free expressions `traceN` is `traceE` (same events, same order, for every
continuation): the theorems of `Props/C10.lean` are theorems about `traceN` there. -/
theorem C10N_extends (w : World) (e : Expr) (hq : e.QF = true) (env : Env) (k : Env → Bool → List Ev) :
    traceN w e env k = traceE w e env k := by
  rw [traceN_eq_traceE w e hq]

theorem C10N_extends_query (w : World) (q : Query) (hq : ∀ c, q.cond = some c → c.QF = true) :
    traceQueryN w q = traceQuery w q := by
  unfold traceQueryN traceQuery
  cases hc : q.cond with
  | none => rfl
  | some c => simp only [C10N_extends w c (hq c hc)]

/-! ## 1. rows: the trace against the list model -/

/-- ANY expression (quantifiers anywhere): when the list model evaluates it from `env` to the cells
`rs`, the consumer-visible events (`vis`: rows and exceptions) of the trace are the continuation applied to exactly
those cells, in order — the expression itself hands out nothing else and raises nothing. -/
theorem C10N_trace_vis (w : World) (e : Expr) (env : Env) (k : Env → Bool → List Ev)
    (rs : List (Env × Bool)) (h : eval w e env = .ok rs) :
    vis (traceN w e env k) = rs.flatMap fun p => vis (k p.1 p.2) :=
  traceN_sim w e env rs h k

/-- the expression's own stream (`streamN`: events with the results in place) carries exactly the list model's cells -/
theorem C10N_stream_cells (w : World) (e : Expr) (env : Env) (rs : List (Env × Bool)) (h : eval w e env = .ok rs) :
    cellsOf (streamN w e env) = rs ∧ hasErr (streamN w e env) = false := by
  have hv : vis (streamN w e env) = rs.map cellRow := by
    unfold streamN
    rw [traceN_sim w e env rs h cell, flatMap_vis_cell]
  exact ⟨cellsOf_of_vis _ rs hv, (rows_of_vis (hv.trans List.map_map.symm)).2⟩

theorem C10N_trace_rows (w : World) (e : Expr) (env : Env) (k : Env → Bool → List Ev)
    (rs : List (Env × Bool)) (h : eval w e env = .ok rs) :
    rowsOf (traceN w e env k) = rs.flatMap fun p => rowsOf (k p.1 p.2) := by
  rw [← rowsOf_vis, traceN_sim w e env rs h k, rowsOf_flatMap]
  simp only [rowsOf_vis]

theorem C10N_query_vis (w : World) (q : Query) (rows : List (List Val)) (h : evalQuery w q = .ok rows) :
    vis (traceQueryN w q) = rows.map Ev.row :=
  query_vis_of_hands w q rows h (fun c => traceN w c []) fun c rs _ hrs => traceN_sim w c [] rs hrs

/-- ANY query (condition with quantifiers in any position, or none): when the list model evaluates it to
`rows`, the rows handed out by the demand-driven trace are exactly `rows` (order, multiplicity) and no exception
escapes. -/
theorem C10N_rows (w : World) (q : Query) (rows : List (List Val)) (h : evalQuery w q = .ok rows) :
    rowsOf (traceQueryN w q) = rows ∧ hasErr (traceQueryN w q) = false :=
  rows_of_vis (C10N_query_vis w q rows h)

/-! ## 2. the consumer that stops after `k` results -/

/-- The consumer that stops after its `k`-th result has performed a PREFIX of the event stream of the
whole evaluation, has received exactly the first `k` rows of the list model, and has performed nothing before its
first `next()`. -/
theorem C10N_prefix (w : World) (q : Query) (rows : List (List Val)) (h : evalQuery w q = .ok rows) (k : Nat) :
    uptoRow k (traceQueryN w q) <+: traceQueryN w q ∧
    rowsOf (uptoRow k (traceQueryN w q)) = rows.take k ∧
    uptoRow 0 (traceQueryN w q) = [] := by
  refine ⟨uptoRow_prefix k _, ?_, uptoRow_zero _⟩
  rw [rowsOf_uptoRow, (C10N_rows w q rows h).1]

theorem C10N_pulled_mono (w : World) (q : Query) (v : VarId) (k : Nat) :
    pulled v (uptoRow k (traceQueryN w q)) ≤ pulled v (uptoRow (k + 1) (traceQueryN w q)) ∧
    pulled v (uptoRow k (traceQueryN w q)) ≤ pulled v (traceQueryN w q) :=
  C10_pulled_mono v k _

/-! ## 3. streaming: independence of an expression's events from its consumer -/

/-- ANY expression, ANY continuation: the trace is the expression's OWN stream (`streamN`: its
pull/read/exception events with its results in place) with the consumer's events spliced in at the results
(`substCells`). So what the expression performs before handing out its `j`-th result is a prefix of its own stream
that does not depend on what the consumer does with the results — in particular not on whether it ever asks for the
next one; and nothing of the expression's stream after a result is performed before the consumer is done with it. -/
theorem C10N_streaming (w : World) (e : Expr) (env : Env) (k : Env → Bool → List Ev) :
    traceN w e env k = substCells k (streamN w e env) :=
  traceN_eq_substCells w e env k

/-- `C10N_streaming` for whole queries: the trace is the condition's own stream with the selection events of each TRUE result
spliced in -/
theorem C10N_streaming_query (w : World) (sel : List Term) (c : Expr) :
    traceQueryN w ⟨sel, some c⟩ =
      substCells (fun env t => if t then traceSel w env sel [] else []) (streamN w c []) :=
  traceN_eq_substCells w c [] _

/-- ANY condition (quantifiers anywhere), ANY selection, `v` a variable no selected term
mentions: the pulls of `v` in the query trace are exactly the pulls of `v` in the condition's own stream, in order; the
consumer that stops after `k` results has performed a PREFIX of them; so it has consumed at most what the whole
condition consumes, and exhausting the query consumes exactly that. -/
theorem C10N_streaming_var (w : World) (sel : List Term) (c : Expr) (v : VarId) (hv : ∀ t ∈ sel, v ∉ t.vars)
    (k : Nat) :
    (traceQueryN w ⟨sel, some c⟩).filter (isPullOf v) = (streamN w c []).filter (isPullOf v) ∧
    (uptoRow k (traceQueryN w ⟨sel, some c⟩)).filter (isPullOf v) <+: (streamN w c []).filter (isPullOf v) ∧
    pulled v (uptoRow k (traceQueryN w ⟨sel, some c⟩)) ≤ pulled v (streamN w c []) ∧
    pulled v (traceQueryN w ⟨sel, some c⟩) = pulled v (streamN w c []) := by
  have hn : (traceQueryN w ⟨sel, some c⟩).filter (isPullOf v) = (streamN w c []).filter (isPullOf v) := by
    rw [C10N_streaming_query]
    refine filter_substCells (isPullOf v) (fun _ => rfl) _ _ fun p _ => ?_
    split
    · exact List.filter_eq_nil_iff.2 fun e he => by
        simp [isPullOf_false_of_noPull v _ (traceSel_noPull w v p.1 sel [] hv) e he]
    · rfl
  exact ⟨hn, hn ▸ (uptoRow_prefix k _).filter _, streaming_of_filter_eq v _ (fun _ => by simp [isPullOf]) hn k⟩

/-- When every selected term is a variable bound in every true result of the condition, the
selection costs nothing: ALL pull/read/exception events of the query are those of the condition's own stream, and the
consumer that stops after `k` results has performed a prefix of them. -/
theorem C10N_streaming_all (w : World) (sel : List Term) (c : Expr)
    (hsel : ∀ p ∈ cellsOf (streamN w c []), p.2 = true → ∀ t ∈ sel, ∃ v, t = .var v ∧ Bnd v p.1) (k : Nat) :
    nonRow (traceQueryN w ⟨sel, some c⟩) = nonRow (streamN w c []) ∧
    nonRow (uptoRow k (traceQueryN w ⟨sel, some c⟩)) <+: nonRow (streamN w c []) := by
  have hn : nonRow (traceQueryN w ⟨sel, some c⟩) = nonRow (streamN w c []) := by
    rw [C10N_streaming_query]
    refine filter_substCells (fun e => !e.isRow) (fun _ => rfl) _ _ fun p hp => ?_
    split
    · rename_i ht
      exact List.filter_eq_nil_iff.2 fun e he => by
        simp [C10Q_sel_bound_vars w p.1 sel [] (hsel p hp ht) e he]
    · rfl
  exact ⟨hn, hn ▸ (uptoRow_prefix k _).filter _⟩

/-! ## 4. `exists` in any position -/

theorem C10N_exists_stream (w : World) (u : VarId) (c : Expr) (env : Env) :
    streamN w (.exists_ u c) env = existsWalkN w u cell (streamN w c env) [] := rfl

/-- To perform any prefix of its own stream, an `exists` node (in any position, under any
consumer) needs only a prefix of its child's stream: the walk over a prefix of the child's stream is a prefix of the
walk over all of it. (`Exists` hands a witness on the moment its child produced it; it never looks ahead.) -/
theorem C10N_exists_prefix (w : World) (u : VarId) (k : Env → Bool → List Ev) (a s : List Ev) (h : a <+: s)
    (seen : List Val) : existsWalkN w u k a seen <+: existsWalkN w u k s seen := by
  obtain ⟨b, rfl⟩ := h
  obtain ⟨s', h⟩ := existsWalkN_append w u k a b seen
  rw [h]
  exact List.prefix_append _ _

/-- When every result of the child binds the quantified variable (otherwise: `KeyError`),
the pull/read/exception events of an `exists` node are exactly those of its child, in order — whatever is above. -/
theorem C10N_exists_adds_nothing (w : World) (u : VarId) (c : Expr) (env : Env)
    (hb : ∀ p ∈ cellsOf (streamN w c env), Bnd u p.1) :
    nonRow (streamN w (.exists_ u c) env) = nonRow (streamN w c env) :=
  existsWalkN_nonRow_cell w u _ [] hb

/-! ## 5. `for_all` in any position: lazy in its universal variable, blocking in its condition -/

/-- Everything a `for_all` node performs happens BEFORE its first result: its trace is a
row-free block of events that does not depend on the consumer, followed by the consumer's events for each surviving
candidate. (The property allows it: "consuming pulls only what it needs" — `ForAll` needs the candidates under the
first universal value and every later universal value to decide its first result.) -/
theorem C10N_forall_blocking (w : World) (u : VarId) (c : Expr) (env : Env) :
    ∃ (block : List Ev) (sols : List Env), NoRow block ∧
      ∀ k : Env → Bool → List Ev, traceN w (.forAll u c) env k = block ++ sols.flatMap fun sol => k (merge env sol) true := by
  simp only [traceN, traceForAllN]
  cases hU : uvals w u env with
  | nil => exact ⟨[Ev.err .typeError], [], AllEv.single rfl, fun k => rfl⟩
  | cons q qs =>
    obtain ⟨pre, env1⟩ := q
    refine ⟨_, _, ?_, fun k => rfl⟩
    exact traceForAllN_block_noRow w u (fun e => traceN w c e cell) env pre env1 qs hU _

/-- `for_all` in any position, universal variable not bound by what is to its left, domain
`v1 :: rest`: if the condition has no true result under the first value, ONE element of the universal domain is
pulled, however long the domain; the events are that pull and the condition's events under it; the consumer gets
nothing. -/
theorem C10N_forall_early_exit (w : World) (u : VarId) (c : Expr) (env : Env) (k : Env → Bool → List Ev)
    (v1 : Val) (rest : List Val) (hl : env.lookup (.var u) = none) (hd : w.dom u = v1 :: rest)
    (h : (cellsOf (streamN w c ((.var u, v1) :: env))).filter (·.2) = []) :
    traceN w (.forAll u c) env k = Ev.pull u 0 :: nonRow (streamN w c ((.var u, v1) :: env)) := by
  simp only [traceN, traceForAllN, uvals, hl, hd, enumFrom, List.map_cons]
  unfold streamN at h
  rw [h]
  -- without a candidate the loop performs nothing and no survivor reaches `k`: the pull and the first pass are left
  simp [forAllLoopN_nil_sols, dropRows_eq_nonRow, streamN]

/-- Once no candidate is left the loop performs nothing more — no further universal value is
pulled, the condition is not evaluated again. -/
theorem C10N_forall_stops (stream : Env → List Ev) (qs : List (List Ev × Env)) :
    forAllLoopN stream qs [] = ([], []) :=
  forAllLoopN_nil_sols stream qs

/-- While candidates are left, the loop obtains ONE more universal value (`pre`: its pull, or
nothing for a bound variable), re-checks each candidate by taking the FIRST result of the condition's stream from
`{**candidate, **bindings}` (`recheck`/`uptoCell`: nothing after that result is performed), and goes on with the
survivors. -/
theorem C10N_forall_step (stream : Env → List Ev) (pre : List Ev) (envq : Env) (qs : List (List Ev × Env))
    (sol : Env) (sols : List Env) :
    forAllLoopN stream ((pre, envq) :: qs) (sol :: sols) =
      (pre ++ (recheck stream envq (sol :: sols)).1 ++ (forAllLoopN stream qs (recheck stream envq (sol :: sols)).2).1,
       (forAllLoopN stream qs (recheck stream envq (sol :: sols)).2).2) := rfl

/-! ## 6. bound variables; pulls inside the domains -/

/-- Evaluating ANY expression (quantifiers anywhere) from bindings that contain `u` never
pulls an element of `u`'s domain, provided the consumer does not. In particular the body of a quantifier never pulls
the quantified variable once it is bound, a `for_all` whose universal variable is bound by what is to its left checks
that one value without touching the domain, and no variable bound by an enclosing operator is ever re-enumerated. -/
theorem C10N_never_pulls_bound (w : World) (u : VarId) (e : Expr) (env : Env) (k : Env → Bool → List Ev)
    (hb : Bnd u env) (hk : ∀ e b, Bnd u e → NoPull u (k e b)) : NoPull u (traceN w e env k) :=
  (noPull_iff_allEv u _).2
    (traceN_inv (evInv_noPull w u) e env hb k fun e b he => (noPull_iff_allEv u _).1 (hk e b he))

/-- the body of a quantifier, evaluated under a value of the quantified variable, pulls nothing of its domain -/
theorem C10N_body_never_pulls_quantified (w : World) (u : VarId) (c : Expr) (env : Env) (x : Val) :
    NoPull u (streamN w c ((.var u, x) :: env)) :=
  C10N_never_pulls_bound w u c _ cell (Bnd.cons_self u x env) fun _ _ _ i h => by simp [cell] at h

/-- Under the hypotheses of `C10N_forall_early_exit`, whatever the consumer
does: exactly ONE element of the universal domain has been consumed. -/
theorem C10N_forall_early_exit_pulled (w : World) (u : VarId) (c : Expr) (env : Env) (k : Env → Bool → List Ev)
    (v1 : Val) (rest : List Val) (hl : env.lookup (.var u) = none) (hd : w.dom u = v1 :: rest)
    (h : (cellsOf (streamN w c ((.var u, v1) :: env))).filter (·.2) = []) :
    pulled u (traceN w (.forAll u c) env k) = 1 ∧ rowsOf (traceN w (.forAll u c) env k) = [] := by
  rw [C10N_forall_early_exit w u c env k v1 rest hl hd h]
  have hnp : NoPull u (nonRow (streamN w c ((.var u, v1) :: env))) := by
    intro i hi
    exact C10N_body_never_pulls_quantified w u c env v1 i (List.mem_filter.1 hi).1
  constructor
  · rw [pulled_eq_foldl, List.foldl_cons, foldl_pullStep_noPull u _ _ hnp]
    simp [pullStep]
  · rw [rowsOf_cons_pull]
    exact rowsOf_eq_nil_of_noRow _ fun e he => by simpa using (List.mem_filter.1 he).2

theorem C10N_pull_in_range (w : World) (q : Query) (v : VarId) (i : Nat) (h : Ev.pull v i ∈ traceQueryN w q) :
    i < (w.dom v).length := by
  have hq : AllPullOk w (traceQueryN w q) := by
    unfold traceQueryN
    split
    · refine traceN_inv (evInv_pullOk w) _ _ trivial _ fun e b _ => ?_
      split
      · exact traceSel_pullOk w _ _ _
      · exact AllEv.nil _
    · exact traceSel_pullOk w _ _ _
  exact hq _ h

theorem C10N_pulled_le_domain (w : World) (q : Query) (v : VarId) (k : Nat) :
    pulled v (uptoRow k (traceQueryN w q)) ≤ pulled v (traceQueryN w q) ∧
    pulled v (traceQueryN w q) ≤ (w.dom v).length :=
  ⟨pulled_mono_prefix v (uptoRow_prefix k _), (pulled_le_iff v _ _).2 fun _ hi => C10N_pull_in_range w q v _ hi⟩

/-! ## 7. non-vacuity, on `exWorld` of C10 (three objects, `a = 1, 2, 1`; variables 0 and 1 range over all) -/

section Tests

/-- `an(entity(x, x.a == 1, exists(y, y.a == x.a)))`: the quantifier is the RIGHT operand of `and` -/
def exnAndExists : Expr :=
  .and (.cmp .eq (.attr (.var 0) "a") (.lit 10 (.int 1)))
       (.exists_ 1 (.cmp .eq (.attr (.var 1) "a") (.attr (.var 0) "a")))

/-- `exists` below `and` streams: the hypothesis of `C10N_rows` holds with two rows; the FIRST row is handed out
after one element of `x`'s and one of `y`'s 3-element domain has been pulled; exhausting pulls all. -/
example :
    exnAndExists.hasQ = true ∧
    (evalQuery exWorld ⟨[.var 0], some exnAndExists⟩).toOption = some [[.obj 0], [.obj 0], [.obj 2], [.obj 2]] ∧
    rowsOf (traceQueryN exWorld ⟨[.var 0], some exnAndExists⟩) = [[.obj 0], [.obj 0], [.obj 2], [.obj 2]] ∧
    hasErr (traceQueryN exWorld ⟨[.var 0], some exnAndExists⟩) = false ∧
    uptoRow 1 (traceQueryN exWorld ⟨[.var 0], some exnAndExists⟩) =
      [.pull 0 0, .read 0 "a", .read 0 "a", .pull 1 0, .read 0 "a", .row [.obj 0]] ∧
    pulled 0 (uptoRow 1 (traceQueryN exWorld ⟨[.var 0], some exnAndExists⟩)) = 1 ∧
    pulled 1 (uptoRow 1 (traceQueryN exWorld ⟨[.var 0], some exnAndExists⟩)) = 1 ∧
    pulled 0 (traceQueryN exWorld ⟨[.var 0], some exnAndExists⟩) = 3 ∧
    pulled 1 (traceQueryN exWorld ⟨[.var 0], some exnAndExists⟩) = 3 := by decide

/-- `an(entity(x, x.a == 1, for_all(y, x.a <= y.a)))` -/
def exnAndForAll : Expr :=
  .and (.cmp .eq (.attr (.var 0) "a") (.lit 10 (.int 1)))
       (.forAll 1 (.cmp .le (.attr (.var 0) "a") (.attr (.var 1) "a")))

/-- `for_all` below `and`: blocking in its own variable, the enclosing `and` still streams: the first row needs
ONE element of `x`'s domain and ALL of `y`'s. -/
example :
    (evalQuery exWorld ⟨[.var 0], some exnAndForAll⟩).toOption = some [[.obj 0], [.obj 2]] ∧
    rowsOf (traceQueryN exWorld ⟨[.var 0], some exnAndForAll⟩) = [[.obj 0], [.obj 2]] ∧
    pulled 0 (uptoRow 1 (traceQueryN exWorld ⟨[.var 0], some exnAndForAll⟩)) = 1 ∧
    pulled 1 (uptoRow 1 (traceQueryN exWorld ⟨[.var 0], some exnAndForAll⟩)) = 3 ∧
    pulled 0 (traceQueryN exWorld ⟨[.var 0], some exnAndForAll⟩) = 3 := by decide

/-- `for_all` early exit in nested position; hypotheses of `C10N_forall_early_exit`: below
`x.a == 2 and for_all(y, y.a == 2)` the condition fails under the first `y`: ONE of three is pulled. -/
example :
    let c : Expr := .cmp .eq (.attr (.var 1) "a") (.lit 11 (.int 2))
    let e : Expr := .and (.cmp .eq (.attr (.var 0) "a") (.lit 10 (.int 2))) (.forAll 1 c)
    (cellsOf (streamN exWorld c [(Key.var 1, .obj 0), (Key.var 0, .obj 1)])).filter (·.2) = [] ∧
    pulled 1 (traceQueryN exWorld ⟨[.var 0], some e⟩) = 1 ∧
    rowsOf (traceQueryN exWorld ⟨[.var 0], some e⟩) = [] ∧
    (evalQuery exWorld ⟨[.var 0], some e⟩).toOption = some [] := by decide

/-- A quantifier in a quantifier's body: `exists(x, x.a == 1 and for_all(y, x.a <= y.a))` selecting `x`:
rows as the list model, first row before `x`'s domain is exhausted. -/
example :
    let e : Expr := .exists_ 0 exnAndForAll
    (evalQuery exWorld ⟨[.var 0], some e⟩).toOption = some [[.obj 0], [.obj 2]] ∧
    rowsOf (traceQueryN exWorld ⟨[.var 0], some e⟩) = [[.obj 0], [.obj 2]] ∧
    pulled 0 (uptoRow 1 (traceQueryN exWorld ⟨[.var 0], some e⟩)) = 1 ∧
    pulled 0 (traceQueryN exWorld ⟨[.var 0], some e⟩) = 3 ∧
    nonRow (streamN exWorld e []) = nonRow (streamN exWorld exnAndForAll []) := by decide

/-- `KeyError`, why the row theorems are conditional on the list model returning — and the trace agrees with it
here: below `exists(y, x.a == 2 and y.a == 1)` the first result of the body is false and does not bind `y`; the real
`Exists` looks `y` up in it and raises, so do the list model and `traceN` (the root-level `traceExistsRoot` of
`Model/EqlTraceQ.lean` does not: it only looks at true results). -/
example :
    let c : Expr := .and (.cmp .eq (.attr (.var 0) "a") (.lit 10 (.int 2)))
                         (.cmp .eq (.attr (.var 1) "a") (.lit 11 (.int 1)))
    errOf (evalQuery exWorld ⟨[.var 1], some (.exists_ 1 c)⟩) = some .keyError ∧
    hasErr (traceQueryN exWorld ⟨[.var 1], some (.exists_ 1 c)⟩) = true ∧
    hasErr (traceExistsRoot exWorld [.var 1] 1 c) = false := by decide

/-- `C10N_streaming` is not vacuous: the splice really interleaves: the query trace of `exnAndExists` is its
condition's stream with one selection row per true result -/
example :
    (cellsOf (streamN exWorld exnAndExists [])).length = 5 ∧
    (nonRow (traceQueryN exWorld ⟨[.var 0], some exnAndExists⟩)).length = 20 ∧
    nonRow (traceQueryN exWorld ⟨[.var 0], some exnAndExists⟩) = nonRow (streamN exWorld exnAndExists []) := by decide

end Tests

end KrroodVerif.Eql
