import KrroodVerif.Model.Dao
import KrroodVerif.Props.C04
/-!
# C04 — the decided comparison `canonEq` IS the property relation `Iso`

`Dao.canonEq h r h' r' = true ↔ Dao.Iso h r h' r'` for ALL heaps and root lists (`C04_canonEq_iff_Iso`), so the verdict
the driver computes between the model's result and the input is the property's relation and not a proxy of it.

The depth-first numbering with fuel `dfsFuel` visits exactly the nodes reachable from the roots, each once
(`dfs_closed`); runs with any sufficient fuel agree (`dfs_fuel_stable`), so the numberings of two heaps of different size
can be compared; isomorphic graphs are numbered alike (`dfsOrder_rel` of `Props/C04.lean`); conversely "same number"
(`SameNum`) is an isomorphism when the observed nodes agree.

The equivalence needs no well-formedness hypothesis. A dangling reference below a root falsifies `Iso` (every related
address must hold a node) and `canonEq` alike (`closedFrom`); addresses are list positions, so duplicate addresses cannot
be expressed. On the model's outputs `closedFrom` never fails (`C04_copy_wf`, `C04_roundtrip_wf`).
-/
namespace KrroodVerif.Dao

/-- reference cells of all unexpanded nodes of the heap -/
def rem (h : Heap) (acc : List Nat) : Nat :=
  ((List.range h.length).map fun x => if x ∈ acc then 0 else (tg h x).length).sum

/-- for `rem_snoc`: expanding `x` takes its `g x` out of the sum over the addresses below `n`, if `x` is one of them -/
theorem sum_range_snoc (g : Nat → Nat) (acc : List Nat) (x : Nat) (hx : x ∉ acc) (n : Nat) :
    ((List.range n).map fun i => if i ∈ acc ++ [x] then 0 else g i).sum + (if x < n then g x else 0) =
      ((List.range n).map fun i => if i ∈ acc then 0 else g i).sum := by
  induction n with
  | zero => rfl
  | succ n ih =>
    simp only [List.range_succ, List.map_append, List.sum_append, List.map_cons, List.map_nil, List.sum_cons,
      List.sum_nil, List.mem_append, List.mem_singleton] at ih ⊢
    by_cases hn : n = x
    · subst hn
      simp [hx] at ih ⊢
      omega
    · by_cases hxn : x < n
      · simp [hn, hxn, Nat.lt_succ_of_lt hxn] at ih ⊢
        omega
      · simp [hn, hxn, show ¬ x < n + 1 by omega] at ih ⊢
        omega

theorem rem_snoc (h : Heap) (acc : List Nat) (x : Nat) (hx : x ∉ acc) :
    rem h (acc ++ [x]) + (tg h x).length = rem h acc := by
  unfold rem
  rw [← sum_range_snoc (fun x => (tg h x).length) acc x hx h.length]
  split
  · rfl
  · rename_i hl
    simp [tg, List.getElem?_eq_none (Nat.le_of_not_lt hl)]

theorem rem_nil_le (h : Heap) (roots : List Nat) : roots.length + rem h [] ≤ dfsFuel h roots := by
  simp [rem, dfsFuel]

/-- The fuel bound is a potential: pending stack entries + reference cells of unexpanded nodes, down by one per pop. -/
theorem dfs_closed (h : Heap) : ∀ (fuel : Nat) (work acc : List Nat), work.length + rem h acc ≤ fuel →
    (∃ l, dfsOrder h fuel work acc = acc ++ l) ∧
    (∀ x ∈ work, x ∈ dfsOrder h fuel work acc) ∧
    (∀ x ∈ dfsOrder h fuel work acc, x ∉ acc → ∀ t ∈ tg h x, t ∈ dfsOrder h fuel work acc) ∧
    (acc.Nodup → (dfsOrder h fuel work acc).Nodup) := by
  have base : ∀ fuel acc, (∃ l, dfsOrder h fuel [] acc = acc ++ l) ∧
      (∀ x ∈ ([] : List Nat), x ∈ dfsOrder h fuel [] acc) ∧
      (∀ x ∈ dfsOrder h fuel [] acc, x ∉ acc → ∀ t ∈ tg h x, t ∈ dfsOrder h fuel [] acc) ∧
      (acc.Nodup → (dfsOrder h fuel [] acc).Nodup) := by
    intro fuel acc
    rw [dfsOrder_nil]
    exact ⟨⟨[], (List.append_nil acc).symm⟩, fun x hx => (List.not_mem_nil hx).elim,
      fun x hx hn => (hn hx).elim, id⟩
  intro fuel
  induction fuel with
  | zero =>
    intro work acc hle
    have : work = [] := List.eq_nil_of_length_eq_zero (by omega)
    subst this
    exact base 0 acc
  | succ fuel ih =>
    intro work acc hle
    cases work with
    | nil => exact base _ acc
    | cons x work =>
      rw [List.length_cons] at hle
      cases hc : acc.contains x with
      | true =>
        have hxa : x ∈ acc := by simpa using hc
        rw [dfsOrder_seen hc]
        obtain ⟨hp, hw, hcl, hnd⟩ := ih work acc (by omega)
        refine ⟨hp, ?_, hcl, hnd⟩
        intro y hy
        rcases List.mem_cons.1 hy with rfl | hy
        · obtain ⟨l, hl⟩ := hp
          rw [hl]
          exact List.mem_append_left _ hxa
        · exact hw y hy
      | false =>
        have hxa : x ∉ acc := by simpa using hc
        rw [dfsOrder_new hc]
        have hr := rem_snoc h acc x hxa
        obtain ⟨hp, hw, hcl, hnd⟩ := ih (tg h x ++ work) (acc ++ [x]) (by rw [List.length_append]; omega)
        obtain ⟨l, hl⟩ := hp
        have hxin : x ∈ dfsOrder h fuel (tg h x ++ work) (acc ++ [x]) := by
          rw [hl]
          simp
        refine ⟨⟨[x] ++ l, by rw [hl, List.append_assoc]⟩, ?_, ?_, ?_⟩
        · intro y hy
          rcases List.mem_cons.1 hy with rfl | hy
          · exact hxin
          · exact hw y (List.mem_append_right _ hy)
        · intro y hy hny t ht
          by_cases hyx : y = x
          · subst hyx
            exact hw t (List.mem_append_left _ ht)
          · exact hcl y hy (by simp [hny, hyx]) t ht
        · intro hacc
          apply hnd
          rw [List.nodup_append]
          refine ⟨hacc, by simp, ?_⟩
          intro a ha b hb
          rw [List.mem_singleton.1 hb]
          exact fun e => hxa (e ▸ ha)

theorem dfs_fuel_stable (h : Heap) : ∀ (fuel k : Nat) (work acc : List Nat), work.length + rem h acc ≤ fuel →
    dfsOrder h (fuel + k) work acc = dfsOrder h fuel work acc := by
  intro fuel
  induction fuel with
  | zero =>
    intro k work acc hle
    have : work = [] := List.eq_nil_of_length_eq_zero (by omega)
    subst this
    rw [dfsOrder_nil, dfsOrder_nil]
  | succ fuel ih =>
    intro k work acc hle
    cases work with
    | nil => rw [dfsOrder_nil, dfsOrder_nil]
    | cons x work =>
      rw [List.length_cons] at hle
      rw [show fuel + 1 + k = (fuel + k) + 1 by omega]
      cases hc : acc.contains x with
      | true =>
        rw [dfsOrder_seen hc, dfsOrder_seen hc]
        exact ih k work acc (by omega)
      | false =>
        have hr := rem_snoc h acc x (by simpa using hc)
        rw [dfsOrder_new hc, dfsOrder_new hc]
        exact ih k _ _ (by rw [List.length_append]; omega)

theorem reach_eq_of_le (h : Heap) (roots : List Nat) (F : Nat) (hF : dfsFuel h roots ≤ F) :
    dfsOrder h F roots [] = reach h roots := by
  obtain ⟨k, rfl⟩ := Nat.exists_eq_add_of_le hF
  exact dfs_fuel_stable h (dfsFuel h roots) k roots [] (rem_nil_le h roots)

theorem reach_spec (h : Heap) (roots : List Nat) :
    (reach h roots).Nodup ∧ (∀ r ∈ roots, r ∈ reach h roots) ∧
    (∀ x ∈ reach h roots, ∀ t ∈ tg h x, t ∈ reach h roots) := by
  obtain ⟨_, hw, hcl, hnd⟩ := dfs_closed h (dfsFuel h roots) roots [] (rem_nil_le h roots)
  exact ⟨hnd List.nodup_nil, hw, fun x hx => hcl x hx (by simp)⟩

section fwd
variable {R : Nat → Nat → Prop}

theorem idxOf_rel (hR : OneOne R) {o o' : List Nat} (ho : All2 R o o') {x x' : Nat} (hx : R x x') :
    idxOf o x = idxOf o' x' :=
  findIdx_rel hR hx ho

theorem renum_rel (hR : OneOne R) {o o' : List Nat} (ho : All2 R o o') {r s : Ref} (h : RefRel R r s) :
    r.renum o = s.renum o' := by
  cases h using RefRel.ind with
  | none => rfl
  | one h => exact congrArg Ref.one (idxOf_rel hR ho h)
  | many h => exact congrArg Ref.many (All2.map_eq (fun _ _ hx => idxOf_rel hR ho hx) h)

theorem cnode_rel {h h' : Heap} (hR : OneOne R) (hn : NodesRel R h h') {o o' : List Nat} (ho : All2 R o o')
    {x x' : Nat} (hx : R x x') : cnode h o x = cnode h' o' x' := by
  obtain ⟨n, m, e1, e2, hl, hr⟩ := hn x x' hx
  simp only [cnode, e1, e2, Option.map_some, hl, All2.map_eq (fun _ _ hx => renum_rel hR ho hx) hr]

theorem reach_rel {h h' : Heap} {rs rs' : List Nat} (hroots : All2 R rs rs') (hR : OneOne R)
    (hn : NodesRel R h h') : All2 R (reach h rs) (reach h' rs') := by
  -- the two fuels differ; the larger suffices for both
  have := dfsOrder_rel hR (fun _ _ => tg_rel hn) (max (dfsFuel h rs) (dfsFuel h' rs')) rs rs' [] [] hroots trivial
  rwa [reach_eq_of_le h rs _ (Nat.le_max_left _ _), reach_eq_of_le h' rs' _ (Nat.le_max_right _ _)] at this

end fwd

theorem Iso_canonEq {h h' : Heap} {rs rs' : List Nat} (hiso : Iso h rs h' rs') : canonEq h rs h' rs' = true := by
  obtain ⟨R, hroots, hf, hi, hn⟩ := hiso
  have hR : OneOne R := ⟨hf, hi⟩
  have ho := reach_rel hroots hR hn
  unfold canonEq
  rw [Bool.and_eq_true]
  constructor
  · rw [decide_eq_true_eq]
    unfold canonForm
    dsimp only
    rw [All2.map_eq (fun _ _ hx => idxOf_rel hR ho hx) hroots, All2.map_eq (fun _ _ hx => cnode_rel hR hn ho hx) ho]
  · unfold closedFrom
    rw [List.all_eq_true]
    intro x hx
    obtain ⟨y, _, hr⟩ := All2.exists_right ho x hx
    obtain ⟨n, _, e1, _⟩ := hn x y hr
    simp [e1]

/-- `a` and `b` are numbered, with the same depth-first number -/
def SameNum (o o' : List Nat) (a b : Nat) : Prop := a ∈ o ∧ b ∈ o' ∧ idxOf o a = idxOf o' b

theorem idxOf_getElem? {o : List Nat} {a : Nat} (ha : a ∈ o) : o[idxOf o a]? = some a := by
  have hlt : idxOf o a < o.length := List.idxOf_lt_length_of_mem ha
  rw [List.getElem?_eq_getElem hlt]
  exact congrArg some (List.getElem_idxOf hlt)

theorem idxOf_inj {o : List Nat} {a b : Nat} (ha : a ∈ o) (hb : b ∈ o) (e : idxOf o a = idxOf o b) : a = b :=
  Option.some.inj ((idxOf_getElem? ha).symm.trans (e ▸ idxOf_getElem? hb))

theorem All2.of_map_eq {α β γ : Type} {S : α → β → Prop} {f : α → γ} {g : β → γ} :
    ∀ {xs : List α} {ys : List β}, xs.map f = ys.map g → (∀ x ∈ xs, ∀ y ∈ ys, f x = g y → S x y) → All2 S xs ys
  | [], [], _, _ => trivial
  | x :: xs, y :: ys, e, h => by
    simp only [List.map_cons, List.cons.injEq] at e
    exact ⟨h x List.mem_cons_self y List.mem_cons_self e.1,
      All2.of_map_eq e.2 fun a ha b hb => h a (List.mem_cons_of_mem _ ha) b (List.mem_cons_of_mem _ hb)⟩
  | [], _ :: _, e, _ => by simp at e
  | _ :: _, [], e, _ => by simp at e

theorem refRel_sameNum {o o' : List Nat} {r s : Ref} (hr : ∀ t ∈ r.targets, t ∈ o) (hs : ∀ t ∈ s.targets, t ∈ o')
    (e : r.renum o = s.renum o') : RefRel (SameNum o o') r s := by
  cases r <;> cases s <;> simp only [Ref.renum, reduceCtorEq, Ref.one.injEq, Ref.many.injEq] at e
  · trivial
  · exact ⟨hr _ (by simp [Ref.targets]), hs _ (by simp [Ref.targets]), e⟩
  · exact All2.of_map_eq e fun a ha b hb e' => ⟨hr a ha, hs b hb, e'⟩

theorem canonEq_Iso {h h' : Heap} {rs rs' : List Nat} (hc : canonEq h rs h' rs' = true) : Iso h rs h' rs' := by
  unfold canonEq at hc
  rw [Bool.and_eq_true, decide_eq_true_eq] at hc
  obtain ⟨hform, hclosed⟩ := hc
  unfold canonForm at hform
  simp only [Prod.mk.injEq] at hform
  obtain ⟨eroots, enodes⟩ := hform
  obtain ⟨_, hrt, hcl⟩ := reach_spec h rs
  obtain ⟨_, hrt', hcl'⟩ := reach_spec h' rs'
  unfold closedFrom at hclosed
  rw [List.all_eq_true] at hclosed
  refine ⟨SameNum (reach h rs) (reach h' rs'),
    All2.of_map_eq eroots fun a ha b hb e => ⟨hrt a ha, hrt' b hb, e⟩, ?_, ?_, ?_⟩
  · rintro a b b' ⟨_, hb, e⟩ ⟨_, hb', e'⟩
    exact idxOf_inj hb hb' (e.symm.trans e')
  · rintro a a' b ⟨ha, _, e⟩ ⟨ha', _, e'⟩
    exact idxOf_inj ha ha' (e.trans e'.symm)
  · rintro a b ⟨hao, hbo, e⟩
    have hsome := hclosed a hao
    obtain ⟨n, hn⟩ := Option.isSome_iff_exists.1 hsome
    -- `a` and `b` stand at the same position of the two orders, so the equal lists of observed nodes give `cnode` of `a` =
    -- `cnode` of `b`: same label, reference fields with the same numbers
    have ei := congrArg (fun l => l[idxOf (reach h rs) a]?) enodes
    simp only [List.getElem?_map, idxOf_getElem? hao, e ▸ idxOf_getElem? hbo, Option.map_some, Option.some.injEq] at ei
    simp only [cnode, hn, Option.map_some] at ei
    cases hm : h'[b]? with
    | none => simp [hm] at ei
    | some m =>
      simp only [hm, Option.map_some, Option.some.injEq, Prod.mk.injEq] at ei
      refine ⟨n, m, hn, rfl, ei.1.symm, ?_⟩
      have hta : tg h a = n.refs.flatMap Ref.targets := by simp only [tg, hn, Node.targets]
      have htb : tg h' b = m.refs.flatMap Ref.targets := by simp only [tg, hm, Node.targets]
      exact All2.of_map_eq ei.2 fun r hr s hs e => refRel_sameNum
        (fun t ht => hcl a hao t (hta ▸ List.mem_flatMap.2 ⟨r, hr, ht⟩))
        (fun t ht => hcl' b hbo t (htb ▸ List.mem_flatMap.2 ⟨s, hs, ht⟩)) e

/-- The comparison the driver DECIDES is the property relation, rooted-graph isomorphism — for all heaps and all lists
of roots (one or many, repeated roots included), with no well-formedness hypothesis (a dangling reference below a root
makes both sides false). -/
theorem C04_canonEq_iff_Iso (h : Heap) (rs : List Nat) (h' : Heap) (rs' : List Nat) :
    canonEq h rs h' rs' = true ↔ Iso h rs h' rs' := ⟨canonEq_Iso, Iso_canonEq⟩

instance (h : Heap) (rs : List Nat) (h' : Heap) (rs' : List Nat) : Decidable (Iso h rs h' rs') :=
  decidable_of_iff _ (C04_canonEq_iff_Iso h rs h' rs')

theorem canon_ne_error (h : Heap) (rs : List Nat) : canon h rs ≠ "error:canon-text-collision" := by
  intro e
  have := congrArg String.toList e
  unfold canon at this
  simp only [String.toList_append] at this
  -- the texts differ in their first character: `canon` begins with "r="
  simp at this

/-- The `model=` text the driver prints equals its `spec=` text EXACTLY when the model's result is isomorphic to the
input (for arbitrary heaps): a printing collision never passes as agreement, and isomorphic graphs never print
differently. -/
theorem C04_verdict (h : Heap) (rs : List Nat) (out : Heap) (rs' : List Nat) :
    verdictText h rs out rs' = canon h rs ↔ Iso h rs out rs' := by
  rw [← C04_canonEq_iff_Iso]
  unfold verdictText
  cases hc : canonEq h rs out rs' with
  | true => simp
  | false =>
    simp only [Bool.false_eq_true, if_false, iff_false]
    split
    · exact fun e => canon_ne_error h rs e.symm
    · rename_i hne
      simpa using hne

/-- Whatever the source heap, the memoised copy (the algorithm of `to_dao` and of `from_dao`, one- and two-phase
nodes) builds a heap WITHOUT dangling references, and the roots it returns are allocated slots. -/
theorem C04_copy_wf (P : Params) (hq : P.quirk = false) (h : Heap) (roots ds : List Nat) (st : St)
    (hrun : copyRoots P h roots = some (ds, st)) : st.out.WF ∧ ∀ d ∈ ds, d < st.out.length := by
  obtain ⟨w, _, a⟩ := copyRoots_spec hrun (Sound.of_false hq st)
  exact ⟨w.wf, all2_memo_lt w.inv a⟩

theorem All2.diag {α : Type} {R : α → α → Prop} : ∀ {l : List α}, (∀ x ∈ l, R x x) → All2 R l l
  | [], _ => trivial
  | _ :: _, h => ⟨h _ List.mem_cons_self, All2.diag fun x hx => h x (List.mem_cons_of_mem _ hx)⟩

theorem closedFrom_of_wf (h : Heap) (hwf : h.WF) (roots : List Nat) (hr : ∀ r ∈ roots, r < h.length) :
    closedFrom h roots = true := by
  -- the traversal in lockstep with itself under the identity on allocated addresses: every visited address is allocated
  have hrel := dfsOrder_rel (R := fun a b => a = b ∧ a < h.length) (h := h) (h' := h)
    ⟨fun _ _ _ h1 h2 => h1.1.symm.trans h2.1, fun _ _ _ h1 h2 => h1.1.trans h2.1.symm⟩
    (fun a b ⟨e, ha⟩ => e ▸ All2.diag fun t ht => ⟨rfl, by
      rw [tg, List.getElem?_eq_getElem ha] at ht
      exact hwf h[a] (List.getElem_mem ha) t ht⟩)
    (dfsFuel h roots) roots roots [] [] (All2.diag fun r hr' => ⟨rfl, hr r hr'⟩) trivial
  unfold closedFrom
  rw [List.all_eq_true]
  intro x hx
  obtain ⟨_, _, _, hlt⟩ := hrel.exists_right x hx
  simp [List.getElem?_eq_getElem hlt]

/-- The heaps the model's `to_dao` and `from_dao` produce are closed: no dangling reference, valid roots — so `canonEq`
applied to a model output never fails for lack of well-formedness, only for a real difference. -/
theorem C04_roundtrip_wf (unmap : Label → Option Label) (h : Heap) (roots rs' : List Nat) (st' : St)
    (hrun : roundTrip false unmap h roots = some (rs', st')) :
    st'.out.WF ∧ (∀ r ∈ rs', r < st'.out.length) ∧ closedFrom st'.out rs' = true := by
  unfold roundTrip at hrun
  split at hrun
  · cases hrun
  · obtain ⟨hw, hr⟩ := C04_copy_wf (fromDaoParams false unmap) rfl _ _ rs' st' hrun
    exact ⟨hw, hr, closedFrom_of_wf _ hw _ hr⟩

/-- What the driver decides for the model with the quirk off: the round trip of every finite object graph (any roots,
one state each way) passes the decided isomorphism test against its input. -/
theorem C04_canonEq_roundtrip (unmap : Label → Option Label) (h : Heap) (roots rs' : List Nat) (st' : St)
    (hrt : RoundTrips unmap h) (hrun : roundTrip false unmap h roots = some (rs', st')) :
    canonEq h roots st'.out rs' = true ∧ verdictText h roots st'.out rs' = canon h roots := by
  have hiso := C04_roundtrip unmap h roots rs' st' hrt hrun
  exact ⟨Iso_canonEq hiso, (C04_verdict h roots st'.out rs').2 hiso⟩

/-! Non-vacuity: the decided test accepts the round trip of the sharing / cycle example, rejects the result of
F-C04-1's witness with the quirk on, and rejects a heap with a dangling reference even against itself (as `Iso` does). -/

example : ∃ rs' st', roundTrip false (fun _ => none) exHeap [0, 2, 0] = some (rs', st') ∧
    canonEq exHeap [0, 2, 0] st'.out rs' = true := by
  obtain ⟨rs', st', hrun⟩ := C04_roundtrip_total false (fun _ => none) exHeap (Heap.WF_of_wf (by decide +kernel))
    [0, 2, 0] (by decide +kernel)
  exact ⟨rs', st', hrun, (C04_canonEq_roundtrip _ exHeap _ rs' st' (by decide +kernel) hrun).1⟩

example : canonEq cexHeap [0] cexOut [1] = false := by decide +kernel

example : canonEq cexHeap [0] cexHeap [0] = true ∧ canonEq cexHeap [0, 1] cexHeap [1, 0] = false := by decide +kernel

def danglingHeap : Heap := [{ (leafNode "AuxFrame" "name=sf") with refs := [.one 7], fields := [⟨false, ""⟩] }]

example : canonEq danglingHeap [0] danglingHeap [0] = false ∧ ¬ Iso danglingHeap [0] danglingHeap [0] := by
  refine ⟨by decide +kernel, fun hiso => ?_⟩
  have := Iso_canonEq hiso
  revert this
  decide +kernel

end KrroodVerif.Dao
