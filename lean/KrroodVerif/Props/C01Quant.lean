import KrroodVerif.Lemmas.EqlQuant
import KrroodVerif.Props.C01
/-!
C01 — quantified conditions: `exists`, `for_all` and `not_` over them (lemmas: `Lemmas/EqlQuant.lean`; the main induction
is `qt_qinv2`, the query level `sound_complete_Qt`). All unbounded: any world, any duplicate-free domains, any number of
free variables, any nesting of the quantifier-free conjuncts.

`C01_quant_tree_sound_complete_partial` is the general theorem: the built condition is an and-TREE (`Expr.Qt`) over
quantifier-free conditions of the cover fragment and any number of quantifiers, on either side of other conjuncts. The
chain `and_(l₁, and_(l₂, … Q))` — or just `Q` — with ONE quantifier at the end (`Expr.Ql`) is a corollary
(`C01_quant_sound_complete_partial`), and the four theorems after it spell the chain out on the surface syntax: every `lᵢ`
is in the fragment F1 (`SExpr.F1`, `Lemmas/EqlF1.lean`) and `Q` is `exists(y, φ)`, `for_all(y, φ)`, `not_(exists(y, φ))`
or `not_(for_all(y, φ))` with `φ` in F1. (`and_(a, b, Q)` of the library is `and_(and_(a, b), Q)`: one `l`.)

The side conditions are decidable and syntactic (`existsSide`, `forAllSide` below, which label them; `Expr.Ql` on the
built expression), and just outside each lies a finding (`C01_quant_need_*`): outside (E1) F-C01-7 (`KeyError`); outside
(E2) F-C01-5 (the de-duplication on the value of `y` runs across the free variables' assignments), so a root-level
`exists` must be closed; outside (A1) F-C01-11, although (A1) is strictly weaker than that finding's trigger
`Expr.forAllCompound` ("`φ` contains and_/or_"): `for_all(y, and_(a, b))` with atoms `a`, `b` is INSIDE (`qnvAc` below),
its negation is outside. F-C01-6 (empty universal domain) needs no side condition: the theorems are conditional on the
evaluation returning, and `C01_forall_empty_error` shows it never does then. The quantified variable occurs nowhere else
(not in the `lᵢ`, not selected).

Not proved (left to the executable model + search): quantifiers below `or_` (F-C01-8 shows that is wrong in general),
nested quantifiers, a quantified variable used outside its quantifier.
-/
namespace KrroodVerif.Eql

/-- For every query whose built condition is an and-TREE (`Expr.Qt`, `Model/EqlQuantFrag.lean`), the returned rows are
exactly the projections of the assignments of the FREE variables that satisfy the condition read as a first-order
formula (`∃ y ∈ dom y, φ` / `∀ y ∈ dom y, φ`): set equality. Side conditions as in `C01_sound_complete_F1_partial`.
Conditional on both sides returning `.ok`. The fragment: any nesting of `and_` over quantifier-free conditions of the
cover fragment and ANY NUMBER of quantifiers `exists(y, φ)` / `for_all(y, φ)` / `not_` of them, quantifiers also to the
LEFT of other conjuncts (an `exists` binds its variable for the conjuncts after it, which however must not use it; a
later `exists` may rely on variables that an earlier conjunct — or an earlier `exists` body — binds); conjuncts may also
follow a `for_all`. -/
theorem C01_quant_tree_sound_complete_partial (w : World) (q : SQuery) (c : SExpr)
    (hc : q.cond = some c) (hQ : (build c).Qt [] [] = true)
    (hsel : selF1 q.sel = true) (hms : trigMultiSel q = false) (hsq : selNoQuant q.sel (build c) = true)
    (hnd : ∀ v, (w.dom v).Nodup) (hne : ∀ v ∈ q.vars, w.dom v ≠ [])
    (hlit : LitNodup (build c))
    {rows rows' : List (List Val)}
    (h1 : evalQuery w q.toQuery = .ok rows) (h2 : solutions w q = .ok rows') :
    ∀ r, r ∈ rows ↔ r ∈ rows' := by
  obtain ⟨sel, cond⟩ := q
  simp only at hc
  subst hc
  refine sound_complete_Qt w sel c hQ hsel (hasDup_false_iff.mp hms) ?_ hnd hne hlit h1 h2
  intro v hv
  have := List.all_eq_true.mp hsq v hv
  simpa using this

/-- The same for the chain fragment `Expr.Ql`, which is part of the and-trees (`ql_qt`). -/
theorem C01_quant_sound_complete_partial (w : World) (q : SQuery) (c : SExpr)
    (hc : q.cond = some c) (hQ : (build c).Ql [] [] = true)
    (hsel : selF1 q.sel = true) (hms : trigMultiSel q = false) (hsq : selNoQuant q.sel (build c) = true)
    (hnd : ∀ v, (w.dom v).Nodup) (hne : ∀ v ∈ q.vars, w.dom v ≠ [])
    (hlit : LitNodup (build c))
    {rows rows' : List (List Val)}
    (h1 : evalQuery w q.toQuery = .ok rows) (h2 : solutions w q = .ok rows') :
    ∀ r, r ∈ rows ↔ r ∈ rows' :=
  C01_quant_tree_sound_complete_partial w q c hc (ql_qt _ _ _ hQ) hsel hms hsq hnd hne hlit h1 h2

/-! ## The four quantifier shapes on the surface syntax -/

/-- `and_(l₁, and_(l₂, … last))` -/
def chainS : List SExpr → SExpr → SExpr
  | [], last => last
  | l :: ls, last => .and l (chainS ls last)

/-- variables the conjuncts `ls` may bind / keys every true result of them binds -/
def chainVars (ls : List SExpr) : List VarId := ls.flatMap SExpr.freeVars
def chainKeys (ls : List SExpr) : List Key := ls.flatMap fun l => Expr.bK true (build l)

theorem ql_chain (last : SExpr) : ∀ (ls : List SExpr) (A : List VarId) (B : List Key),
    (∀ l ∈ ls, l.F1 = true) → (build last).Ql (A ++ chainVars ls) (B ++ chainKeys ls) = true →
    (build (chainS ls last)).Ql A B = true := by
  intro ls
  induction ls with
  | nil =>
    intro A B _ h
    simpa [chainS, chainVars, chainKeys] using h
  | cons l ls ih =>
    intro A B hls h
    have hFc := build_F1 (hls l List.mem_cons_self)
    simp only [chainS, build, Expr.Ql, Expr.FcQ_eq, Bool.and_eq_true]
    refine ⟨hFc, ih _ _ (fun l' hl' => hls l' (List.mem_cons_of_mem _ hl')) ?_⟩
    rw [build_vars_qf (Expr.Fc_noQuant hFc)]
    simpa [chainVars, chainKeys, List.append_assoc] using h

/-- side condition of `exists(y, φ)` after the conjuncts `ls`: (E0) `y` is not used by the conjuncts; (E1) every result
cell of `φ` — true and false — binds `y`; (E2) every other variable of `φ` is bound by every true result of `ls` -/
def existsSide (ls : List SExpr) (y : VarId) (φ : Expr) : Bool :=
  !(chainVars ls).contains y && (Expr.bK true φ).contains (.var y) && (Expr.bK false φ).contains (.var y) &&
    φ.vars.all fun v => v == y || (chainKeys ls).contains (.var v)

/-- side condition of `for_all(y, φ)` after the conjuncts `ls`: (A0) `y` is not used by the conjuncts; (A1) every TRUE
result cell of `φ` binds every VARIABLE of `φ` (a literal node may stay unbound: the re-check reads it afresh) -/
def forAllSide (ls : List SExpr) (y : VarId) (φ : Expr) : Bool :=
  !(chainVars ls).contains y && φ.vars.all fun v => (Expr.bK true φ).contains (.var v)

theorem ql_exists {ls : List SExpr} {y : VarId} {φ : Expr} (hF : φ.Fc = true) (h : existsSide ls y φ = true) :
    (Expr.exists_ y φ).Ql ([] ++ chainVars ls) ([] ++ chainKeys ls) = true := by
  simp only [existsSide, Bool.and_eq_true] at h
  simp only [Expr.Ql, Expr.FcQ_eq, List.nil_append, Bool.and_eq_true]
  exact ⟨⟨⟨⟨hF, h.1.1.1⟩, h.1.1.2⟩, h.1.2⟩, h.2⟩

theorem ql_forAll {ls : List SExpr} {y : VarId} {φ : Expr} (hF : φ.Fc = true) (h : forAllSide ls y φ = true) :
    (Expr.forAll y φ).Ql ([] ++ chainVars ls) ([] ++ chainKeys ls) = true := by
  simp only [forAllSide, Bool.and_eq_true] at h
  simp only [Expr.Ql, Expr.FcQ_eq, List.nil_append, Bool.and_eq_true]
  exact ⟨⟨hF, h.1⟩, h.2⟩

theorem chain_sound_complete (w : World) (q : SQuery) (ls : List SExpr) (last : SExpr)
    (hc : q.cond = some (chainS ls last)) (hls : ∀ l ∈ ls, l.F1 = true)
    (hlast : (build last).Ql ([] ++ chainVars ls) ([] ++ chainKeys ls) = true)
    (hsel : selF1 q.sel = true) (hms : trigMultiSel q = false) (hsq : selNoQuant q.sel (build (chainS ls last)) = true)
    (hnd : ∀ v, (w.dom v).Nodup) (hne : ∀ v ∈ q.vars, w.dom v ≠ []) (hlit : LitNodup (build (chainS ls last)))
    {rows rows' : List (List Val)}
    (h1 : evalQuery w q.toQuery = .ok rows) (h2 : solutions w q = .ok rows') :
    ∀ r, r ∈ rows ↔ r ∈ rows' :=
  C01_quant_sound_complete_partial w q _ hc (ql_chain _ ls [] [] hls hlast) hsel hms hsq hnd hne hlit h1 h2

/-- `and_(l₁, … exists(y, φ))` (or `exists(y, φ)` alone, `ls = []`) with `lᵢ`, `φ`
in F1 and `existsSide`: the returned rows are exactly the assignments of the free variables that satisfy
`l₁ ∧ … ∧ ∃ y ∈ dom y, φ`, projected onto the selection. -/
theorem C01_exists_sound_complete_partial (w : World) (q : SQuery) (ls : List SExpr) (y : VarId) (φ : SExpr)
    (hc : q.cond = some (chainS ls (.exists_ y φ)))
    (hls : ∀ l ∈ ls, l.F1 = true) (hφ : φ.F1 = true) (hside : existsSide ls y (build φ) = true)
    (hsel : selF1 q.sel = true) (hms : trigMultiSel q = false)
    (hsq : selNoQuant q.sel (build (chainS ls (.exists_ y φ))) = true)
    (hnd : ∀ v, (w.dom v).Nodup) (hne : ∀ v ∈ q.vars, w.dom v ≠ [])
    (hlit : LitNodup (build (chainS ls (.exists_ y φ))))
    {rows rows' : List (List Val)}
    (h1 : evalQuery w q.toQuery = .ok rows) (h2 : solutions w q = .ok rows') :
    ∀ r, r ∈ rows ↔ r ∈ rows' :=
  chain_sound_complete w q ls _ hc hls (ql_exists (build_F1 hφ) hside) hsel hms hsq hnd hne hlit h1 h2

/-- `and_(l₁, … for_all(y, φ))` (or `for_all(y, φ)` alone) with `lᵢ`, `φ` in F1
and `forAllSide`: the returned rows are exactly the assignments of the free variables that satisfy
`l₁ ∧ … ∧ ∀ y ∈ dom y, φ`. The free variables of `φ` need NOT be bound by the conjuncts. -/
theorem C01_forall_sound_complete_partial (w : World) (q : SQuery) (ls : List SExpr) (y : VarId) (φ : SExpr)
    (hc : q.cond = some (chainS ls (.forAll y φ)))
    (hls : ∀ l ∈ ls, l.F1 = true) (hφ : φ.F1 = true) (hside : forAllSide ls y (build φ) = true)
    (hsel : selF1 q.sel = true) (hms : trigMultiSel q = false)
    (hsq : selNoQuant q.sel (build (chainS ls (.forAll y φ))) = true)
    (hnd : ∀ v, (w.dom v).Nodup) (hne : ∀ v ∈ q.vars, w.dom v ≠ [])
    (hlit : LitNodup (build (chainS ls (.forAll y φ))))
    {rows rows' : List (List Val)}
    (h1 : evalQuery w q.toQuery = .ok rows) (h2 : solutions w q = .ok rows') :
    ∀ r, r ∈ rows ↔ r ∈ rows' :=
  chain_sound_complete w q ls _ hc hls (ql_forAll (build_F1 hφ) hside) hsel hms hsq hnd hne hlit h1 h2

theorem build_not_exists {y : VarId} {φ : SExpr} (hφ : φ.F1 = true) :
    build (.not (.exists_ y φ)) = .forAll y (.not (build φ)) := by
  simp only [build, invert, invert_qf (Expr.Fc_noQuant (build_F1 hφ))]

theorem build_not_forAll {y : VarId} {φ : SExpr} (hφ : φ.F1 = true) :
    build (.not (.forAll y φ)) = .exists_ y (.not (build φ)) := by
  simp only [build, invert, invert_qf (Expr.Fc_noQuant (build_F1 hφ))]

/-- `not_(exists(y, φ))` as the last conjunct: the engine evaluates
`for_all(y, not φ)` (`build_not_exists`; `satE_build` gives the semantic side: the first-order reading is unchanged), so
the side condition is `forAllSide` of `not φ` — every FALSE result cell of `φ` binds every variable of `φ`. The returned
rows are exactly the assignments satisfying `l₁ ∧ … ∧ ¬∃ y ∈ dom y, φ`. -/
theorem C01_not_exists_sound_complete_partial (w : World) (q : SQuery) (ls : List SExpr) (y : VarId) (φ : SExpr)
    (hc : q.cond = some (chainS ls (.not (.exists_ y φ))))
    (hls : ∀ l ∈ ls, l.F1 = true) (hφ : φ.F1 = true) (hside : forAllSide ls y (.not (build φ)) = true)
    (hsel : selF1 q.sel = true) (hms : trigMultiSel q = false)
    (hsq : selNoQuant q.sel (build (chainS ls (.not (.exists_ y φ)))) = true)
    (hnd : ∀ v, (w.dom v).Nodup) (hne : ∀ v ∈ q.vars, w.dom v ≠ [])
    (hlit : LitNodup (build (chainS ls (.not (.exists_ y φ)))))
    {rows rows' : List (List Val)}
    (h1 : evalQuery w q.toQuery = .ok rows) (h2 : solutions w q = .ok rows') :
    ∀ r, r ∈ rows ↔ r ∈ rows' :=
  -- `not φ` is in the cover fragment as `φ` is: `(.not e).Fc` is `e.Fc` by definition
  chain_sound_complete w q ls _ hc hls (build_not_exists hφ ▸ ql_forAll (φ := .not (build φ)) (build_F1 hφ) hside)
    hsel hms hsq hnd hne hlit h1 h2

/-- `not_(for_all(y, φ))` as the last conjunct: the engine evaluates
`exists(y, not φ)`; side condition `existsSide` of `not φ`. The returned rows are exactly the assignments satisfying
`l₁ ∧ … ∧ ¬∀ y ∈ dom y, φ`. -/
theorem C01_not_forall_sound_complete_partial (w : World) (q : SQuery) (ls : List SExpr) (y : VarId) (φ : SExpr)
    (hc : q.cond = some (chainS ls (.not (.forAll y φ))))
    (hls : ∀ l ∈ ls, l.F1 = true) (hφ : φ.F1 = true) (hside : existsSide ls y (.not (build φ)) = true)
    (hsel : selF1 q.sel = true) (hms : trigMultiSel q = false)
    (hsq : selNoQuant q.sel (build (chainS ls (.not (.forAll y φ)))) = true)
    (hnd : ∀ v, (w.dom v).Nodup) (hne : ∀ v ∈ q.vars, w.dom v ≠ [])
    (hlit : LitNodup (build (chainS ls (.not (.forAll y φ)))))
    {rows rows' : List (List Val)}
    (h1 : evalQuery w q.toQuery = .ok rows) (h2 : solutions w q = .ok rows') :
    ∀ r, r ∈ rows ↔ r ∈ rows' :=
  chain_sound_complete w q ls _ hc hls (build_not_forAll hφ ▸ ql_exists (φ := .not (build φ)) (build_F1 hφ) hside)
    hsel hms hsq hnd hne hlit h1 h2

/-! ## The errors of the quantifiers -/

/-- F-C01-7, unbounded. Under side condition (E1) — every result cell of `φ`, true or false,
binds `y` — `exists(y, φ)` never raises by itself: whatever error it returns is an error of evaluating `φ` (so never the
`KeyError` of the quantifier). Without (E1): `C01_quant_need_E1`. -/
theorem C01_exists_no_keyError (w : World) (y : VarId) (φ : Expr) (env : Env) (hF : φ.Fc = true)
    (hE1 : Key.var y ∈ Expr.bK true φ ∧ Key.var y ∈ Expr.bK false φ) (err : Err)
    (h : eval w (.exists_ y φ) env = .error err) : eval w φ env = .error err :=
  exists_error_from_body w y φ env hF hE1 err h

/-- non-vacuity: the body `x.nope > y.a` meets (E1); the attribute does not exist, the quantifier raises — the
body's `AttributeError`, as the theorem says -/
example : eval cex7W (.cmp .gt (.attr (.var 0) "nope") (cexAttrA 3)) [] = .error .attrError :=
  C01_exists_no_keyError cex7W 3 (.cmp .gt (.attr (.var 0) "nope") (cexAttrA 3)) []
    (by decide +kernel)
    (by decide +kernel) _
    (by decide +kernel)

/-- F-C01-6, unbounded. `for_all(y, φ)` over an EMPTY domain for `y` (with `y` not yet
bound) raises `TypeError` whatever `φ` is — never "vacuously true"; so no query whose evaluation returns has this
defect, and the theorems above need no hypothesis for it. -/
theorem C01_forall_empty_error (w : World) (y : VarId) (φ : Expr) (env : Env)
    (hd : w.dom y = []) (hy : env.lookup (.var y) = none) :
    eval w (.forAll y φ) env = .error .typeError := by
  simp only [eval, evalVar, hy, hd, List.map_nil]

/-! ## Non-vacuity

One query inside each theorem's hypotheses, with an answer that is neither empty nor everything. World: objects
`P0, P1, P2` with `a = 0, 1, 2`; `x` (variable 0) ranges over all three, the quantified variable `y` (variable 3) over
`{P1, P2}`, `u` (variable 4) over `{P0, P1}`; variable 1 (`z`) over all three. -/

def qnvW : World :=
  { objs := [cexObj false 0 true [] 0, cexObj false 1 true [] 2, cexObj false 2 true [] 4],
    doms := [(0, [.obj 0, .obj 1, .obj 2]), (1, [.obj 0, .obj 1, .obj 2]), (3, [.obj 1, .obj 2]), (4, [.obj 0, .obj 1])] }

/-- `x.a >= 1` -/
def qnvL : SExpr := .cmp .ge (cexAttrA 0) (.lit 101 (.int 1))

/-- `and_(x.a >= 1, exists(y, x.a > y.a))`, selecting `x` and a variable `z` that does not occur in the condition:
only `x = P2` (3 of the 9 assignments of `x, z`) -/
def qnvE : SQuery := ⟨[.var 0, .var 1], some (chainS [qnvL] (.exists_ 3 (.cmp .gt (cexAttrA 0) (cexAttrA 3))))⟩

example : ∀ r, r ∈ [[Val.obj 2, .obj 0], [.obj 2, .obj 1], [.obj 2, .obj 2]] ↔
    r ∈ [[Val.obj 2, .obj 0], [.obj 2, .obj 1], [.obj 2, .obj 2]] :=
  C01_exists_sound_complete_partial qnvW qnvE [qnvL] 3 (.cmp .gt (cexAttrA 0) (cexAttrA 3)) rfl
    (by decide +kernel)
    (by decide +kernel)
    (by decide +kernel)
    (by decide +kernel)
    (by decide +kernel)
    (by decide +kernel)
    (domsNodup_of_B (by decide +kernel))
    (by decide +kernel)
    (by decide +kernel)
    (by decide +kernel)
    (by decide +kernel)

/-- a root-level `exists` must be CLOSED: `set_of([x], exists(y, y.a > 1))` returns every `x` -/
def qnvE0 : SQuery := ⟨[.var 0], some (chainS [] (.exists_ 3 (.cmp .gt (cexAttrA 3) (.lit 101 (.int 1)))))⟩

example : ∀ r, r ∈ [[Val.obj 0], [.obj 1], [.obj 2]] ↔ r ∈ [[Val.obj 0], [.obj 1], [.obj 2]] :=
  C01_exists_sound_complete_partial qnvW qnvE0 [] 3 (.cmp .gt (cexAttrA 3) (.lit 101 (.int 1))) rfl
    (by decide +kernel)
    (by decide +kernel)
    (by decide +kernel)
    (by decide +kernel)
    (by decide +kernel)
    (by decide +kernel)
    (domsNodup_of_B (by decide +kernel))
    (by decide +kernel)
    (by decide +kernel)
    (by decide +kernel)
    (by decide +kernel)

/-- `for_all(u, x.a >= u.a)` at the ROOT with the free variable `x` enumerated inside the quantifier: `x ∈ {P1, P2}` -/
def qnvA : SQuery := ⟨[.var 0], some (chainS [] (.forAll 4 (.cmp .ge (cexAttrA 0) (cexAttrA 4))))⟩

example : ∀ r, r ∈ [[Val.obj 1], [.obj 2]] ↔ r ∈ [[Val.obj 1], [.obj 2]] :=
  C01_forall_sound_complete_partial qnvW qnvA [] 4 (.cmp .ge (cexAttrA 0) (cexAttrA 4)) rfl
    (by decide +kernel)
    (by decide +kernel)
    (by decide +kernel)
    (by decide +kernel)
    (by decide +kernel)
    (by decide +kernel)
    (domsNodup_of_B (by decide +kernel))
    (by decide +kernel)
    (by decide +kernel)
    (by decide +kernel)
    (by decide +kernel)

/-- a COMPOUND condition inside the fragment: `and_(x.a >= 1, for_all(u, and_(x.a >= u.a, u.a < 2)))` — the trigger
`Expr.forAllCompound` of F-C01-11 fires (it over-approximates), `forAllSide` holds: every true cell of a conjunction of
atoms binds every node -/
def qnvAcφ : SExpr := .and (.cmp .ge (cexAttrA 0) (cexAttrA 4)) (.cmp .lt (cexAttrA 4) (.lit 102 (.int 2)))
def qnvAc : SQuery := ⟨[.var 0], some (chainS [qnvL] (.forAll 4 qnvAcφ))⟩

example : (∀ r, r ∈ [[Val.obj 1], [.obj 2]] ↔ r ∈ [[Val.obj 1], [.obj 2]]) ∧
    (build (chainS [qnvL] (.forAll 4 qnvAcφ))).forAllCompound = true :=
  ⟨C01_forall_sound_complete_partial qnvW qnvAc [qnvL] 4 qnvAcφ rfl
    (by decide +kernel)
    (by decide +kernel)
    (by decide +kernel)
    (by decide +kernel)
    (by decide +kernel)
    (by decide +kernel)
    (domsNodup_of_B (by decide +kernel))
    (by decide +kernel)
    (by decide +kernel)
    (by decide +kernel)
    (by decide +kernel),
    by decide +kernel⟩

/-- a NEGATED conjunction inside the fragment: `for_all(u, not_(and_(x.a < u.a, u.a >= 1)))` — a true cell of the body is
a false cell of `x.a < u.a` passed through un-extended: it binds both VARIABLES but not the literal node of `u.a >= 1`,
which the re-check under the next `u` then reads afresh. `x ∈ {P1, P2}`. (Compare `C01_quant_need_A1`, where the
un-evaluated conjunct holds a VARIABLE.) -/
def qnvAnφ : SExpr := .not (.and (.cmp .lt (cexAttrA 0) (cexAttrA 4)) (.cmp .ge (cexAttrA 4) (.lit 102 (.int 1))))
def qnvAn : SQuery := ⟨[.var 0], some (chainS [] (.forAll 4 qnvAnφ))⟩

example : (∀ r, r ∈ [[Val.obj 1], [.obj 2]] ↔ r ∈ [[Val.obj 1], [.obj 2]]) ∧
    ((build qnvAnφ).nodes.all fun k => (Expr.bK true (build qnvAnφ)).contains k) = false :=
  ⟨C01_forall_sound_complete_partial qnvW qnvAn [] 4 qnvAnφ rfl
    (by decide +kernel)
    (by decide +kernel)
    (by decide +kernel)
    (by decide +kernel)
    (by decide +kernel)
    (by decide +kernel)
    (domsNodup_of_B (by decide +kernel))
    (by decide +kernel)
    (by decide +kernel)
    (by decide +kernel)
    (by decide +kernel),
    by decide +kernel⟩

/-- `not_(exists(u, x.a < u.a))` at the root: built as `for_all(u, not(x.a < u.a))`; `x ∈ {P1, P2}` -/
def qnvNE : SQuery := ⟨[.var 0], some (chainS [] (.not (.exists_ 4 (.cmp .lt (cexAttrA 0) (cexAttrA 4)))))⟩

example : ∀ r, r ∈ [[Val.obj 1], [.obj 2]] ↔ r ∈ [[Val.obj 1], [.obj 2]] :=
  C01_not_exists_sound_complete_partial qnvW qnvNE [] 4 (.cmp .lt (cexAttrA 0) (cexAttrA 4)) rfl
    (by decide +kernel)
    (by decide +kernel)
    (by decide +kernel)
    (by decide +kernel)
    (by decide +kernel)
    (by decide +kernel)
    (domsNodup_of_B (by decide +kernel))
    (by decide +kernel)
    (by decide +kernel)
    (by decide +kernel)
    (by decide +kernel)

/-- `and_(x.a >= 1, not_(for_all(y, x.a > y.a)))`: built with `exists(y, not(x.a > y.a))`; `x ∈ {P1, P2}` (the engine
returns `P1` twice — once per witness `y`; C01 is about the SET of rows) -/
def qnvNA : SQuery := ⟨[.var 0], some (chainS [qnvL] (.not (.forAll 3 (.cmp .gt (cexAttrA 0) (cexAttrA 3)))))⟩

example : ∀ r, r ∈ [[Val.obj 1], [.obj 1], [.obj 2]] ↔ r ∈ [[Val.obj 1], [.obj 2]] :=
  C01_not_forall_sound_complete_partial qnvW qnvNA [qnvL] 3 (.cmp .gt (cexAttrA 0) (cexAttrA 3)) rfl
    (by decide +kernel)
    (by decide +kernel)
    (by decide +kernel)
    (by decide +kernel)
    (by decide +kernel)
    (by decide +kernel)
    (domsNodup_of_B (by decide +kernel))
    (by decide +kernel)
    (by decide +kernel)
    (by decide +kernel)
    (by decide +kernel)

/-- non-vacuity of the TREE theorem: `and_(exists(y, y.a > 1), x.a >= 1, exists(u, u.a < x.a))` — a quantifier to
the LEFT of a conjunct and two quantifiers, the second relying on `x`, which the middle conjunct binds; outside the chain
fragment `Expr.Ql`. `x ∈ {P1, P2}` (the engine returns `P2` twice, once per witness `u`). -/
def qnvT : SQuery :=
  ⟨[.var 0], some (.and (.and (.exists_ 3 (.cmp .gt (cexAttrA 3) (.lit 103 (.int 1)))) qnvL)
    (.exists_ 4 (.cmp .lt (cexAttrA 4) (cexAttrA 0))))⟩

example : (∀ r, r ∈ [[Val.obj 1], [.obj 2], [.obj 2]] ↔ r ∈ [[Val.obj 1], [.obj 2]]) ∧
    (qnvT.cond.map fun c => (build c).Ql [] []) = some false :=
  ⟨C01_quant_tree_sound_complete_partial qnvW qnvT _ rfl
    (by decide +kernel)
    (by decide +kernel)
    (by decide +kernel)
    (by decide +kernel)
    (domsNodup_of_B (by decide +kernel))
    (by decide +kernel)
    (by decide +kernel)
    (by decide +kernel)
    (by decide +kernel),
    by decide +kernel⟩

/-- non-vacuity of the TREE theorem, a conjunct AFTER `for_all`: `and_(for_all(u, x.a >= u.a), x.a < 2)` — the row
`for_all` passes on lists `x` twice (the candidate's copy and the outer binding); `x = P1` -/
def qnvTA : SQuery :=
  ⟨[.var 0], some (.and (.forAll 4 (.cmp .ge (cexAttrA 0) (cexAttrA 4))) (.cmp .lt (cexAttrA 0) (.lit 103 (.int 2))))⟩

example : ∀ r, r ∈ [[Val.obj 1]] ↔ r ∈ [[Val.obj 1]] :=
  C01_quant_tree_sound_complete_partial qnvW qnvTA _ rfl
    (by decide +kernel)
    (by decide +kernel)
    (by decide +kernel)
    (by decide +kernel)
    (domsNodup_of_B (by decide +kernel))
    (by decide +kernel)
    (by decide +kernel)
    (by decide +kernel)
    (by decide +kernel)

/-! ## Necessity of the side conditions

For each, one query JUST outside it on which evaluation and specification differ (by `decide`); the other side
conditions hold on these witnesses. -/

/-- F-C01-7. `and_(x.a >= 1, exists(y, and_(x.a > 1, y.a == 1)))`: `x` is bound by the left
conjunct (E2 holds), but a FALSE result cell of `and_(x.a > 1, …)` does not bind `y` (E1 fails) — `KeyError`. So does
the recorded witness `cex7Q` (where E2 fails as well). -/
theorem C01_quant_need_E1 :
    let φ : SExpr := .and (.cmp .gt (cexAttrA 0) (.lit 102 (.int 1))) (.cmp .eq (cexAttrA 3) (.lit 103 (.int 1)))
    let q : SQuery := ⟨[.var 0], some (chainS [qnvL] (.exists_ 3 φ))⟩
    existsSide [qnvL] 3 (build φ) = false ∧
    (!(chainVars [qnvL]).contains 3 && (Expr.bK true (build φ)).contains (.var 3) &&
      (build φ).vars.all fun v => v == 3 || (chainKeys [qnvL]).contains (.var v)) = true ∧
    (Expr.bK false (build φ)).contains (.var 3) = false ∧
    evalQuery qnvW q.toQuery = .error .keyError ∧ solutions qnvW q = .ok [[.obj 2]] ∧
    (build (chainS [] (.exists_ 3 (.and (.cmp .gt (cexAttrA 0) (.lit 101 (.int 1)))
      (.cmp .eq (cexAttrA 3) (.lit 102 (.int 1))))))).Ql [] [] = false := by
  decide +kernel

/-- F-C01-5. `exists(y, x.a >= y.a)` at the root (the recorded witness `cex5Q`): every cell binds
`y` (E1 holds) but `x` is not bound before the quantifier (E2 fails) — `x = 2` is lost. -/
theorem C01_quant_need_E2 :
    let φ : SExpr := .cmp .ge (cexAttrA 0) (cexAttrA 3)
    existsSide [] 3 (build φ) = false ∧
    ((Expr.bK true (build φ)).contains (.var 3) && (Expr.bK false (build φ)).contains (.var 3)) = true ∧
    cex5Q.cond = some (chainS [] (.exists_ 3 φ)) ∧
    sameAnswers (evalQuery cex5W cex5Q.toQuery) (solutions cex5W cex5Q) = false := by
  decide +kernel

def cex11W : World :=
  { objs := [{ cls := 0, veq := false, fields := [("a", .int 2), ("f", .bool false)] },
             { cls := 0, veq := false, fields := [("a", .int 1), ("f", .bool true)] }],
    doms := [(0, [.int 1, .int 3]), (4, [.obj 0, .obj 1])] }
/-- `u.f ∧ x == u.a` -/
def cex11φ : SExpr := .and (.truth (.attr (.var 4) "f")) (.cmp .eq (.var 0) (cexAttrA 4))
def cex11Q : SQuery := ⟨[.var 0], some (.forAll 4 (.not cex11φ))⟩

/-- F-C01-11, the recorded witness. `for_all(u, not_(and_(u.f, x == u.a)))`: a true cell of
`not(and …)` is a false cell of `u.f` passed through un-extended — it does not bind `x` (A1 fails); `x = 3` is lost.
The same condition WITHOUT the negation is inside the fragment. -/
theorem C01_quant_need_A1 :
    forAllSide [] 4 (build (.not cex11φ)) = false ∧ forAllSide [] 4 (build cex11φ) = true ∧
    evalQuery cex11W cex11Q.toQuery = .ok [] ∧ solutions cex11W cex11Q = .ok [[.int 3]] := by
  decide +kernel

/-- F-C01-6. `for_all(y, x.a >= y.a)` with an empty domain for `y` (the recorded witness `cex6Q`)
meets every syntactic side condition; the evaluation raises (`C01_forall_empty_error`), the specification is vacuously
true: the hypothesis "the evaluation returns" of the theorems cannot be dropped. -/
theorem C01_quant_need_A2 :
    forAllSide [] 3 (build (.cmp .ge (cexAttrA 0) (cexAttrA 3))) = true ∧
    cex6Q.cond = some (chainS [] (.forAll 3 (.cmp .ge (cexAttrA 0) (cexAttrA 3)))) ∧
    evalQuery cex6W cex6Q.toQuery = .error .typeError ∧ solutions cex6W cex6Q = .ok [[.obj 0]] := by
  decide +kernel

/-- F-C01-8. A quantifier beside `or_` is outside the fragment, and wrong (`cex8Q`). -/
theorem C01_quant_need_shape :
    (cex8Q.cond.map fun c => (build c).Ql [] []) = some false ∧
    sameAnswers (evalQuery cex7W cex8Q.toQuery) (solutions cex7W cex8Q) = false := by
  decide +kernel

/-- The fragment's boundary, NOT a finding. `Expr.Qt` accepts conjuncts on either side
of a quantifier, but rejects a quantified variable used by another conjunct (nothing is proved about it; the harness
assumes it does not happen either) and a quantifier beside `or_` or inside another quantifier. The correspondence check
still compares such queries with the specification. -/
theorem C01_quant_need_scope :
    (build (.and (.forAll 3 (.cmp .gt (cexAttrA 3) (.lit 101 (.int 0)))) qnvL)).Qt [] [] = true ∧
    (build (.and (.exists_ 3 (.cmp .gt (cexAttrA 3) (.lit 101 (.int 1)))) qnvL)).Qt [] [] = true ∧
    (build (.and (.exists_ 3 (.cmp .gt (cexAttrA 3) (.lit 101 (.int 1))))
      (.cmp .ge (cexAttrA 0) (cexAttrA 3)))).Qt [] [] = false ∧
    (build (.exists_ 3 (.exists_ 4 (.cmp .gt (cexAttrA 3) (cexAttrA 4))))).Qt [] [] = false := by
  decide +kernel

/-- The decidable predicate `quantProved w q` (`Model/EqlQuantFrag.lean`; the driver
evaluates it on every case and then does not offer F-C01-5 / F-C01-7 / F-C01-11 as an excuse: `triggersQ`) implies every
hypothesis of `C01_quant_tree_sound_complete_partial`: on such a query the evaluation returns exactly the specified rows. -/
theorem C01_quantProved_sound_complete (w : World) (q : SQuery) (h : quantProved w q = true)
    {rows rows' : List (List Val)}
    (h1 : evalQuery w q.toQuery = .ok rows) (h2 : solutions w q = .ok rows') :
    ∀ r, r ∈ rows ↔ r ∈ rows' := by
  unfold quantProved at h
  cases hc : q.cond with
  | none =>
    rw [hc] at h
    cases h
  | some c =>
    rw [hc] at h
    simp only [Bool.and_eq_true, Bool.not_eq_true'] at h
    obtain ⟨⟨⟨⟨⟨⟨⟨hQ, _⟩, hsel⟩, hms⟩, hsq⟩, hnd⟩, hne⟩, hlit⟩ := h
    refine C01_quant_tree_sound_complete_partial w q c hc hQ ?_ hms hsq ?_ ?_ ?_ h1 h2
    · simpa [selF1] using hsel
    · apply domsNodup_of_B
      simp only [domsNodupB, List.all_eq_true, decide_eq_true_eq]
      intro d hd
      exact (nodupVal_iff _).mp (List.all_eq_true.mp hnd d hd)
    · intro v hv hemp
      have := List.all_eq_true.mp hne v hv
      simp [hemp] at this
    · exact (nodupNat_iff _).mp hlit

/-- non-vacuity: the queries above satisfy `quantProved`; the recorded witnesses of the quantifier
findings do not -/
example : quantProved qnvW qnvE = true ∧ quantProved qnvW qnvA = true ∧ quantProved qnvW qnvAc = true ∧
    quantProved qnvW qnvNE = true ∧ quantProved qnvW qnvNA = true ∧ quantProved qnvW qnvE0 = true ∧
    quantProved qnvW qnvT = true ∧ quantProved qnvW qnvTA = true ∧ quantProved c02nvW c02nvQ = false ∧
    quantProved cex5W cex5Q = false ∧ quantProved cex7W cex7Q = false ∧ quantProved cex7W cex8Q = false ∧
    quantProved cex11W cex11Q = false ∧
    ("F-C01-5" ∈ triggers qnvW qnvE ∧ "F-C01-5" ∉ triggersQ qnvW qnvE) ∧
    ("F-C01-11" ∈ triggers qnvW qnvAc ∧ "F-C01-11" ∉ triggersQ qnvW qnvAc) ∧
    triggersQ cex5W cex5Q = triggers cex5W cex5Q := by
  decide +kernel

end KrroodVerif.Eql
