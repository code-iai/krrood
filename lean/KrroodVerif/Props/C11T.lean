import KrroodVerif.Model.MatchTable
import KrroodVerif.Props.C11
/-!
C11 — the desugaring as a table interpreter, for the tie by translation of `match.py` into a decision table. The
interpreter run on any `TableOk` table builds the query `desugar Quirks.now` builds, so the C11 theorems hold of it; the
file that harness/translate/c11_translate.py generates states `Translated.table = Match.table` and
`TableOk Translated.table` for the table read off the current source, both by `decide`.
-/
namespace KrroodVerif.Match
open KrroodVerif.Eql

theorem tableOk_table : TableOk table := by decide +kernel

theorem iter_now (fi : FieldInfo) : fi.iter Quirks.now = fi.coll := rfl

theorem inferWith_eq (t : Table) (hT : TableOk t) (fi : FieldInfo) (a : MTerm) (l : Val) (iv m un ex : Bool)
    (hu : (m || !un) = true) (he : (m || !ex) = true) :
    inferWith t fi a l iv m un ex = inferCond Quirks.now fi a l iv un ex := by
  obtain ⟨_, _, _, hinf, hex, _⟩ := hT
  obtain ⟨rel, coll, ty⟩ := fi
  -- `ex` implies `m`, so the `exWrap` row is `ex`; what is left is the 16 rows of `infer`
  have hmex : (m && ex) = ex := by
    cases m
    · cases ex
      · rfl
      · exact absurd he (by decide)
    · rfl
  simp only [inferWith, hinf coll iv m un hu, hex m ex he, hmex, inferCond, iter_now]
  cases m with
  | false =>
    have hun : un = false := by simpa using hu
    subst hun
    cases coll <;> cases iv <;> rfl
  | true => cases coll <;> cases iv <;> cases un <;> rfl

theorem typeAtoms_eq (t : Table) (hT : TableOk t) (sub : List (Nat × Nat)) (declared cls : Option Nat) :
    rowB t.typeFilter (typeAtoms sub declared cls) = typeFilterNeeded sub declared cls ∧
    (if subMatched sub declared cls then (cls.orElse fun _ => declared) else declared) =
      (if typeFilterNeeded sub declared cls then cls else declared) := by
  obtain ⟨_, _, _, _, _, _, htf, _⟩ := hT
  cases declared with
  | none => cases cls <;> simp [subMatched, typeAtoms, htf, typeFilterNeeded]
  | some d =>
    cases cls with
    | none => simp [subMatched, typeAtoms, htf, typeFilterNeeded]
    | some c =>
      simp only [subMatched, typeAtoms, htf, typeFilterNeeded, List.getD_cons_succ, List.getD_cons_zero, Option.orElse]
      by_cases hcd : c = d
      · subst hcd
        simp
      · have h1 : (c == d) = false := by simpa using hcd
        have h2 : (c != d) = true := by simpa using hcd
        simp only [h1, h2, Bool.false_or, Bool.not_false, Bool.true_and, and_self]

theorem need_cls {sub : List (Nat × Nat)} {declared cls : Option Nat} (h : typeFilterNeeded sub declared cls = true) :
    ∃ c, cls = some c := by
  cases declared <;> cases cls <;> simp_all [typeFilterNeeded]

theorem selsWith_root (t : Table) (h : t.selUp = .root) (depth : Nat) (a t' : MTerm) :
    selsWith t depth a t' = if t' == a then [a] else [a, t'] := by
  simp only [selsWith, h, dedupTerms, List.filter]
  by_cases hta : t' = a
  · subst hta
    simp
  · have h1 : (t' == a) = false := by simpa using hta
    have h2 : (t' != a) = true := by simpa using hta
    simp [h1, h2]

mutual
theorem resolveAssignsWith_eq (t : Table) (hT : TableOk t) (s : Schema) (sub : List (Nat × Nat)) :
    (as : Assigns) → ∀ (depth : Nat) (owner : Option Nat) (v : MTerm),
      resolveAssignsWith t s sub depth owner v as = resolveAssigns Quirks.now s sub owner v as
  | .nil, _, _, _ => by simp [resolveAssignsWith, resolveAssigns]
  | .cons n av rest, depth, owner, v => by
    rw [resolveAssignsWith, resolveAssigns]
    cases fieldOf s owner n with
    | none => rfl
    | some fi =>
      simp only
      rw [resolveValWith_eq t hT s sub av depth fi (.attr v n), resolveAssignsWith_eq t hT s sub rest depth owner v]
      generalize resolveVal Quirks.now s sub fi (.attr v n) av = x
      generalize resolveAssigns Quirks.now s sub owner v rest = y
      rcases x with _ | ⟨c1, s1⟩ <;> rcases y with _ | ⟨c2, s2⟩ <;> rfl
theorem resolveValWith_eq (t : Table) (hT : TableOk t) (s : Schema) (sub : List (Nat × Nat)) :
    (av : AVal) → ∀ (depth : Nat) (fi : FieldInfo) (a : MTerm),
      resolveValWith t s sub depth fi a av = resolveVal Quirks.now s sub fi a av
  | .lit l, depth, fi, a => by
    have hT' := hT
    obtain ⟨_, ⟨hu1, _, _⟩, ⟨hiv, _⟩, _⟩ := hT
    simp only [resolveValWith, hu1, Bool.false_eq_true, if_false, hiv, resolveVal,
      inferWith_eq t hT' fi a l (isColl l) false false false rfl rfl]
  | .coll l ex un sel, depth, fi, a => by
    have hT' := hT
    obtain ⟨⟨_, _, hd2, hd3⟩, ⟨_, hu2, _⟩, ⟨_, hiv⟩, _, _, _, _, _, _, _, hsel⟩ := hT
    have hd : t.dispatchAt (if truthy l = true then 2 else 3) = .overLiteral := by
      cases truthy l <;> simp [hd2, hd3]
    have hq : (Quirks.now.falsyValueIsNoType && !truthy l) = false := rfl
    simp only [resolveValWith, hd, hu2, Bool.false_eq_true, if_false, hiv, resolveVal, hq,
      inferWith_eq t hT' fi a l true true un ex rfl rfl, selAttrWith, hsel]
  | .nested (.mk cls sel as), depth, fi, a => by
    have hT' := hT
    obtain ⟨⟨hd0, hd1, _, _⟩, ⟨_, _, hu3⟩, _, _, _, hfl, _, hunc, hemit, hown, hsel⟩ := hT
    have hd : t.dispatchAt (if cls.isSome = true then 1 else 0) = .unresolved := by
      cases cls <;> simp [hd0, hd1]
    obtain ⟨hneed, hsub⟩ := typeAtoms_eq t hT' sub fi.type cls
    have ih := resolveAssignsWith_eq t hT' s sub as (depth + 1)
    have hq1 : Quirks.now.declaredOwner = false := rfl
    have hq2 : Quirks.now.lazyFlatten = false := rfl
    have hnode : nestedNode Quirks.now sub fi a cls as = if fi.coll then MTerm.flat a else a := by
      simp [nestedNode, iter_now, hq2]
    unfold resolveValWith resolveVal
    simp only [hd, hu3, Bool.not_true, Bool.false_eq_true, if_false, hneed, hfl, hown, hsub, ih, hnode, hq1, hq2,
      Bool.not_false, Bool.true_and, iter_now, selsWith_root t hsel]
    generalize hown' : (if typeFilterNeeded sub fi.type cls = true then cls else fi.type) = ow
    generalize ht' : (if fi.coll = true then MTerm.flat a else a) = t'
    cases hp : resolveAssigns Quirks.now s sub ow t' as with
    | none => rfl
    | some p =>
      obtain ⟨cs, ss⟩ := p
      -- `TableOk` fixes the `unconstrained` row only where the interpreter can get: without kwargs there are no conditions
      have hk : (!as.isNil || cs.isEmpty) = true := by
        cases as with
        | nil =>
          simp [resolveAssigns] at hp
          simp [hp.1]
        | cons _ _ _ => rfl
      simp only [hunc _ _ _ _ hk, hemit]
      cases hn : typeFilterNeeded sub fi.type cls with
      | true =>
        obtain ⟨c, rfl⟩ := need_cls hn
        simp
      | false =>
        cases hc : fi.coll <;> cases he : cs.isEmpty <;> cases hty : (cls.orElse fun _ => fi.type) <;> simp
end

/-- For every table whose reachable rows hold the decisions of the model (`TableOk`), the table
interpreter builds, for every schema, subclass relation and pattern of any nesting depth, the very query the
hand-written transcription of `match.py` (`desugar Quirks.now`, the function `C11_equiv_partial_now` is about) builds. -/
theorem desugar_eq_interp (t : Table) (hT : TableOk t) (s : Schema) (sub : List (Nat × Nat)) (p : Pat) :
    desugarWith t s sub p = desugar Quirks.now s sub p := by
  obtain ⟨cls, sel, as⟩ := p
  cases cls with
  | none => rfl
  | some T =>
    simp only [desugarWith, desugar, resolveAssignsWith_eq t hT]
    generalize resolveAssigns Quirks.now s sub (some T) .root as = x
    rcases x with _ | ⟨cs, ss⟩ <;> rfl

theorem desugar_eq_interp_table (s : Schema) (sub : List (Nat × Nat)) (p : Pat) :
    desugarWith table s sub p = desugar Quirks.now s sub p :=
  desugar_eq_interp table tableOk_table s sub p

theorem runWith_eq_run (t : Table) (hT : TableOk t) (w : World) (Q : Quirks) (s : Schema) (dom : List Val) (p : Pat) :
    runWith t w Q s dom p = (desugar Quirks.now s w.subclass p).map (evalQuery w Q dom) := by
  simp only [runWith, desugar_eq_interp t hT]

/-- The property on the fragment of `C11_equiv_partial`, for the desugaring run on ANY
table that is `TableOk` (in particular the table regenerated from the current source, for which the generated file
checks `TableOk` by `decide`): every row is `[x]` for a domain element `x` that satisfies the pattern, and every such
element is returned. -/
theorem C11_equiv_of_tableOk (t : Table) (hT : TableOk t) (w : World) (s : Schema) (dom : List Val) (T : Nat)
    (rootSel : Bool) (as : Assigns)
    (hinh : schemaInheritsB s w.subclass = true)
    (hconf : conformsB w s = true)
    (hwf : (Pat.mk (some T) rootSel as).wf s w.subclass = true)
    (hclean : triggers w s (.mk (some T) rootSel as) = [])
    (hnosel : as.nSel = 0) :
    ∃ rows, runWith t w Quirks.now s dom (.mk (some T) rootSel as) = some rows ∧
      ∀ r, r ∈ rows ↔ ∃ x ∈ dom, r = [x] ∧ matchesPat w (.mk (some T) rootSel as) x = true := by
  rw [runWith_eq_run t hT]
  exact C11_equiv_partial_now w s dom T rootSel as hinh hconf hwf hclean hnosel

/-- `C11_full_now` for the desugaring run on any `TableOk` table -/
theorem C11_full_of_tableOk (t : Table) (hT : TableOk t) (w : World) (s : Schema) (dom : List Val) (T : Nat)
    (rootSel : Bool) (as : Assigns)
    (hinh : schemaInheritsB s w.subclass = true)
    (hconf : conformsB w s = true)
    (hwf : (Pat.mk (some T) rootSel as).wf s w.subclass = true)
    (hbc : (Pat.mk (some T) rootSel as).trigBuiltinColl s = false)
    (hlf : (Pat.mk (some T) rootSel as).trigLazyFlatten s w.subclass = false)
    (hfv : (Pat.mk (some T) rootSel as).trigFalsyValue = false)
    (hnosel : as.nSel = 0) :
    ∃ rows, runWith t w Quirks.nowKeyed s dom (.mk (some T) rootSel as) = some rows ∧
      ∀ r, r ∈ rows ↔ ∃ x ∈ dom, r = [x] ∧ matchesPat w (.mk (some T) rootSel as) x = true := by
  rw [runWith_eq_run t hT, ← desugar_congr (Q := Quirks.nowKeyed) (Q' := Quirks.now) rfl rfl rfl rfl]
  exact C11_full_now w s dom T rootSel as hinh hconf hwf hbc hlf hfv hnosel

/-! non-vacuity: the witness inside the proved fragment satisfies every hypothesis, for the hand-written table -/
open Witness in
example : ∃ rows, runWith table world Quirks.now schema dom inScope = some rows ∧
    ∀ r, r ∈ rows ↔ ∃ x ∈ dom, r = [x] ∧ matchesPat world inScope x = true :=
  C11_equiv_of_tableOk table tableOk_table world schema dom 4 false _ inherits conforms inScope_wf inScope_clean rfl

/-! ### tables that are NOT `TableOk`, and what the interpreter then builds (by evaluation)

Each is one decision of the source changed; for five of the six, `C11T_cex_tables` gives a concrete input on which the
interpreter run on the changed table differs from the specification (the kind of input the correspondence looks for in
the real code). The sixth, `tableAllAsAny`, is not told apart on the witness world: every non-empty drawer list there
is `[o1]`, and `Witness.allDrawers` gets the specified answer from it. -/

/-- `issubclass(attr_type, matched_type)` instead of `issubclass(matched_type, attr_type)` -/
def tableSwappedSubclass : Table :=
  { table with typeFilter := table.typeFilter.take 24 ++ [false, true, false, true, false, false, false, false] }
/-- the element of a collection counts as unconstrained only if the nested match has no kwargs -/
def tableUnconstrainedByKwargs : Table :=
  { table with unconstrained := [false, false, false, false, false, false, false, false,
                                 false, false, false, false, false, false, false, true] }
/-- a nested match on a collection is flattened only if it has kwargs or needs a type filter (krrood before f0a8439) -/
def tableLazyFlatten : Table :=
  { table with flatten := [false, false, false, false, true, true, false, true] }
/-- `contains` / `in_` swapped -/
def tableSwappedMembership : Table :=
  { table with infer := [.eq, .eq, .eq, .eq, .litIn, .litIn, .litIn, .litIn, .inLit, .inLit, .inLit, .inLit,
                         .inLitFlat, .inLitFlat, .inLitFlat, .eq] }
/-- `match_all` treated like `match_any` -/
def tableAllAsAny : Table :=
  { table with infer := table.infer.take 15 ++ [.inLitFlat] }
/-- a falsy value taken for "no type" (krrood before 5fb83cd) -/
def tableFalsyIsNoType : Table :=
  { table with dispatch := [.unresolved, .unresolved, .overLiteral, .unresolved] }

example : ¬ TableOk tableSwappedSubclass ∧ ¬ TableOk tableUnconstrainedByKwargs ∧ ¬ TableOk tableLazyFlatten ∧
    ¬ TableOk tableSwappedMembership ∧ ¬ TableOk tableAllAsAny ∧ ¬ TableOk tableFalsyIsNoType := by decide +kernel

namespace Witness
/-- `entity_matching(Cabinet, dom)(main=match(BigDrawer)())` -/
def mainIsBig : Pat := .mk (some 4) false (.cons "main" (.nested (.mk (some 3) false .nil)) .nil)
/-- `entity_matching(Cabinet, dom)(drawers=match(Drawer)(handle=match(Handle)()))` -/
def drawerWithHandle : Pat :=
  .mk (some 4) false (.cons "drawers" (.nested (.mk (some 2) false
    (.cons "handle" (.nested (.mk (some 0) false .nil)) .nil))) .nil)
/-- `entity_matching(Cabinet, dom)(tags=1)` -/
def tagOne : Pat := .mk (some 4) false (.cons "tags" (.lit (.int 1)) .nil)
/-- `entity_matching(Cabinet, dom)(drawers=match_all([o1]))` -/
def allDrawers : Pat := .mk (some 4) false (.cons "drawers" (.coll (.objs [1]) false true false) .nil)
end Witness

open Witness in
/-- On the witness world five of the changed tables give answers that differ from the specification,
while the hand-written table meets it on the same inputs. -/
theorem C11T_cex_tables :
    runWith table world Quirks.now schema dom mainIsBig = some (specRows world dom mainIsBig) ∧
    runWith tableSwappedSubclass world Quirks.now schema dom mainIsBig ≠ some (specRows world dom mainIsBig) ∧
    runWith table world Quirks.now schema dom drawerWithHandle = some (specRows world dom drawerWithHandle) ∧
    runWith tableUnconstrainedByKwargs world Quirks.now schema dom drawerWithHandle ≠
      some (specRows world dom drawerWithHandle) ∧
    runWith table world Quirks.now schema dom lazyFlatten = some (specRows world dom lazyFlatten) ∧
    runWith tableLazyFlatten world Quirks.now schema dom lazyFlatten ≠ some (specRows world dom lazyFlatten) ∧
    runWith table world Quirks.now schema dom tagOne = some (specRows world dom tagOne) ∧
    runWith tableSwappedMembership world Quirks.now schema dom tagOne ≠ some (specRows world dom tagOne) ∧
    runWith table world Quirks.now schema dom falsyValue = some (specRows world dom falsyValue) ∧
    runWith tableFalsyIsNoType world Quirks.now schema dom falsyValue ≠ some (specRows world dom falsyValue) := by
  decide +kernel

end KrroodVerif.Match
