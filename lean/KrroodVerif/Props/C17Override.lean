import KrroodVerif.Lemmas.ListBasics
import KrroodVerif.Model.ClassDiagram
/-!
C17 — field overriding: a subclass that re-declares a field name of one of its bases.

`CD.fieldTable` models `dataclasses.fields(cls)` / `typing.get_type_hints(cls)` with `upsert` ("`fields[f.name] = f` on an
insertion-ordered dict"). The theorems say what that means for a class that declares a name again.
-/
namespace KrroodVerif.CD

theorem upsert_names (fs : List Field) (f : Field) :
    (upsert fs f).map (·.name) =
      if (fs.map (·.name)).contains f.name then fs.map (·.name) else fs.map (·.name) ++ [f.name] := by
  have hc : (fs.map (·.name)).contains f.name = fs.any (fun g => g.name == f.name) := by
    rw [List.contains_eq_any_beq, List.any_map]
    exact congrArg fs.any (funext fun g => BEq.comm)
  rw [hc]
  unfold upsert
  split
  · rw [List.map_map]
    apply List.map_congr_left
    intro g _
    simp only [Function.comp]
    split
    · rename_i h
      exact (beq_iff_eq.mp h).symm
    · rfl
  · simp

/-- on field names `upsert` is the duplicate-dropping fold of `Lemmas/ListBasics` -/
theorem foldl_upsert_names (xs : List Field) : ∀ acc : List Field,
    (xs.foldl upsert acc).map (·.name) =
      (xs.map (·.name)).foldl (fun ns n => if ns.contains n then ns else ns ++ [n]) (acc.map (·.name)) := by
  intro acc
  rw [List.foldl_map]
  exact foldl_proj _ _ _ upsert_names xs acc

/-- the step `fieldTable` folds with (an anonymous function in the model): the inductions below generalise the
accumulator and need a name for it -/
def tableStep (tbl : List (Nat × List Field)) (c : ClassDef) : List (Nat × List Field) :=
  tbl ++ [(c.id, ((c.bases.reverse.flatMap (lookupFields tbl)) ++ c.own).foldl upsert [])]

theorem fieldTable_eq (defs : List ClassDef) : fieldTable defs = defs.foldl tableStep [] := rfl

theorem foldl_tableStep_nodup (ds : List ClassDef) :
    ∀ tbl : List (Nat × List Field), (∀ p ∈ tbl, (p.2.map (·.name)).Nodup) →
      ∀ p ∈ ds.foldl tableStep tbl, (p.2.map (·.name)).Nodup := by
  induction ds with
  | nil => intro tbl h; exact h
  | cons d ds ih =>
    intro tbl h
    apply ih
    intro p hp
    unfold tableStep at hp
    rcases List.mem_append.mp hp with hp | hp
    · exact h p hp
    · rw [List.mem_singleton] at hp
      subst hp
      rw [foldl_upsert_names]
      exact nodup_foldl_dedup _ List.nodup_nil

theorem lookupFields_nodup (tbl : List (Nat × List Field)) (h : ∀ p ∈ tbl, (p.2.map (·.name)).Nodup) (c : Nat) :
    ((lookupFields tbl c).map (·.name)).Nodup := by
  unfold lookupFields
  split
  · rename_i p hp
    exact h p (List.mem_of_find?_eq_some hp)
  · exact List.nodup_nil

/-- Whatever the classes declare and re-declare: no class has two fields of one name. -/
theorem C17_fields_names_nodup (w : World) (c : Nat) : ((w.fieldsOf c).map (·.name)).Nodup :=
  lookupFields_nodup _ (foldl_tableStep_nodup w.defs [] (fun _ h => nomatch h)) c

/-- No class has two public fields of one name either: `WFInput.names_nodup` holds for every world and class list -/
theorem C17_public_names_nodup (w : World) (c : Nat) : ((w.publicFields c).map (·.name)).Nodup :=
  List.Nodup.sublist (List.Sublist.map _ List.filter_sublist) (C17_fields_names_nodup w c)

theorem foldl_tableStep_prefix (ds : List ClassDef) :
    ∀ tbl : List (Nat × List Field), ∃ ext, ds.foldl tableStep tbl = tbl ++ ext ∧ ext.map (·.1) = ds.map (·.id) := by
  induction ds with
  | nil => intro tbl; exact ⟨[], by simp⟩
  | cons d ds ih =>
    intro tbl
    obtain ⟨ext, he, hi⟩ := ih (tableStep tbl d)
    refine ⟨(d.id, ((d.bases.reverse.flatMap (lookupFields tbl)) ++ d.own).foldl upsert []) :: ext, ?_, ?_⟩
    · rw [List.foldl_cons, he]
      unfold tableStep
      simp
    · simp [hi]

theorem lookupFields_append_left (tbl ext : List (Nat × List Field)) (c : Nat) (h : c ∈ tbl.map (·.1)) :
    lookupFields (tbl ++ ext) c = lookupFields tbl c := by
  unfold lookupFields
  obtain ⟨p, hp, hpc⟩ := List.mem_map.mp h
  have : (tbl.find? (fun p => p.1 == c)).isSome := List.find?_isSome.mpr ⟨p, hp, beq_iff_eq.mpr hpc⟩
  rw [List.find?_append, Option.or_of_isSome this]

/-- `dataclasses.fields` of a class defined once: the fields of the bases as they were when the
class statement ran (right to left), then the own declarations, later declarations of a name replacing earlier ones
in place. -/
theorem C17_fieldsOf_unfold (ds rest : List ClassDef) (d : ClassDef) (hid : d.id ∉ ds.map (·.id)) :
    (World.mk (ds ++ d :: rest)).fieldsOf d.id =
      ((d.bases.reverse.flatMap (lookupFields (fieldTable ds))) ++ d.own).foldl upsert [] := by
  unfold World.fieldsOf
  show lookupFields (fieldTable (ds ++ d :: rest)) d.id = _
  rw [fieldTable_eq, List.foldl_append, List.foldl_cons, ← fieldTable_eq]
  -- the classes after `d` only append rows: the look-up of `d.id` finds a row that is there after `d`'s step
  obtain ⟨ext, he, _⟩ := foldl_tableStep_prefix rest (tableStep (fieldTable ds) d)
  rw [he, lookupFields_append_left _ ext d.id (by simp [tableStep])]
  -- the rows before it carry the ids of `ds`, none of them `d.id`: the row found is the one `d`'s step appended
  obtain ⟨ext0, he0, hi0⟩ := foldl_tableStep_prefix ds []
  have hids : (fieldTable ds).map (·.1) = ds.map (·.id) := by
    rw [fieldTable_eq, he0]
    simpa using hi0
  have hnone : (fieldTable ds).find? (fun p => p.1 == d.id) = none := by
    rw [List.find?_eq_none]
    intro p hp hpc
    apply hid
    rw [← hids]
    exact List.mem_map.mpr ⟨p, hp, beq_iff_eq.mp hpc⟩
  unfold tableStep lookupFields
  rw [List.find?_append, hnone]
  simp

theorem mem_upsert_self (fs : List Field) (f : Field) : f ∈ upsert fs f := by
  unfold upsert
  split
  · rename_i h
    obtain ⟨g, hg, hgf⟩ := List.any_eq_true.mp h
    exact List.mem_map.mpr ⟨g, hg, by simp [hgf]⟩
  · simp

theorem mem_upsert_of_ne {fs : List Field} {f g : Field} (h : f ∈ fs) (hne : g.name ≠ f.name) : f ∈ upsert fs g := by
  unfold upsert
  split
  · refine List.mem_map.mpr ⟨f, h, ?_⟩
    have : (f.name == g.name) = false := beq_eq_false_iff_ne.mpr (fun e => hne e.symm)
    simp [this]
  · exact List.mem_append_left _ h

theorem mem_foldl_upsert (xs : List Field) :
    ∀ (acc : List Field) (f : Field), f ∈ acc → (∀ g ∈ xs, g.name ≠ f.name) → f ∈ xs.foldl upsert acc :=
  fun _ f h hne => List.foldlRecOn (motive := (f ∈ ·)) xs upsert h fun _ h x hx => mem_upsert_of_ne h (hne x hx)

theorem mem_foldl_upsert_last (pre post acc : List Field) (f : Field) (h : ∀ g ∈ post, g.name ≠ f.name) :
    f ∈ (pre ++ f :: post).foldl upsert acc := by
  rw [List.foldl_append, List.foldl_cons]
  exact mem_foldl_upsert post _ f (mem_upsert_self _ f) h

theorem later_names_ne {s t : List Field} {f : Field} (hn : ((s ++ f :: t).map (·.name)).Nodup) :
    ∀ g ∈ t, g.name ≠ f.name := by
  intro g hg e
  rw [List.map_append, List.map_cons] at hn
  have h2 := (List.nodup_append.mp hn).2.1
  exact (List.nodup_cons.mp h2).1 (e ▸ List.mem_map.mpr ⟨g, hg, rfl⟩)

/-- A class that declares field `f` itself (each name once in its body) has exactly that
declaration among its fields — whatever annotation its bases give to the same name — and, by `C17_fields_names_nodup`,
no other field of that name. -/
theorem C17_override_most_derived (ds rest : List ClassDef) (d : ClassDef) (hid : d.id ∉ ds.map (·.id))
    (hown : (d.own.map (·.name)).Nodup) (f : Field) (hf : f ∈ d.own) :
    f ∈ (World.mk (ds ++ d :: rest)).fieldsOf d.id ∧
    ∀ g ∈ (World.mk (ds ++ d :: rest)).fieldsOf d.id, g.name = f.name → g = f := by
  have hmem : f ∈ (World.mk (ds ++ d :: rest)).fieldsOf d.id := by
    rw [C17_fieldsOf_unfold ds rest d hid]
    obtain ⟨s, t, hst⟩ := List.append_of_mem hf
    rw [hst, ← List.append_assoc]
    exact mem_foldl_upsert_last _ t [] f (later_names_ne (hst ▸ hown))
  exact ⟨hmem, fun g hg hname => nodup_map_inj (C17_fields_names_nodup _ _) hg hmem hname⟩

theorem fieldsOf_single_base (ds rest : List ClassDef) (d : ClassDef) (b : Nat) (hid : d.id ∉ ds.map (·.id))
    (hb : d.bases = [b]) :
    (World.mk (ds ++ d :: rest)).fieldsOf d.id = ((World.mk ds).fieldsOf b ++ d.own).foldl upsert [] := by
  rw [C17_fieldsOf_unfold ds rest d hid, hb]
  simp [World.fieldsOf]

/-- Single inheritance: a field of the base whose name the class does not declare
again is a field of the class, with the base's annotation. -/
theorem C17_inherited_unless_redeclared (ds rest : List ClassDef) (d : ClassDef) (b : Nat)
    (hid : d.id ∉ ds.map (·.id)) (hb : d.bases = [b]) (f : Field) (hf : f ∈ (World.mk ds).fieldsOf b)
    (hno : ∀ g ∈ d.own, g.name ≠ f.name) :
    f ∈ (World.mk (ds ++ d :: rest)).fieldsOf d.id := by
  rw [fieldsOf_single_base ds rest d b hid hb]
  obtain ⟨s, t, hst⟩ := List.append_of_mem hf
  have ht := later_names_ne (hst ▸ C17_fields_names_nodup _ b)
  rw [hst, List.append_assoc, List.cons_append]
  apply mem_foldl_upsert_last
  intro g hg
  rcases List.mem_append.mp hg with hg | hg
  · exact ht g hg
  · exact hno g hg

/-- Single inheritance: the field names of the base, in the base's order, are a prefix of
the field names of the class — a re-declared name stays where the base introduced it (`dataclasses.fields` order),
only its annotation is the new one (`C17_override_most_derived`). -/
theorem C17_override_keeps_position (ds rest : List ClassDef) (d : ClassDef) (b : Nat)
    (hid : d.id ∉ ds.map (·.id)) (hb : d.bases = [b]) :
    ∃ ext, ((World.mk (ds ++ d :: rest)).fieldsOf d.id).map (·.name) =
      ((World.mk ds).fieldsOf b).map (·.name) ++ ext := by
  rw [fieldsOf_single_base ds rest d b hid hb, foldl_upsert_names, List.map_append, List.foldl_append, List.map_nil,
    foldl_dedup_eq_append _ [] (by simpa using C17_fields_names_nodup _ b)]
  exact foldl_dedup_prefix _ _

/-- `C3`, `C4(C3)`, `C0 {f0: C3, f1: int}`, `C1(C0)`, `C2(C1) {f2: int, f0: List[C4]}` -/
def wOverride : World :=
  ⟨[⟨3, [], []⟩, ⟨4, [3], []⟩,
    ⟨0, [], [⟨⟨false, 0⟩, .cls 3⟩, ⟨⟨false, 1⟩, .builtin .int⟩]⟩,
    ⟨1, [0], []⟩,
    ⟨2, [1], [⟨⟨false, 2⟩, .builtin .int⟩, ⟨⟨false, 0⟩, .container .list (.cls 4)⟩]⟩]⟩

/-- the most derived declaration wins and keeps the position of the first introduction; the base keeps its own -/
example : wOverride.fieldsOf 2 =
    [⟨⟨false, 0⟩, .container .list (.cls 4)⟩, ⟨⟨false, 1⟩, .builtin .int⟩, ⟨⟨false, 2⟩, .builtin .int⟩] ∧
    wOverride.fieldsOf 1 = [⟨⟨false, 0⟩, .cls 3⟩, ⟨⟨false, 1⟩, .builtin .int⟩] := by decide

/-- the association edge of the subclass follows its own declaration, the one of the base the base's -/
example : (build .current wOverride [0, 1, 2, 3, 4]).edges.filter (fun e => e.kind == .assoc ⟨false, 0⟩) =
    [⟨0, 3, .assoc ⟨false, 0⟩⟩, ⟨1, 3, .assoc ⟨false, 0⟩⟩, ⟨2, 4, .assoc ⟨false, 0⟩⟩] := by decide

/-- the shape of hypothesis `hid` of the theorems above (the id `2` against the first two definitions of `wOverride`) -/
example : (2 : Nat) ∉ ([⟨3, [], []⟩, ⟨4, [3], []⟩] : List ClassDef).map (·.id) := by decide

end KrroodVerif.CD
