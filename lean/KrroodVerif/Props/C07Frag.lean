import KrroodVerif.Model.SqlTr
import KrroodVerif.Model.SqlTable
/-!
# C07 — preservation on the fragment, for any evaluation of WHERE conditions with `SqlSem`

`tr_frag` (clause by clause of `tr`; `walk_spec` / `trChain_spec` for the aliased joins of a chain) speaks of ONE assignment
`env` of any number of variables; `C07_preserves_with` reads it at `env = [r]`, one candidate row of a single-variable
query.  Both use of the evaluation `ev` of WHERE conditions only `SqlSem ev`.  Props/C07Table.lean proves `SqlSem`
of every operator table passing `tableOk` and of the hand-written `evalSql`; Props/C07.lean states the property for
`evalSql` and has the witnesses of the findings.  At the end `C07_rejects`: what `translate_query` does not dispatch on.
-/
namespace KrroodVerif.SqlTr

/-! ## The fragment and the database hypothesis -/

/-- single-variable fragment: every chain is on the selected variable (index 0); two literals are not compared, and a
`None` literal only by `==` / `!=` -/
def Frag : Expr → Prop
  | .and l r => Frag l ∧ Frag r
  | .or l r => Frag l ∧ Frag r
  | .cmp op (.chain c) (.lit v) => c.var = 0 ∧ (v = none → op = .eq ∨ op = .ne)
  | .cmp op (.lit v) (.chain c) => c.var = 0 ∧ (v = none → op = .eq ∨ op = .ne)
  | .cmp _ (.chain c) (.chain d) => c.var = 0 ∧ d.var = 0
  | .isIn (.chain c) _ => c.var = 0
  | .attr c => c.var = 0
  | _ => False

/-- a scalar attribute value: `None`/NULL or a number -/
def Scalar (v : Val) : Prop := v = .null ∨ ∃ n, v = .num n

/-- the ordering comparators: in memory they raise TypeError on `None` -/
def isOrd : Cmp → Bool
  | .eq | .ne => false
  | _ => true

/-- the chains that occur in an ordering comparison -/
def ordChains : Expr → List Chain
  | .and l r | .or l r => ordChains l ++ ordChains r
  | .cmp op l r =>
    if isOrd op then
      (match l with | .chain c => [c] | _ => []) ++ (match r with | .chain c => [c] | _ => [])
    else []
  | _ => []

/-- on every candidate row every compared chain evaluates (no NULL relationship hop) to a scalar — NULL IS ALLOWED on
the compared column for `==`, `!=`, `in_` and truthiness (the translator with fix 1eb4fe3 for F-C07-2) — and to a number
where it is compared by `< <= > >=` (in memory an ordering comparison with `None` raises TypeError). -/
def Good (db : DB) (roots : List Nat) (e : Expr) : Prop :=
  (∀ r ∈ roots, ∀ c ∈ exprChains e, ∃ v, chainVal db [r] c = some v ∧ Scalar v) ∧
  (∀ r ∈ roots, ∀ c ∈ ordChains e, ∃ n, chainVal db [r] c = some (.num n))

/-- `Good` at one assignment `env` of the variables: `Good db roots e` is `GoodAt db [r] e` for every `r ∈ roots` -/
def GoodAt (db : DB) (env : List Nat) (e : Expr) : Prop :=
  (∀ c ∈ exprChains e, ∃ v, chainVal db env c = some v ∧ Scalar v) ∧
  (∀ c ∈ ordChains e, ∃ n, chainVal db env c = some (.num n))

theorem Good.at {db : DB} {roots : List Nat} {e : Expr} (hg : Good db roots e) {r : Nat} (hr : r ∈ roots) :
    GoodAt db [r] e :=
  ⟨hg.1 r hr, hg.2 r hr⟩

/-! ## Chains and joins -/

theorem navObj_append (db : DB) : ∀ (p q : List Attr) (i : Nat),
    navObj db i (p ++ q) = (navObj db i p).bind (fun j => navObj db j q) := by
  intro p
  induction p with
  | nil =>
    intro q i
    simp [navObj]
  | cons a p ih =>
    intro q i
    simp only [List.cons_append, navObj]
    split <;> simp [ih]

theorem navObj_prefix_isSome (db : DB) (p suf : List Attr) (i : Nat)
    (h : (navObj db i (p ++ suf)).isSome) : (navObj db i p).isSome := by
  rw [navObj_append] at h
  cases hp : navObj db i p with
  | none => simp [hp] at h
  | some j => simp

theorem mem_addJoin {st : St} {j j' : Join} (h : j' ∈ (addJoin st j).joins) :
    j' ∈ st.joins ∨ j' = j := by
  unfold addJoin at h
  split at h
  · exact Or.inl h
  · simp only [List.mem_append, List.mem_singleton] at h
    exact h

theorem addJoin_eqJoins (st : St) (j : Join) : (addJoin st j).eqJoins = st.eqJoins := by
  unfold addJoin
  split <;> rfl

/-- what a successful chain walk returns: the column of the alias reached by all hops but the last, the equality
joins untouched, and every new aliased join is a prefix of the walked hops. -/
theorem walk_spec (S : Schema) (var : Nat) (rest : List Attr) (cur : Cls) (acc : List Attr) (st : St)
    (col : ColRef) (st' : St) (h : walk S var cur acc rest st = .ok (col, st')) :
    (∃ a, rest.getLast? = some a ∧ col = ⟨var, acc ++ rest.dropLast, a⟩) ∧ st'.eqJoins = st.eqJoins ∧
    (∀ j ∈ st'.joins, j ∈ st.joins ∨ (j.var = var ∧ ∃ suf, acc ++ rest.dropLast = j.path ++ suf)) := by
  fun_induction walk S var cur acc rest st with
  -- rejected: an empty chain, a last attribute that is no column, a hop that is no relationship
  | case1 | case4 | case6 => cases h
  -- the last attribute is a relationship (its FK column) or a column
  | case2 cur acc a st | case3 cur acc a st =>
    cases h
    exact ⟨⟨a, by simp, by simp⟩, rfl, fun j hj => Or.inl hj⟩
  | case5 cur acc a b rest st t _ ih =>
    -- a relationship hop: its alias is joined and the walk goes on from the target class
    obtain ⟨⟨x, hx1, hx2⟩, he, hj⟩ := ih h
    rw [List.append_assoc, List.singleton_append, ← List.dropLast_cons_cons] at hx2 hj
    refine ⟨⟨x, by rw [List.getLast?_cons_cons]; exact hx1, hx2⟩, by rw [he, addJoin_eqJoins], ?_⟩
    intro j hjm
    rcases hj j hjm with hj' | hj'
    · rcases mem_addJoin hj' with h1 | rfl
      · exact Or.inl h1
      · exact Or.inr ⟨rfl, (b :: rest).dropLast, by rw [List.dropLast_cons_cons]; simp⟩
    · exact Or.inr hj'

theorem markSeen_joins (st : St) (v : Nat) : (markSeen st v).joins = st.joins ∧ (markSeen st v).eqJoins = st.eqJoins := by
  unfold markSeen
  split <;> exact ⟨rfl, rfl⟩

theorem trChain_spec {S : Schema} {vars : List Cls} {db : DB} {env : List Nat} {c : Chain} {st st' : St} {col : ColRef}
    {v : Val} (hv : chainVal db env c = some v) (hjo : joinsOk db env st.joins = true)
    (h : trChain S vars c st = .ok (col, st')) :
    joinsOk db env st'.joins = true ∧ st'.eqJoins = st.eqJoins ∧ (sqlColVal db env col).getD .null = v := by
  unfold trChain at h
  split at h
  · cases h
  · split at h
    · cases h
    · obtain ⟨⟨a, ha, rfl⟩, he, hj⟩ := walk_spec S c.var c.path _ [] _ col st' h
      simp only [List.nil_append, (markSeen_joins st c.var).1] at hj
      unfold chainVal at hv
      rw [ha] at hv
      cases hi : env[c.var]? with
      | none => simp [hi] at hv
      | some i =>
        simp only [hi] at hv
        refine ⟨?_, he.trans (markSeen_joins st c.var).2, by simp [sqlColVal, hi, hv]⟩
        unfold joinsOk at hjo ⊢
        rw [List.all_eq_true] at hjo ⊢
        intro j hjm
        rcases hj j hjm with h1 | ⟨hv0, suf, hsuf⟩
        · exact hjo j h1
        · -- a join added by the walk follows a prefix of the chain's hops, and the chain evaluates
          rw [hv0, hi, Option.bind_some]
          apply navObj_prefix_isSome db j.path suf i
          rw [← hsuf]
          unfold colVal at hv
          cases hnav : navObj db i c.path.dropLast with
          | none => simp [hnav] at hv
          | some k => rfl

/-! ## Kleene connectives and `SqlSem` -/

theorem and3_true (x y : Option Bool) : and3 x y = some true ↔ x = some true ∧ y = some true := by
  rcases x with _ | _ | _ <;> rcases y with _ | _ | _ <;> simp [and3]

theorem or3_true (x y : Option Bool) : or3 x y = some true ↔ x = some true ∨ y = some true := by
  rcases x with _ | _ | _ <;> rcases y with _ | _ | _ <;> simp [or3]

/-- What the proof needs to know about an evaluation `ev` of WHERE conditions: Kleene and/or, and for each kind of
atom that it is TRUE exactly when Python's operator is True on the same (scalar) values — wherever Python's operator is
defined.  `evalSqlT T` satisfies it for EVERY operator table `T` that passes the decidable check `tableOk`
(`evalSqlT_sem`), hence so does the hand-written `evalSql`, the interpretation of `opTable` (`evalSql_sem`); both in
Props/C07Table.lean. -/
structure SqlSem (ev : DB → List Nat → SqlCond → Option Bool) : Prop where
  and_ : ∀ db env a b, ev db env (.and a b) = and3 (ev db env a) (ev db env b)
  or_ : ∀ db env a b, ev db env (.or a b) = or3 (ev db env a) (ev db env b)
  cmp : ∀ db env op a b bb, Scalar (sqlOperandVal db env a) → Scalar (sqlOperandVal db env b) →
    pyCmp op (sqlOperandVal db env a) (sqlOperandVal db env b) = some bb →
    (ev db env (.cmp op a b) = some true ↔ bb = true)
  inList : ∀ db env c vs, Scalar ((sqlColVal db env c).getD .null) →
    (ev db env (.inList c vs) = some true ↔
      (vs.any fun w => litVal w == (sqlColVal db env c).getD .null) = true)
  truthy : ∀ db env c, Scalar ((sqlColVal db env c).getD .null) →
    (ev db env (.truthy c) = some true ↔ pyTruthy ((sqlColVal db env c).getD .null) = true)

/-! ## The translated condition, atom by atom -/

theorem GoodAt.and {db : DB} {env : List Nat} {l r : Expr} (hg : GoodAt db env (.and l r)) :
    GoodAt db env l ∧ GoodAt db env r :=
  ⟨⟨fun c h => hg.1 c (List.mem_append_left _ h), fun c h => hg.2 c (List.mem_append_left _ h)⟩,
   ⟨fun c h => hg.1 c (List.mem_append_right _ h), fun c h => hg.2 c (List.mem_append_right _ h)⟩⟩

theorem GoodAt.or {db : DB} {env : List Nat} {l r : Expr} (hg : GoodAt db env (.or l r)) :
    GoodAt db env l ∧ GoodAt db env r :=
  GoodAt.and (l := l) (r := r) hg

theorem eqJoinFor_fallthrough (S : Schema) (vars : List Cls) (uo : Bool) (op : Cmp) (l r : Operand) (st : St)
    (h : ∀ c d, l = .chain c → r = .chain d → c.var = d.var) : eqJoinFor S vars uo op l r st = .fallthrough := by
  unfold eqJoinFor
  split
  · split
    · rfl
    · simp [eqJoinAttempt, h _ _ rfl rfl]
  · rfl

/-- what `Frag` and `GoodAt` say of one operand of a comparison by `op`: it is a chain on the selected variable that
evaluates to a scalar (to a number where `op` is an ordering), or a literal (not `None` where `op` is an ordering) -/
inductive FragOperand (db : DB) (env : List Nat) (op : Cmp) : Operand → Prop
  | chain (c : Chain) (h0 : c.var = 0)
      (hval : ∃ v, chainVal db env c = some v ∧ Scalar v ∧ (isOrd op = true → ∃ n, v = .num n)) :
      FragOperand db env op (.chain c)
  | lit (v : Option Int) (hnone : v = none → op = .eq ∨ op = .ne) : FragOperand db env op (.lit v)

theorem litVal_scalar (m : Option Int) : Scalar (litVal m) := by
  cases m with
  | none => exact Or.inl rfl
  | some n => exact Or.inr ⟨n, rfl⟩

theorem FragOperand.val {db : DB} {env : List Nat} {op : Cmp} {o : Operand} (ho : FragOperand db env op o) :
    ∃ v, operandVal db env o = some v ∧ Scalar v ∧ (isOrd op = true → ∃ n, v = .num n) := by
  cases ho with
  | chain c h0 hval => exact hval
  | lit v hnone =>
    refine ⟨_, rfl, litVal_scalar v, fun hord => ?_⟩
    cases v with
    | some n => exact ⟨n, rfl⟩
    | none =>
      rcases hnone rfl with rfl | rfl
      · cases hord
      · cases hord

theorem pyCmp_defined {op : Cmp} {v w : Val} (hv : isOrd op = true → ∃ n, v = .num n)
    (hw : isOrd op = true → ∃ m, w = .num m) : ∃ bb, pyCmp op v w = some bb := by
  cases op
  case eq => exact ⟨_, rfl⟩
  case ne => exact ⟨_, rfl⟩
  all_goals
    obtain ⟨n, rfl⟩ := hv rfl
    obtain ⟨m, rfl⟩ := hw rfl
    exact ⟨_, rfl⟩

theorem good_chain {db : DB} {env : List Nat} {op : Cmp} {l r : Operand} {c : Chain}
    (hg : GoodAt db env (.cmp op l r)) (h0 : c.var = 0) (hc : c ∈ exprChains (.cmp op l r)) :
    FragOperand db env op (.chain c) := by
  refine .chain c h0 ?_
  obtain ⟨v, hv, hs⟩ := hg.1 c hc
  refine ⟨v, hv, hs, fun hord => ?_⟩
  obtain ⟨n, hn⟩ := hg.2 c (show c ∈ if isOrd op = true then exprChains (.cmp op l r) else [] by rwa [if_pos hord])
  exact ⟨n, Option.some.inj (hv.symm.trans hn)⟩

theorem frag_cmp {db : DB} {env : List Nat} {op : Cmp} {l r : Operand} (hf : Frag (.cmp op l r))
    (hg : GoodAt db env (.cmp op l r)) : FragOperand db env op l ∧ FragOperand db env op r := by
  cases l with
  | chain c =>
    cases r with
    | lit v =>
      exact ⟨good_chain hg hf.1 (by simp [exprChains]), .lit v hf.2⟩
    | chain d =>
      exact ⟨good_chain hg hf.1 (by simp [exprChains]), good_chain hg hf.2 (by simp [exprChains])⟩
    | _ => simp [Frag] at hf
  | lit v =>
    cases r with
    | chain c =>
      exact ⟨.lit v hf.2, good_chain hg hf.1 (by simp [exprChains])⟩
    | _ => simp [Frag] at hf
  | _ => simp [Frag] at hf

/-- a comparison of the fragment is neither `variable == object` nor an equality join: `tr` goes the ordinary way -/
theorem frag_cmp_dispatch (S : Schema) (vars : List Cls) (uo : Bool) (st : St) {db : DB} {env : List Nat} {op : Cmp}
    {l r : Operand} (hf : Frag (.cmp op l r)) (hg : GoodAt db env (.cmp op l r)) :
    varObj? l r = none ∧ eqJoinFor S vars uo op l r st = .fallthrough := by
  obtain ⟨hl, hr⟩ := frag_cmp hf hg
  refine ⟨by cases hl <;> cases hr <;> rfl, ?_⟩
  apply eqJoinFor_fallthrough
  rintro c d rfl rfl
  cases hl with | chain _ hc _ => cases hr with | chain _ hd _ => rw [hc, hd]

theorem trOrdinary_ok {S : Schema} {vars : List Cls} {op : Cmp} {l r : Operand} {st st' : St} {p : Option SqlCond}
    (h : trOrdinary S vars op l r st = .ok (p, st')) :
    ∃ a st1 b, trOperand S vars l st = .ok (a, st1) ∧ trOperand S vars r st1 = .ok (b, st') ∧
      p = some (.cmp op a b) := by
  unfold trOrdinary at h
  split at h
  · cases h
  · rename_i a st1 h1
    split at h
    · cases h
    · rename_i b st2 h2
      cases h
      exact ⟨a, st1, b, h1, h2, rfl⟩

theorem trOperand_spec {S : Schema} {vars : List Cls} {db : DB} {env : List Nat} {o : Operand} {st st' : St}
    {a : SqlOperand} {v : Val} (hv : operandVal db env o = some v) (hjo : joinsOk db env st.joins = true)
    (h : trOperand S vars o st = .ok (a, st')) :
    joinsOk db env st'.joins = true ∧ st'.eqJoins = st.eqJoins ∧ sqlOperandVal db env a = v := by
  cases o with
  | lit w =>
    cases h
    exact ⟨hjo, rfl, Option.some.inj hv⟩
  | chain c =>
    simp only [trOperand, Except.map] at h
    split at h
    · cases h
    · rename_i colst hc
      cases h
      exact trChain_spec hv hjo hc
  | other k => cases hv
  | var w smp => cases h
  | obj i => cases h

/-- On the fragment, under any assignment `env` of the variables on which the compared chains evaluate to scalars, the
translated condition is TRUE under SQL's logic exactly when in-memory evaluation (which does not raise) says True; the
joins added find their partner rows.  By the induction principle of `tr`: one case per clause and outcome of the calls
it makes, in the order of the definition, with those outcomes as hypotheses. -/
theorem tr_frag (ev : DB → List Nat → SqlCond → Option Bool) (hs : SqlSem ev)
    (S : Schema) (vars : List Cls) (db : DB) (env : List Nat) (e : Expr) (uo : Bool) (st : St) :
    ∀ (p : Option SqlCond) (st' : St), Frag e → GoodAt db env e → joinsOk db env st.joins = true →
    tr S vars uo e st = .ok (p, st') →
    joinsOk db env st'.joins = true ∧ st'.eqJoins = st.eqJoins ∧
    ∃ c b, p = some c ∧ evalCond db env e = some b ∧ (ev db env c = some true ↔ b = true) := by
  fun_induction tr S vars uo e st
  -- clause `.and l r`, third outcome (`translate_and`): both sides translated, parts combined
  case case3 uo l r st pl st1 h1 pr st2 h2 ihl ihr =>
    rintro _ _ hf hg hjo ⟨⟩
    obtain ⟨j1, e1, cl, bl, rfl, hbl, hbl'⟩ := ihl pl st1 hf.1 hg.and.1 hjo h1
    obtain ⟨j2, e2, cr, br, rfl, hbr, hbr'⟩ := ihr pr st2 hf.2 hg.and.2 j1 h2
    refine ⟨j2, e2.trans e1, .and cl cr, bl && br, rfl, ?_, ?_⟩
    · simp only [evalCond, hbl]
      cases bl <;> simp [hbr]
    · simp only [hs.and_, and3_true, hbl', hbr', Bool.and_eq_true]
  -- clause `.or l r`, third outcome (`translate_or`): both sides translated below `or_`, parts combined
  case case6 uo l r st pl st1 h1 pr st2 h2 ihl ihr =>
    rintro _ _ hf hg hjo ⟨⟩
    obtain ⟨j1, e1, cl, bl, rfl, hbl, hbl'⟩ := ihl pl st1 hf.1 hg.or.1 hjo h1
    obtain ⟨j2, e2, cr, br, rfl, hbr, hbr'⟩ := ihr pr st2 hf.2 hg.or.2 j1 h2
    refine ⟨j2, e2.trans e1, .or cl cr, bl || br, rfl, ?_, ?_⟩
    · simp only [evalCond, hbl]
      cases bl <;> simp [hbr]
    · simp only [hs.or_, or3_true, hbl', hbr', Bool.or_eq_true]
  -- clause `.cmp op l r` (`translate_comparator`), first branch: a whole variable against an object (`trVarObj`); the
  -- operands of the fragment are chains and literals
  case case7 uo op l r st v smp i hvo =>
    intro p st' hf hg
    simp [(frag_cmp_dispatch S vars uo st hf hg).1] at hvo
  -- clause `.cmp op l r`, second branch: `_handle_attribute_equality_join` returned None, the ordinary comparison
  -- (`trOrdinary`: both operands translated, operator mapped)
  case case8 uo op l r st _ _ =>
    intro p st' hf hg hjo h
    obtain ⟨hl, hr⟩ := frag_cmp hf hg
    obtain ⟨a, st1, b, h1, h2, rfl⟩ := trOrdinary_ok h
    obtain ⟨va, hva, hsa, hoa⟩ := hl.val
    obtain ⟨vb, hvb, hsb, hob⟩ := hr.val
    obtain ⟨j1, e1, rfl⟩ := trOperand_spec hva hjo h1
    obtain ⟨j2, e2, rfl⟩ := trOperand_spec hvb j1 h2
    obtain ⟨bb, hbb⟩ := pyCmp_defined hoa hob
    exact ⟨j2, e2.trans e1, _, bb, rfl, by simp only [evalCond, hva, hvb, hbb], hs.cmp db env op a b bb hsa hsb hbb⟩
  -- clause `.cmp op l r`, third branch: `_handle_attribute_equality_join` emitted a JOIN; the chains of the fragment are
  -- on one variable
  case case9 uo op l r st _ st1 hj =>
    intro p st' hf hg
    simp [(frag_cmp_dispatch S vars uo st hf hg).2] at hj
  -- clause `.isIn (.chain c) vs`, chain translated (`_handle_contains_operator` on a literal collection): `null_safe_in`
  case case12 uo vs st c col st1 hc =>
    rintro _ _ hf hg hjo ⟨⟩
    obtain ⟨w, hw, hsc⟩ := hg.1 c (by simp [exprChains])
    obtain ⟨j1, e1, rfl⟩ := trChain_spec hw hjo hc
    exact ⟨j1, e1, _, _, rfl, by simp [evalCond, operandVal, hw], hs.inList db env col vs hsc⟩
  -- clause `.attr c`, chain translated (`translate_attribute` as the condition): the column's truthiness
  case case22 uo c st col st1 hc =>
    rintro _ _ hf hg hjo ⟨⟩
    obtain ⟨w, hw, hsc⟩ := hg.1 c (by simp [exprChains])
    obtain ⟨j1, e1, rfl⟩ := trChain_spec hw hjo hc
    exact ⟨j1, e1, _, _, rfl, by simp [evalCond, hw], hs.truthy db env col hsc⟩
  -- the others: the clause ends in an error, or its atom (substring test, string attribute) is outside `Frag`
  all_goals simp only [Frag, reduceCtorEq, false_imp_iff, implies_true]

/-! ## Preservation, the dispatch -/

/-- in-memory selection (keep `r` where `f r` is `some true`) and SQL execution (`r` once per surviving join row, `F r`)
list the same rows when both are decided by the same `g` -/
theorem selected_eq_flatMap (roots : List Nat) (f : Nat → Option Bool) (g : Nat → Bool) (F : Nat → List Nat)
    (hf : ∀ r ∈ roots, f r = some (g r)) (hF : ∀ r ∈ roots, F r = if g r then [r] else []) :
    ((roots.map fun r => (r, f r)).filter fun p => p.2 == some true).map (·.1) = roots.flatMap F := by
  induction roots with
  | nil => simp
  | cons r rs ih =>
    have ih' := ih (fun x hx => hf x (List.mem_cons_of_mem _ hx)) (fun x hx => hF x (List.mem_cons_of_mem _ hx))
    simp only [List.map_cons, List.flatMap_cons, List.filter_cons, hf r (List.mem_cons_self ..),
      hF r (List.mem_cons_self ..)]
    cases g r <;> simp [ih']

/-- with one variable there is one assignment: the root is selected as the condition says of it -/
theorem memSelects_single {S : Schema} {db : DB} {q : Query} {sel : Cls} {e : Expr} {r : Nat} {b : Bool}
    (hv : q.vars = [sel]) (hb : evalCond db [r] e = some b) : memSelects S db q e r = some b := by
  unfold memSelects
  rw [hv]
  simp only [List.tail_cons, assignments, List.map_cons, List.map_nil, hb]
  cases b <;> simp

theorem translate_ok {S : Schema} {q : Query} {s : SqlQuery} (h : translate S q = .ok s) :
    ∃ sel e w st, q.vars[0]? = some sel ∧ q.cond = some e ∧ tr S q.vars false e {} = .ok (w, st) ∧
      s = ⟨sel, q.vars, st.seen, st.joins, st.eqJoins, w, st.flags⟩ := by
  revert h
  fun_cases translate S q with
  | case6 _ sel hsel _ _ e he w st htr =>
    -- the one clause that returns a statement
    rintro ⟨⟩
    exact ⟨sel, e, w, st, hsel, he, htr, rfl⟩
  -- every other clause rejects
  | _ => nofun

theorem translate_no_dao {S : Schema} {q : Query} {sel : Cls} (hk : q.kind = .entity) (hv : q.vars[0]? = some sel)
    (hf : findClass S sel = none) : translate S q = .error (.rejected .missingDAO) := by
  simp [translate, hk, hv, hf]

/-- `C07_preserves_partial` for any evaluation `ev` of WHERE conditions with `SqlSem ev`: the statement executed with
`ev` returns exactly the entities in-memory evaluation returns.  Instances: the hand-written semantics
(`C07_preserves_partial`) and every operator table passing `tableOk` (`C07_table_preserves`). -/
theorem C07_preserves_with (ev : DB → List Nat → SqlCond → Option Bool) (hs : SqlSem ev)
    (S : Schema) (db : DB) (q : Query) (sel : Cls) (e : Expr) (s : SqlQuery)
    (hv : q.vars = [sel]) (hc : q.cond = some e) (hf : Frag e) (hg : Good db (rootsOf S db sel) e)
    (ht : translate S q = .ok s) :
    evalMem S q db = some (execSqlWith ev S s db) := by
  obtain ⟨sel', e', w, st, hsel0, he, htr, rfl⟩ := translate_ok ht
  rw [hv] at hsel0 htr
  cases hsel0
  cases hc.symm.trans he
  -- row by row: the WHERE clause decides as memory does, the joins find their rows, there is no equality join
  have hrow : ∀ r ∈ rootsOf S db sel, memSelects S db q e r = some (whereTrueWith ev db [r] w) ∧
      joinsOk db [r] st.joins = true ∧ st.eqJoins = [] := by
    intro r hr
    obtain ⟨hjo, hej, c, b, rfl, hb, hiff⟩ := tr_frag ev hs S [sel] db [r] e false {} w st hf (hg.at hr) rfl htr
    refine ⟨?_, hjo, hej⟩
    rw [memSelects_single hv hb, whereTrueWith, Option.some.injEq, Bool.eq_iff_iff, beq_iff_eq]
    exact hiff.symm
  unfold evalMem execSqlWith
  rw [hv, hc]
  simp only [List.getElem?_cons_zero, List.tail_cons, restEnvs]
  generalize rootsOf S db sel = roots at hrow
  have hnone : (List.map (fun r => (r, memSelects S db q e r)) roots).any (fun p => p.2.isNone) = false := by
    rw [List.any_eq_false]
    intro p hp
    simp only [List.mem_map] at hp
    obtain ⟨r, hr, rfl⟩ := hp
    simp [(hrow r hr).1]
  simp only [hnone, Bool.false_eq_true, ↓reduceIte, Option.some.injEq]
  -- with no other FROM element a root `r` has the one combination `[r]`; it passes the joins (`hjo`), there is no ON clause
  -- (`hej`), so `r` is returned once or not at all as WHERE decides
  exact selected_eq_flatMap roots _ (fun r => whereTrueWith ev db [r] w) _ (fun r hr => (hrow r hr).1)
    (fun r hr => by
      obtain ⟨_, hjo, hej⟩ := hrow r hr
      simp only [List.filter_cons, List.filter_nil, hjo, hej, List.all_nil, Bool.and_true, Bool.true_and]
      cases whereTrueWith ev db [r] w <;> simp)

/-- constructors outside the dispatch of `translate_query` -/
def OutsideDispatch : Expr → Prop
  | .not _ | .exist _ _ | .all _ _ | .pred _ | .bareVar _ | .bareLit _ => True
  | _ => False

/-- Every constructor outside the dispatch yields an `EQLTranslationError`
(`UnsupportedQueryTypeError`), in every translator state. -/
theorem C07_rejects (S : Schema) (vars : List Cls) (uo : Bool) (e : Expr) (st : St) (h : OutsideDispatch e) :
    tr S vars uo e st = .error (.rejected .unsupportedQueryType) := by
  cases e with
  | not _ => rfl
  | exist _ _ => rfl
  | all _ _ => rfl
  | pred _ => rfl
  | bareVar _ => rfl
  | bareLit _ => rfl
  | _ => exact h.elim

end KrroodVerif.SqlTr
