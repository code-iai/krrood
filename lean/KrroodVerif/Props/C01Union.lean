import KrroodVerif.Lemmas.EqlUnion
import KrroodVerif.Props.C01
/-!
# C01 — `or_` between conditions over different variables (`Union`) in positive positions

The lemmas are in `Lemmas/EqlUnion.lean` and `Lemmas/EqlQuant.lean`.

The **positive fragment** `Expr.Fp` (surface version `SExpr.Fp1`; both in `Lemmas/EqlUnion.lean`) is, by `Expr.Fp_eq`,
*exactly* "well-formed atoms, no quantifier, `Expr.unionUnderNot = false`": the complement of the trigger of F-C01-1.

A `Union`'s result stream is not a decision partition — the same assignment can lie in several true cells (so
`C02_multiplicity` fails: see the duplicates in the example below) and a *false* cell compatible with `τ` does not mean
that the condition is false under `τ` (F-C01-1) — so `C01_cover` does not extend to it. Proved instead (unbounded):
`union_true_sound`, `union_cell_complete` (both in `Lemmas/EqlUnion.lean`), `union_true_complete` and the query-level set equality
`C01_sound_complete_union_partial`, of which `C01_sound_complete_F1_partial` is a special case (`SExpr.F1_Fp1`).
-/
namespace KrroodVerif.Eql

/-- For `e` in the positive fragment, a total assignment `τ` compatible with `env` that
satisfies `e` lies in some **true** result cell of `eval w e env`. -/
theorem union_true_complete (w : World) (τ : Asg) (e : Expr)
    (hF : e.Fp = true) (hτ : ∀ v ∈ e.vars, ∃ x, τ.lookup v = some x ∧ (w.dom v).count x = 1)
    (hlit : LitNodup e) (env : Env) (rs : List (Env × Bool))
    (hfresh : ∀ id, Key.lit id ∈ e.nodes → env.lookup (.lit id) = none)
    (hag : agreesB τ env = true)
    (he : eval w e env = .ok rs) (hs : satE w e τ = .ok true) :
    ∃ p ∈ rs, p.2 = true ∧ agreesB τ p.1 = true :=
  union_cell_complete w τ e hF hτ hlit env rs true hfresh hag he hs

/-- Soundness and completeness as sets of rows on the positive fragment:
conditions over `and_`, `or_` between conditions over **arbitrary** variable sets (`ElseIf` or `Union`) and
`not_` over `F1` sub-conditions (`SExpr.Fp1`: no `Union` below a `not_`, the negation of the trigger of F-C01-1);
selections as in `C01_sound_complete_F1_partial` (`selF1`, `trigMultiSel q = false`). Side conditions:
duplicate-free and — for the query's variables — non-empty domains (the negation of the trigger of
F-C01-9), distinct literal ids. About the engine at fix commit `78cb732` (before it, F-C01-3, truthy domains as well).
Conditional on both sides returning `.ok`. A true cell of a `Union` may leave
variables of the condition unbound; a selected one then ranges over its whole domain, and every such completion
satisfies the condition (`union_true_sound`). -/
theorem C01_sound_complete_union_partial (w : World) (q : SQuery) (c : SExpr)
    (hc : q.cond = some c) (hF : c.Fp1 = true) (hsel : selF1 q.sel = true) (hms : trigMultiSel q = false)
    (hnd : ∀ v, (w.dom v).Nodup) (hne : ∀ v ∈ q.vars, w.dom v ≠ [])
    (hlit : LitNodup (build c))
    {rows rows' : List (List Val)}
    (h1 : evalQuery w q.toQuery = .ok rows) (h2 : solutions w q = .ok rows') :
    ∀ r, r ∈ rows ↔ r ∈ rows' := by
  obtain ⟨sel, cond⟩ := q
  simp only at hc
  subst hc
  exact sound_complete_Fp w sel c hF hsel (hasDup_false_iff.mp hms) hnd hne hlit h1 h2

/-! ## non-vacuity

`set_of([x, y], or_(x.a == 1, y.a == 2))` over the 3-object world of `Props/C02.lean` (`a ∈ {0,1,2}`): the
condition is built as a `Union` (different variable sets), it is in `Fp1` but not in `F1`, every hypothesis of
`C01_sound_complete_union_partial` holds; 5 of the 9 assignments satisfy it. The engine returns 8 rows: the same
*set* as the specification, with three duplicates (`(P1,P2)` from the left branch and from "right alone",
`(P0,P2)`, `(P2,P2)` from the fall-through and from "right alone") — the multiset statement `C02_multiplicity`
does not extend to `Union`. -/
def c01unC : SExpr :=
  .or (.cmp .eq (.attr (.var 0) "a") (.lit 101 (.int 1))) (.cmp .eq (.attr (.var 1) "a") (.lit 102 (.int 2)))
def c01unQ : SQuery := ⟨[.var 0, .var 1], some c01unC⟩

example :
    c01unQ.cond = some c01unC ∧ c01unC.Fp1 = true ∧ c01unC.F1 = false ∧
    build c01unC = .union (.cmp .eq (.attr (.var 0) "a") (.lit 101 (.int 1)))
      (.cmp .eq (.attr (.var 1) "a") (.lit 102 (.int 2))) ∧
    (build c01unC).Fp = true ∧ (build c01unC).Fc = false ∧
    selF1 c01unQ.sel = true ∧ trigMultiSel c01unQ = false ∧ (∀ v, (c02nvW.dom v).Nodup) ∧
    (∀ v ∈ c01unQ.vars, c02nvW.dom v ≠ []) ∧ LitNodup (build c01unC) ∧
    evalQuery c02nvW c01unQ.toQuery = .ok [[.obj 0, .obj 2], [.obj 1, .obj 0], [.obj 1, .obj 1], [.obj 1, .obj 2],
      [.obj 2, .obj 2], [.obj 0, .obj 2], [.obj 1, .obj 2], [.obj 2, .obj 2]] ∧
    solutions c02nvW c01unQ = .ok [[.obj 0, .obj 2], [.obj 1, .obj 0], [.obj 1, .obj 1], [.obj 1, .obj 2],
      [.obj 2, .obj 2]] ∧
    sameAnswers (evalQuery c02nvW c01unQ.toQuery) (solutions c02nvW c01unQ) = true ∧
    (assignments c02nvW c01unQ.vars).length = 9 :=
  ⟨rfl,
    by decide +kernel,
    by decide +kernel,
    by decide +kernel,
    by decide +kernel,
    by decide +kernel,
    by decide +kernel,
    by decide +kernel,
    domsNodup_of_B (by decide +kernel),
    by decide +kernel,
    by decide +kernel,
    by decide +kernel,
    by decide +kernel,
    by decide +kernel,
    by decide +kernel⟩

example : ∀ r, r ∈ [[Val.obj 0, .obj 2], [.obj 1, .obj 0], [.obj 1, .obj 1], [.obj 1, .obj 2],
      [.obj 2, .obj 2], [.obj 0, .obj 2], [.obj 1, .obj 2], [.obj 2, .obj 2]] ↔
    r ∈ [[Val.obj 0, .obj 2], [.obj 1, .obj 0], [.obj 1, .obj 1], [.obj 1, .obj 2], [.obj 2, .obj 2]] :=
  C01_sound_complete_union_partial c02nvW c01unQ c01unC rfl
    (by decide +kernel)
    (by decide +kernel)
    (by decide +kernel)
    (domsNodup_of_B (by decide +kernel))
    (by decide +kernel)
    (by decide +kernel)
    (by decide +kernel)
    (by decide +kernel)

/-! `or_(or_(x.a == 1, y.a == 2), x.a < y.a)` — the n-ary `or_(p(x), q(y), r(x, y))` — is built as
an `ElseIf` whose left side is a `Union` (the outer sides have the same variables); and a `not_` over an `F1`
condition next to it. In `Fp1`, all hypotheses hold, same set of rows. -/
def c01unC2 : SExpr :=
  .and (.or c01unC (.cmp .lt (.attr (.var 0) "a") (.attr (.var 1) "a")))
       (.not (.cmp .eq (.attr (.var 1) "a") (.lit 103 (.int 1))))
def c01unQ2 : SQuery := ⟨[.attr (.var 1) "a", .var 0], some c01unC2⟩

example :
    c01unC2.Fp1 = true ∧ c01unC2.F1 = false ∧
    (match build c01unC2 with | .and (.elseIf (.union _ _) _) (.not _) => true | _ => false) = true ∧
    selF1 c01unQ2.sel = true ∧ trigMultiSel c01unQ2 = false ∧
    (∀ v ∈ c01unQ2.vars, c02nvW.dom v ≠ []) ∧ LitNodup (build c01unC2) ∧
    evalQuery c02nvW c01unQ2.toQuery = .ok [[.int 2, .obj 0], [.int 0, .obj 1], [.int 2, .obj 1], [.int 2, .obj 2],
      [.int 2, .obj 0], [.int 2, .obj 1], [.int 2, .obj 2]] ∧
    solutions c02nvW c01unQ2 = .ok [[.int 0, .obj 1], [.int 2, .obj 0], [.int 2, .obj 1], [.int 2, .obj 2]] ∧
    sameAnswers (evalQuery c02nvW c01unQ2.toQuery) (solutions c02nvW c01unQ2) = true :=
  ⟨by decide +kernel,
    by decide +kernel,
    by decide +kernel,
    by decide +kernel,
    by decide +kernel,
    by decide +kernel,
    by decide +kernel,
    by decide +kernel,
    by decide +kernel,
    by decide +kernel⟩

end KrroodVerif.Eql
