import KrroodVerif.Model.SymbolGraphTable
import KrroodVerif.Props.C13
/-!
# C13 — the registry methods as tables of container operations

`Model/SymbolGraphTable.lean` describes `add_node`, `remove_node`, `remove_dead_instances`, `get_instances_of_type`,
`ensure_wrapped_instance`, `clear` and `recursive_subclasses` as lists of container operations with interpreters.
The interpreters run on the hand-written table `SG.table` agree with the model functions the C13 (C14, C20) theorems are
about, for every graph, allocator and wrapper:
* equal for `clear`, and for `add_node` and `ensure_wrapped_instance` of a LIVE instance (the only ones they are called
  on: under `id(None)` the table's `add_node` writes no index entry, the model's does);
* equal on graphs with an exact relation index (`RelExact`) for `remove_node` and `remove_dead_instances`;
* the same members for `recursive_subclasses`, and for `get_instances_of_type` on a registry without dead wrappers (the
  same list up to the listing of the classes).

Then the census property for any table that equals `SG.table` (`C13_census_of_table_eq`), which the check instantiates on
every run with the table regenerated from the current Python source (`Translated.table = SG.table` by `decide`).
-/
namespace KrroodVerif.SG

variable {σ : Type}

/-- every `_relation_index` entry has its edge (what `Inv.relExact` gives for the repaired `remove_node`) -/
def RelExact (g : SG σ) : Prop := ∀ r ∈ g.relIdx, ∃ e ∈ g.edges, r = (e.fld, e.src.idx, e.tgt.idx)

theorem addNode_eq_interp (a : Alloc σ) (isLive : Obj → Bool) (g : SG σ) (o : Obj) (c : Cls) (pid : Nat)
    (hl : isLive o = true) : addNodeI table a isLive g o c pid = addNode a g o c pid := by
  simp [addNodeI, interpMut, table, execMut, keyOf, hl, addNode]

/-- `relDiscardIncident true true` on an exact relation index: discarding the entries of the incident edges is discarding
the entries that mention the index -/
theorem relDiscard_eq (edges : List Edge) (rel : List (Fld × Nat × Nat)) (i : Nat)
    (h : ∀ r ∈ rel, ∃ e ∈ edges, r = (e.fld, e.src.idx, e.tgt.idx)) :
    rel.filter (fun r => !(edges.filter (fun e => (true && e.tgt.idx == i) || (true && e.src.idx == i))).any
      (fun e => e.fld == r.1 && e.src.idx == r.2.1 && e.tgt.idx == r.2.2)) =
    rel.filter (fun r => r.2.1 != i && r.2.2 != i) := by
  apply List.filter_congr
  intro r hr
  obtain ⟨e, he, rfl⟩ := h r hr
  have key : (edges.filter (fun e => (true && e.tgt.idx == i) || (true && e.src.idx == i))).any
      (fun e' => e'.fld == e.fld && e'.src.idx == e.src.idx && e'.tgt.idx == e.tgt.idx) =
      (e.src.idx == i || e.tgt.idx == i) := by
    rw [Bool.eq_iff_iff]
    simp only [List.any_eq_true, List.mem_filter, Bool.true_and, Bool.or_eq_true, Bool.and_eq_true, beq_iff_eq]
    constructor
    · rintro ⟨e', ⟨_, hinc⟩, ⟨_, hs⟩, ht⟩
      rcases hinc with h | h
      · exact Or.inr (ht ▸ h)
      · exact Or.inl (hs ▸ h)
    · intro h
      exact ⟨e, ⟨he, h.symm⟩, ⟨rfl, rfl⟩, rfl⟩
  simp only [key, bne, Bool.not_or]

/-- `remove_node` by table is the model's `removeNode` with every quirk off, on every graph whose relation index is exact
(an invariant then: `Inv.relExact`) -/
theorem removeNode_eq_interp (a : Alloc σ) (isLive : Obj → Bool) (g : SG σ) (w : W) (h : RelExact g) :
    removeNodeI table a isLive g w = removeNode Quirks.asIs a g w := by
  simp only [removeNodeI, interpMut, table, List.foldl_cons, List.foldl_nil, execMut, keyOf, removeNode, Quirks.asIs,
    incident]
  -- the four instructions are the model's updates but for the relation index: the table discards the entries of the
  -- incident edges, the model those that mention the index
  rw [relDiscard_eq g.edges g.relIdx w.idx h]
  rfl

/-- the historic `remove_node` (`tableOriginal`: `pop(id(w.instance), None)`, no purge) is the model's `removeNode` under
`Quirks.original`, for the wrappers it is called on (dead instances) -/
theorem removeNode_original_eq_interp (a : Alloc σ) (isLive : Obj → Bool) (g : SG σ) (w : W)
    (hd : isLive w.obj = false) :
    removeNodeI tableOriginal a isLive g w = removeNode Quirks.original a g w := by
  simp [removeNodeI, interpMut, tableOriginal, table, execMut, keyOf, removeNode, Quirks.original, hd]

theorem RelExact.removeNode {a : Alloc σ} {g : SG σ} (h : RelExact g) (w : W) :
    RelExact (SG.removeNode Quirks.asIs a g w) := by
  intro r hr
  simp only [SG.removeNode, Quirks.asIs, Bool.false_eq_true, ↓reduceIte, List.mem_filter, Bool.and_eq_true,
    bne_iff_ne, ne_eq] at hr ⊢
  obtain ⟨e, he, rfl⟩ := h r hr.1
  exact ⟨e, ⟨he, hr.2⟩, rfl⟩

theorem foldl_loopBody_eq (a : Alloc σ) (isLive : Obj → Bool) : ∀ (l : List W) (g : SG σ), RelExact g →
    l.foldl (fun g w => loopBody table a isLive g w [.onlyIf .dead, .callRemoveNode]) g =
      l.foldl (removeNode Quirks.asIs a) g
  | [], _, _ => rfl
  | w :: l, g, h => by
    simp only [List.foldl_cons, loopBody]
    rw [removeNode_eq_interp a isLive g w h]
    exact foldl_loopBody_eq a isLive l _ (h.removeNode w)

theorem sweep_eq_interp (a : Alloc σ) (isLive : Obj → Bool) (g : SG σ) (h : RelExact g) :
    sweepI table a isLive g = sweep Quirks.asIs a g isLive := by
  simp only [sweepI, table, sweep]
  have hf : loopFilter isLive [.onlyIf .dead, .callRemoveNode] = fun w => !isLive w.obj := by
    funext w
    simp [loopFilter, matchesLiveness]
  rw [hf]
  exact foldl_loopBody_eq a isLive _ g h

theorem ensure_eq_interp (a : Alloc σ) (isLive : Obj → Bool) (g : SG σ) (x : HObj) (hl : isLive x.obj = true) :
    ensureI table a isLive g x = ((ensure a g x).1, some (ensure a g x).2) := by
  have ht : table.ensure = [.lookupIndex .idOfInstance, .ifMissing 2, .wrapNew, .callAddNode, .returnWrapper] := rfl
  simp only [ensureI, ht, List.length_cons, List.length_nil, execEnsure, keyOf, hl, ↓reduceIte, Option.bind_some,
    ensure]
  cases hlk : lookup g x.pid with
  | some w => simp [execEnsure]
  | none =>
    simp only [Option.isNone_none, ↓reduceIte]
    rw [addNode_eq_interp a isLive g x.obj x.cls x.pid hl]

theorem clear_eq_interp (a : Alloc σ) (g : SG σ) : clearI table a g = { SG.empty a with reused := g.reused } := by
  simp [clearI, table]

theorem recSubsI_succ (S : Schema) (n : Nat) (c : Cls) :
    recSubsI S table.recSubs (n + 1) c =
      (S.subs c ++ (S.subs c).flatMap (recSubsI S table.recSubs n)).eraseDups := by
  simp [recSubsI, table]

theorem recSubs_eq_interp (S : Schema) : ∀ (n : Nat) (T c : Cls),
    c ∈ recSubsI S table.recSubs n T ↔ c ∈ S.recSubs n T
  | 0, _, _ => by simp [recSubsI, Schema.recSubs]
  | n + 1, T, c => by
    rw [recSubsI_succ, List.mem_eraseDups]
    simp only [Schema.recSubs, List.mem_append, List.mem_flatMap, recSubs_eq_interp S n]

/-- `recursive_subclasses` by table lists no class twice (the de-duplication of fix 2e71c84) -/
theorem recSubsI_nodup (S : Schema) (n : Nat) (T : Cls) : (recSubsI S table.recSubs n T).Nodup := by
  cases n with
  | zero => simp [recSubsI]
  | succ n =>
    rw [recSubsI_succ]
    exact nodup_eraseDups _

theorem classesI_mem (S : Schema) (T c : Cls) : c ∈ classesI S table .selfThenSubs T ↔ c ∈ S.below T := by
  simp [classesI, Schema.below, recSubs_eq_interp]

/-- `instancesOf` over a given list of classes -/
def instancesOfL (cl : List Cls) (g : SG σ) : List Obj :=
  cl.flatMap fun c => (g.byClass.filter (fun w => w.cls == c)).map (·.obj)

theorem instancesOf_eq_L (q : Quirks) (S : Schema) (g : SG σ) (T : Cls) :
    instancesOf q S g T = instancesOfL (if q.dupSubclasses then S.below T else (S.below T).eraseDups) g := rfl

theorem wrappedLoop_eq (S : Schema) (g : SG σ) (isLive : Obj → Bool) (T c : Cls) (l : List W)
    (hl : ∀ w ∈ l, isLive w.obj = true) :
    l.flatMap (fun w => genI S table g isLive T [.skipIf .dead, .yieldInstance] (some c) (some w)) =
      (l.map (·.obj)).map some := by
  rw [List.map_map, List.map_eq_flatMap]
  exact flatMap_congr' fun w hw => by simp [genI, matchesLiveness, hl w hw]

/-- On a registry without dead wrappers (after the sweep that precedes every evaluation)
`get_instances_of_type` by table yields, in order, the instances in the class lists of `[T] + recursive_subclasses(T)` -/
theorem getInstances_eq_interp (S : Schema) (g : SG σ) (isLive : Obj → Bool) (T : Cls)
    (hl : ∀ w ∈ g.byClass, isLive w.obj = true) :
    getInstancesI S table g isLive T = (instancesOfL (classesI S table .selfThenSubs T) g).map some := by
  simp only [getInstancesI, table, genI, instancesOfL, List.map_flatMap]
  exact flatMap_congr' fun c _ => wrappedLoop_eq S g isLive T c _ fun w hw => hl w (List.mem_filter.1 hw).1

theorem getInstances_mem_iff (S : Schema) (g : SG σ) (isLive : Obj → Bool) (T : Cls)
    (hl : ∀ w ∈ g.byClass, isLive w.obj = true) (o : Obj) :
    some o ∈ getInstancesI S table g isLive T ↔ o ∈ instancesOf Quirks.asIs S g T := by
  rw [getInstances_eq_interp S g isLive T hl, instancesOf_eq_L]
  simp only [List.mem_map, Option.some.injEq, exists_eq_right, instancesOfL, List.mem_flatMap, Quirks.asIs,
    Bool.false_eq_true, ↓reduceIte, List.mem_eraseDups, classesI_mem]

/-- what C13 demands of the tables `t`: after any history of the model, `remove_dead_instances` by table followed by
`get_instances_of_type(T)` by table yields exactly the live instances of `T` and subclasses known to the registry, never
`None`, and each once when `T` is not its own subclass -/
def TableCensus (t : Table) (S : Schema) (a : Alloc σ) (ops : List Op) (T : Cls) : Prop :=
  let st := run Quirks.asIs S a ops
  let ys := getInstancesI S t (sweepI t a st.h.isLive st.g) st.h.isLive T
  (∀ o, some o ∈ ys ↔ o ∈ st.h.expected S T) ∧ none ∉ ys ∧
    (T ∉ recSubsI S t.recSubs S.depth T → ys.Nodup)

theorem census_table {S : Schema} {a : Alloc σ} {st : St σ} (hI : Inv Quirks.asIs st) (T : Cls) :
    let ys := getInstancesI S table (sweepI table a st.h.isLive st.g) st.h.isLive T
    (∀ o, some o ∈ ys ↔ o ∈ st.h.expected S T) ∧ none ∉ ys ∧
      (T ∉ recSubsI S table.recSubs S.depth T → ys.Nodup) := by
  have hI' : Inv Quirks.asIs { st with g := SG.sweep Quirks.asIs a st.g st.h.isLive } := hI.sweep
  have hlive : ∀ w ∈ (SG.sweep Quirks.asIs a st.g st.h.isLive).byClass, st.h.isLive w.obj = true :=
    fun w hw => ((mem_sweep_nodes hI w).1 (hI'.byClassEq ▸ hw)).2
  simp only
  rw [sweep_eq_interp a st.h.isLive st.g (hI.relExact rfl)]
  refine ⟨fun o => ?_, ?_, fun hT => ?_⟩
  · rw [getInstances_mem_iff S _ _ T hlive o]
    exact census_mem hI T o
  · rw [getInstances_eq_interp S _ _ T hlive]
    simp
  · rw [getInstances_eq_interp S _ _ T hlive]
    refine Nodup.map_inj (fun _ _ h => Option.some.inj h) ?_
    unfold instancesOfL
    rw [hI'.byClassEq]
    exact nodup_classObjs (List.nodup_cons.2 ⟨hT, recSubsI_nodup S _ T⟩) hI'.nodesNodup hI'.objInj

/-- The census property for every table that equals the model's (instantiated on every run
with the table regenerated from the current source). -/
theorem C13_census_of_table_eq (t : Table) (h : t = table) (S : Schema) (a : Alloc σ) (ha : a.Valid) (ops : List Op)
    (T : Cls) : TableCensus t S a ops T := by
  subst h
  exact census_table (C13_inv_run Quirks.asIs S a ha ops) T

theorem C13_census_table (S : Schema) (a : Alloc σ) (ha : a.Valid) (ops : List Op) (T : Cls) :
    TableCensus table S a ops T := C13_census_of_table_eq table rfl S a ha ops T

/-- The state a history leaves behind has an exact relation index, so `remove_dead_instances` and `remove_node` by table
are the model's on it. -/
theorem C13_run_by_table (S : Schema) (a : Alloc σ) (ha : a.Valid) (ops : List Op) :
    let st := run Quirks.asIs S a ops
    sweepI table a st.h.isLive st.g = sweep Quirks.asIs a st.g st.h.isLive ∧
      ∀ w, removeNodeI table a st.h.isLive st.g w = removeNode Quirks.asIs a st.g w := by
  have hre : RelExact (run Quirks.asIs S a ops).g := (C13_inv_run Quirks.asIs S a ha ops).relExact rfl
  exact ⟨sweep_eq_interp a _ _ hre, fun w => removeNode_eq_interp a _ _ w hre⟩

/-! Concrete tables: the table language separates `tableOriginal` (the tree of `Quirks.original`) from `table`. -/
example : table ≠ tableOriginal := by decide +kernel
/-- dropping the subclasses from `get_instances_of_type` loses the instance of a subclass -/
example :
    let g : SG Nat := (addNode monotone (SG.empty monotone) 0 1 0).1
    let t' := { table with getInstances := [.forEachClassIn .selfOnly, .forEachWrappedIn true, .skipIf .dead, .yieldInstance] }
    getInstancesI cexSchema table g (fun _ => true) 0 = [some 0] ∧
    getInstancesI cexSchema t' g (fun _ => true) 0 = [] := by decide +kernel
/-- without the filter a dead, unswept instance is yielded as `None` (F-C13-4) -/
example :
    let g : SG Nat := (addNode monotone (SG.empty monotone) 0 0 0).1
    getInstancesI cexSchema tableOriginal g (fun _ => false) 0 = [none] ∧
    getInstancesI cexSchema table g (fun _ => false) 0 = [] := by decide +kernel
/-- non-vacuity of `T ∉ recursive_subclasses(T)` and of `RelExact` -/
example : (0 : Cls) ∉ recSubsI cexSchema table.recSubs cexSchema.depth 0 ∧ RelExact (SG.empty monotone) := by
  refine ⟨by decide +kernel, ?_⟩
  intro r hr
  simp [SG.empty] at hr
/-- non-vacuity of the liveness hypotheses of `addNode_eq_interp`, `ensure_eq_interp`, `getInstances_eq_interp`: a registry
with one live wrapper; the two sides of `getInstances_eq_interp` on it -/
example :
    let g : SG Nat := (addNode monotone (SG.empty monotone) 0 1 0).1
    (∀ w ∈ g.byClass, (fun _ => true) w.obj = true) ∧
    getInstancesI cexSchema table g (fun _ => true) 0 = (instancesOfL (classesI cexSchema table .selfThenSubs 0) g).map some ∧
    (ensureI table monotone (fun _ => true) g ⟨0, 1, 0⟩).2 = some ⟨0, 1, 0, 0⟩ := by decide +kernel

end KrroodVerif.SG
