import KrroodVerif.Model.Quantifier
/-!
# C09 — Result quantifiers enforce exactly the stated solution count

The model (`Quant.run`, `Quant.assertSat`, `Quant.mkSingle`, `Quant.mkRange`, `Quant.theRun`) transcribes the Python;
`Quant.spec` / `Quant.theSpec` is what the property demands. All theorems are unbounded in the number of solutions and in
the bounds. The hypothesis `Constraint.WF` stands where the property speaks of the constraints a user can build
(`C09_mk_wf`); of the theorems of C09 only `C09_all_iff_satisfies` uses it.
-/
namespace KrroodVerif.Quant

/-- the running count `n` has not exceeded the upper bound, if there is one: what every passed
`assert_satisfaction(n, done=False)` ensures -/
def CountOK : Option Constraint → Nat → Prop
  | none, _ => True
  | some c, n => ∀ u, upper c = some u → n ≤ u

theorem CountOK.mono {c : Option Constraint} {n m : Nat} (h : CountOK c m) (hnm : n ≤ m) : CountOK c n := by
  cases c with
  | none => trivial
  | some c => exact fun u hu => Nat.le_trans hnm (h u hu)

theorem CountOK.of_le {c : Constraint} {n u : Nat} (hu : upper c = some u) (h : n ≤ u) : CountOK (some c) n := by
  intro u' hu'
  rw [hu] at hu'
  cases hu'
  exact h

theorem CountOK.of_none {c : Constraint} (hu : upper c = none) (n : Nat) : CountOK (some c) n := by
  intro u hu'
  rw [hu] at hu'
  cases hu'

theorem assertSat_of_ok {c : Constraint} {n : Nat} (h : CountOK (some c) n) (d : Bool) :
    assertSat c n d = if d && n < lower c then .error .less else .ok () := by
  cases c with
  | exactly v => exact if_neg (Nat.not_lt.mpr (h v rfl))
  | atLeast v => rfl
  | atMost v => simp [assertSat, lower, Nat.not_lt.mpr (h v rfl)]
  | range lo hi =>
    simp only [assertSat, if_neg (Nat.not_lt.mpr (h hi rfl))]
    rfl

theorem assertOpt_false_ok {c : Option Constraint} {n : Nat} (h : CountOK c n) : assertOpt c n false = .ok () :=
  match c with
  | none => rfl
  | some _ => assertSat_of_ok h false

theorem assertOpt_true {c : Constraint} {n : Nat} (h : CountOK (some c) n) :
    assertOpt (some c) n true = if n < lower c then .error .less else .ok () := by
  simpa [assertOpt] using assertSat_of_ok h true

theorem assertOpt_false_gt {c : Constraint} {n u : Nat} (hu : upper c = some u) (h : u < n) :
    assertOpt (some c) n false = .error .greater := by
  cases c with
  | atLeast v => cases hu
  | exactly v =>
    cases hu
    exact if_pos h
  | atMost v =>
    cases hu
    exact if_pos h
  | range lo hi =>
    cases hu
    exact if_pos h

theorem assertOpt_false_of_not_ok {c : Option Constraint} {n : Nat} (h : ¬ CountOK c n) :
    assertOpt c n false = .error .greater := by
  cases c with
  | none => exact absurd trivial h
  | some c =>
    obtain ⟨u, hu⟩ := Classical.not_forall.mp h
    obtain ⟨hu, hlt⟩ := Classical.not_imp.mp hu
    exact assertOpt_false_gt hu (Nat.lt_of_not_le hlt)

theorem loop_of_ok {α} (c : Constraint) (sols : List α) (k : Nat) (h : CountOK (some c) (k + sols.length)) :
    loop (some c) k sols = if k + sols.length < lower c then (sols, .err .less) else (sols, .ok) := by
  induction sols generalizing k with
  | nil =>
    simp only [loop, assertOpt_true (n := k) h, List.length_nil, Nat.add_zero]
    by_cases hl : k < lower c
    · simp only [hl, if_true]
    · simp only [hl, if_false]
  | cons x xs ih =>
    rw [List.length_cons, ← Nat.add_assoc, Nat.add_right_comm] at h ⊢
    simp only [loop, assertOpt_false_ok (h.mono (Nat.le_add_right _ _)), ih _ h]
    split <;> rfl

theorem loop_of_gt {α} {c : Constraint} {u : Nat} (hu : upper c = some u) (sols : List α) (k : Nat) (hk : k ≤ u)
    (h : u < k + sols.length) : loop (some c) k sols = (sols.take (u - k), .err .greater) := by
  induction sols generalizing k with
  | nil => exact absurd h (Nat.not_lt.mpr hk)
  | cons x xs ih =>
    rw [List.length_cons, ← Nat.add_assoc, Nat.add_right_comm] at h
    by_cases hk' : k + 1 ≤ u
    · have e : u - k = (u - (k + 1)) + 1 := by omega
      simp only [loop, assertOpt_false_ok (CountOK.of_le hu hk'), ih _ hk' h, e, List.take_succ_cons]
    · have e : u - k = 0 := by omega
      simp only [loop, assertOpt_false_gt hu (Nat.lt_of_not_le hk'), e, List.take_zero]

theorem loop_none {α} (sols : List α) (k : Nat) : loop (none : Option Constraint) k sols = (sols, .ok) := by
  induction sols generalizing k with
  | nil => rfl
  | cons x xs ih => simp only [loop, assertOpt, ih]

/-- For every constraint, well-formed or not, or none, the generator loop yields exactly the prefix and ends with exactly
the outcome the property states. -/
theorem run_eq_spec {α} (c : Option Constraint) (sols : List α) : run c sols = spec c sols := by
  cases c with
  | none => exact loop_none sols 0
  | some c =>
    have e : 0 + sols.length = sols.length := Nat.zero_add _
    simp only [run, spec]
    cases hu : upper c with
    | none => exact e ▸ loop_of_ok c sols 0 (CountOK.of_none hu _)
    | some u =>
      by_cases hn : sols.length > u
      · simp only [hn, if_true]
        exact loop_of_gt hu sols 0 (Nat.zero_le u) (e.symm ▸ hn)
      · simp only [hn, if_false]
        exact e ▸ loop_of_ok c sols 0 (CountOK.of_le hu (e.symm ▸ Nat.not_lt.mp hn))

/-- `run_eq_spec` for the constraints a user can build (`C09_mk_wf`). -/
theorem C09_run_eq_spec {α} (c : Option Constraint) (hwf : ∀ c', c = some c' → c'.WF) (sols : List α) :
    run c sols = spec c sols := run_eq_spec c sols

/-- why the three outcomes of `spec` exclude each other -/
theorem lower_le_upper {c : Constraint} (hwf : c.WF) {u : Nat} (hu : upper c = some u) : lower c ≤ u := by
  cases c with
  | exactly v =>
    cases hu
    exact Nat.le_refl _
  | atLeast v => cases hu
  | atMost v => exact Nat.zero_le u
  | range lo hi =>
    cases hu
    exact hwf

/-- every constraint the constructors accept is well-formed -/
theorem C09_mk_wf :
    (∀ k v c, mkSingle k v = .ok c → c.WF) ∧ (∀ a b c, mkRange a b = .ok c → c.WF) := by
  constructor
  · intro k v c h
    cases c with
    | range lo hi =>
      unfold mkSingle at h
      split at h
      · cases h
      · cases k <;> cases h
    | _ => trivial
  · intro a b c h
    unfold mkRange at h
    split at h
    · cases h
    split at h
    · cases h
    split at h
    · cases h
    cases h
    exact Int.toNat_le_toNat (Int.not_lt.mp ‹_›)

/-- Negative bounds and `at_most < at_least` are rejected at construction, everything else is accepted: a single bound
with the written value as its bound, a range with exactly the written bounds. -/
theorem C09_ctor_rejects :
    (∀ k v, v < 0 → mkSingle k v = .error .negative) ∧
    (∀ k v, 0 ≤ v → ∃ c, mkSingle k v = .ok c ∧ (lower c = v.toNat ∨ upper c = some v.toNat)) ∧
    (∀ a b, (a < 0 ∨ b < 0) → mkRange a b = .error .negative) ∧
    (∀ a b, 0 ≤ a → 0 ≤ b → b < a → mkRange a b = .error .inconsistent) ∧
    (∀ a b, 0 ≤ a → a ≤ b → mkRange a b = .ok (.range a.toNat b.toNat)) := by
  refine ⟨?_, ?_, ?_, ?_, ?_⟩
  · intro k v h
    exact if_pos h
  · intro k v h
    rw [mkSingle.eq_def, if_neg (Int.not_lt.mpr h)]
    cases k
    · exact ⟨_, rfl, Or.inl rfl⟩
    · exact ⟨_, rfl, Or.inl rfl⟩
    · exact ⟨_, rfl, Or.inr rfl⟩
  · intro a b h
    unfold mkRange
    split
    · rfl
    · exact if_pos (h.resolve_left ‹_›)
  · intro a b ha hb hab
    rw [mkRange, if_neg (Int.not_lt.mpr ha), if_neg (Int.not_lt.mpr hb), if_pos hab]
  · intro a b ha hab
    rw [mkRange, if_neg (Int.not_lt.mpr ha), if_neg (Int.not_lt.mpr (Int.le_trans ha hab)), if_neg (Int.not_lt.mpr hab)]

/-- No more results than an upper bound allows are ever yielded. -/
theorem C09_never_exceeds_upper {α} (c : Constraint) (hwf : c.WF) (sols : List α) (u : Nat)
    (hu : upper c = some u) : (run (some c) sols).1.length ≤ u := by
  rw [run_eq_spec]
  simp only [spec, hu]
  split
  · exact List.length_take_le _ _
  · split <;> exact Nat.not_lt.mp ‹_›

/-- All solutions are yielded without an error iff their number satisfies the constraint; otherwise the error is
`greater` exactly when the count exceeds the upper bound, else `less`. -/
theorem C09_all_iff_satisfies {α} (c : Constraint) (hwf : c.WF) (sols : List α) :
    (run (some c) sols = (sols, .ok) ↔ satisfies c sols.length = true) ∧
    ((run (some c) sols).2 = .err .greater ↔ ∃ u, upper c = some u ∧ u < sols.length) ∧
    ((run (some c) sols).2 = .err .less ↔ sols.length < lower c) := by
  rw [run_eq_spec]
  simp only [spec, satisfies]
  cases hu : upper c with
  | none =>
    by_cases hl : sols.length < lower c
    · simp [hl]
    · simp [hl, Nat.not_lt.mp hl]
  | some u =>
    by_cases hg : sols.length > u
    · have hl : ¬ sols.length < lower c := Nat.not_lt.mpr (Nat.le_trans (lower_le_upper hwf hu) (Nat.le_of_lt hg))
      simp [hg, Nat.not_le.mpr hg, hl]
    · by_cases hl : sols.length < lower c
      · simp [hg, hl]
      · simp [hg, hl, Nat.not_lt.mp hl, Nat.not_lt.mp hg]

/-- `the(...)`: the element iff exactly one solution, `NoSolutionFound` iff none,
`MultipleSolutionFound` iff several — and no other outcome is possible. -/
theorem C09_the {α} (sols : List α) : theRun sols = some (theSpec sols) := by
  unfold theRun
  rw [run_eq_spec]
  match sols with
  | [] => simp [spec, upper, lower, theSpec]
  | [x] => simp [spec, upper, lower, theSpec]
  | x :: y :: r => simp [spec, upper, theSpec]

example : (Constraint.range 1 2).WF ∧ run (some (.range 1 2)) [10, 20, 30] = ([10, 20], .err .greater) := by
  constructor
  · exact Nat.le_succ 1
  · decide
example : run (some (.exactly 0)) ([] : List Nat) = ([], .ok) ∧ run (some (.atLeast 2)) [7] = ([7], .err .less) := by
  decide
example : mkRange 0 0 = .ok (.range 0 0) ∧ mkRange 2 1 = .error .inconsistent := by
  constructor <;> rfl

theorem loop_map {α β} (f : α → β) (c : Option Constraint) (n : Nat) (sols : List α) :
    loop c n (sols.map f) = ((loop c n sols).1.map f, (loop c n sols).2) := by
  induction sols generalizing n with
  | nil =>
    simp only [List.map_nil, loop]
    split <;> simp
  | cons x xs ih =>
    simp only [List.map_cons, loop]
    split
    · simp
    · simp [ih]

/-- Enforcing the solution count is natural in the solutions: renaming every solution by any
function `f` (for instance to a falsy Python value — `0`, `""`, an empty container) changes neither how many are
yielded nor the outcome. With `f := fun _ => ()` this says the behaviour is a function of the NUMBER of solutions
alone. -/
theorem C09_value_blind {α β} (f : α → β) (c : Option Constraint) (sols : List α) :
    run c (sols.map f) = ((run c sols).1.map f, (run c sols).2) := loop_map f c 0 sols

/-- the same for `the(...)`: its outcome is the outcome on the renamed solutions, the value renamed -/
theorem C09_the_value_blind {α β} (f : α → β) (sols : List α) :
    theRun (sols.map f) = (theRun sols).map fun
      | .value x => .value (f x) | .noSolution => .noSolution | .multipleSolutions => .multipleSolutions := by
  rw [C09_the, C09_the]
  match sols with
  | [] => rfl
  | [x] => rfl
  | x :: y :: r => rfl

/-- a history of evaluations of one query object is the list of its evaluations taken alone (nothing is carried over:
a failed evaluation, a partially consumed one and a finished one all leave the next evaluation unaffected) -/
theorem C09_history_independent {α} (c : Option Constraint) (sols : List α) (ks : List (Option Nat)) :
    history c sols ks = ks.map fun k => consume k (run c sols) := rfl

end KrroodVerif.Quant
