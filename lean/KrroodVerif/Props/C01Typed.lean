import KrroodVerif.Lemmas.EqlTyping
import KrroodVerif.Props.C01Union
/-!
C01 / C02 on the well-typed fragment, without `.ok` hypotheses (type discipline and its lemmas: `Lemmas/EqlTyping.lean`).

The theorems of `Props/C01.lean`, `Props/C02.lean`, `Props/C01Union.lean` assume that the model of the engine
(`evalQuery`) and the first-order specification (`solutions`) both return `.ok`. Here the two hypotheses are
discharged for well-typed inputs: a class signature `sig`, a variable typing `Γ` and a literal-node typing `Λ`
such that the world is well-typed (`World.wt sig Γ w`: objects carry the attributes their class — and its
superclasses — declare, domain values have the type of their variable) and the query is well-typed (`SQuery.wt`:
`==`/`!=` on any two typable terms, `<`/`<=`/`>`/`>=` on numbers or booleans, `in` on a list, attribute access on
an object whose class declares the attribute, `[i]` on a list type that guarantees `i` in range). All the checks
are `Bool`-valued (`decide` works). Apart from that the statements are those of the conditional theorems, which the
proofs apply.

Type safety of either side holds for every well-typed quantifier-free query; the widest quantifier-free fragment on
which the two sides are also related is `Fp1` (`C01_sound_complete_typed`).
-/
namespace KrroodVerif.Eql

/-- Type safety of the engine model: a well-typed query over a well-typed world evaluates
without raising (no `AttributeError`, `IndexError`, `TypeError`, `KeyError`). Any quantifier-free condition
(including `Union`, nested `not_`), any typable selection. -/
theorem eval_no_error (sig : Sig) (Γ : VarCtx) (Λ : LitCtx) (w : World) (q : SQuery)
    (hw : World.wt sig Γ w = true) (hq : q.wt sig w Γ Λ = true) :
    ∃ rows, evalQuery w q.toQuery = .ok rows := by
  obtain ⟨sel, cond⟩ := q
  simp only [SQuery.wt, Bool.and_eq_true] at hq
  obtain ⟨hsel, hcond⟩ := hq
  cases cond with
  | none => exact select_ok hw hsel (List.forall_mem_singleton.mpr (EnvWt.nil _ _ _))
  | some c =>
    obtain ⟨rs, hrs, hres⟩ := eval_ok hw (build c) (build_wt hcond) [] (EnvWt.nil _ _ _)
    simp only [evalQuery, SQuery.toQuery, Option.map, hrs]
    exact select_ok hw hsel (List.forall_mem_map.mpr fun p hp => hres p (List.mem_filter.mp hp).1)

/-- Type safety of the first-order specification on the same inputs. -/
theorem spec_no_error (sig : Sig) (Γ : VarCtx) (Λ : LitCtx) (w : World) (q : SQuery)
    (hw : World.wt sig Γ w = true) (hq : q.wt sig w Γ Λ = true) :
    ∃ rows', solutions w q = .ok rows' := by
  simp only [SQuery.wt, Bool.and_eq_true, selWt, List.all_eq_true] at hq
  obtain ⟨hsel, hcond⟩ := hq
  unfold solutions
  rw [filterM_eq_filter]
  · refine mapM_isOk fun σ hσ => mapM_isOk fun s hs => ?_
    have hσ := (List.mem_filter.mp hσ).1
    obtain ⟨ty, hty⟩ := termTy_isSome (hsel s hs)
    refine (tval_ok hw (assignments_wt hw hσ) hty fun v hv => assignments_binds hσ v ?_).imp fun _ h => h.1
    simp only [SQuery.vars, mem_dedupNat]
    exact List.mem_append_left _ (List.mem_flatMap.mpr ⟨s, hs, hv⟩)
  · intro σ hσ
    cases hc : q.cond with
    | none => exact ⟨true, rfl⟩
    | some c =>
      simp only [hc] at hcond
      refine sat_ok hw (assignments_wt hw hσ) hcond fun v hv => assignments_binds hσ v ?_
      simp only [SQuery.vars, hc, mem_dedupNat]
      exact List.mem_append_right _ hv

/-- `C02_multiplicity` without the `.ok` hypotheses: on `F2`, for a well-typed query over a well-typed world, one result
row per satisfying assignment. -/
theorem C02_multiplicity_typed (sig : Sig) (Γ : VarCtx) (Λ : LitCtx) (w : World) (q : SQuery) (c : SExpr)
    (hc : q.cond = some c) (hF : c.F2 = true) (hsel : selOK q.sel c = true)
    (hnd : ∀ v, (w.dom v).Nodup) (hlit : LitNodup (build c))
    (hw : World.wt sig Γ w = true) (hq : q.wt sig w Γ Λ = true) :
    ∃ rows rows', evalQuery w q.toQuery = .ok rows ∧ solutions w q = .ok rows' ∧ rows.Perm rows' := by
  obtain ⟨rows, h1⟩ := eval_no_error sig Γ Λ w q hw hq
  obtain ⟨rows', h2⟩ := spec_no_error sig Γ Λ w q hw hq
  exact ⟨rows, rows', h1, h2, C02_multiplicity w q c hc hF hsel hnd hlit h1 h2⟩

/-- `C02_the` without the `.ok` hypotheses. -/
theorem C02_the_typed (sig : Sig) (Γ : VarCtx) (Λ : LitCtx) (w : World) (q : SQuery) (c : SExpr)
    (hc : q.cond = some c) (hF : c.F2 = true) (hsel : selOK q.sel c = true)
    (hnd : ∀ v, (w.dom v).Nodup) (hlit : LitNodup (build c))
    (hw : World.wt sig Γ w = true) (hq : q.wt sig w Γ Λ = true) :
    ∃ rows rows', evalQuery w q.toQuery = .ok rows ∧ solutions w q = .ok rows' ∧
      rows.length = rows'.length ∧
      Quant.theRun rows = some (Quant.theSpec rows) ∧
      (Quant.theSpec rows = .noSolution ↔ rows' = []) ∧
      (∀ s, Quant.theSpec rows = .value s ↔ rows' = [s]) ∧
      (Quant.theSpec rows = .multipleSolutions ↔ 2 ≤ rows'.length) := by
  obtain ⟨rows, h1⟩ := eval_no_error sig Γ Λ w q hw hq
  obtain ⟨rows', h2⟩ := spec_no_error sig Γ Λ w q hw hq
  exact ⟨rows, rows', h1, h2, C02_the w q c hc hF hsel hnd hlit h1 h2⟩

/-- `C01_sound_complete_union_partial` without the `.ok` hypotheses:
for every well-typed query of the positive fragment `Fp1` (`and_`, `or_` between conditions over arbitrary variable
sets, `not_` over `F1` sub-conditions; selected attribute/index chains) over a well-typed world with
duplicate-free, non-empty domains (falsy domain values included: the model is of the engine from fix commit `78cb732`
on, without F-C01-3), evaluation **raises no exception** and returns **exactly** the rows of the
satisfying assignments (soundness →, completeness ←). -/
theorem C01_sound_complete_typed (sig : Sig) (Γ : VarCtx) (Λ : LitCtx) (w : World) (q : SQuery) (c : SExpr)
    (hc : q.cond = some c) (hF : c.Fp1 = true) (hsel : selF1 q.sel = true) (hms : trigMultiSel q = false)
    (hnd : ∀ v, (w.dom v).Nodup) (hne : ∀ v ∈ q.vars, w.dom v ≠ [])
    (hlit : LitNodup (build c))
    (hw : World.wt sig Γ w = true) (hq : q.wt sig w Γ Λ = true) :
    ∃ rows rows', evalQuery w q.toQuery = .ok rows ∧ solutions w q = .ok rows' ∧ ∀ r, r ∈ rows ↔ r ∈ rows' := by
  obtain ⟨rows, h1⟩ := eval_no_error sig Γ Λ w q hw hq
  obtain ⟨rows', h2⟩ := spec_no_error sig Γ Λ w q hw hq
  exact ⟨rows, rows', h1, h2, C01_sound_complete_union_partial w q c hc hF hsel hms hnd hne hlit h1 h2⟩

/-! ## the cell-level theorems, typed

`C01_cover`, `union_true_sound`, `union_cell_complete` are stated for an arbitrary input environment `env` and total
assignment `τ`; their `.ok` hypotheses are discharged when `env` and `τ` are well-typed (`EnvWt`, `AsgWt`; both hold
for the empty environment and for the assignments `solutions` enumerates). -/

/-- `C01_cover` without the `.ok` hypotheses. -/
theorem C01_cover_typed (sig : Sig) (Γ : VarCtx) (Λ : LitCtx) (w : World) (τ : Asg) (e : Expr)
    (hF : e.Fc = true) (hτ : ∀ v ∈ e.vars, ∃ x, τ.lookup v = some x ∧ (w.dom v).count x = 1)
    (hlit : LitNodup e) (env : Env)
    (hfresh : ∀ id, Key.lit id ∈ e.nodes → env.lookup (.lit id) = none)
    (hag : agreesB τ env = true)
    (hww : World.wt sig Γ w = true) (he : e.wt sig w Γ Λ = true) (henv : EnvWt w Γ Λ env) (hτw : AsgWt w Γ τ) :
    ∃ rs b, eval w e env = .ok rs ∧ satE w e τ = .ok b ∧ (rs.filter fun p => agreesB τ p.1).map (·.2) = [b] := by
  obtain ⟨rs, h1, _⟩ := eval_ok hww e he env henv
  obtain ⟨b, h2⟩ := satE_ok hww hτw e he (fun v hv => by obtain ⟨x, hx, _⟩ := hτ v hv; simp [hx])
  exact ⟨rs, b, h1, h2, C01_cover w τ e hF hτ hlit env rs b hfresh hag h1 h2⟩

/-- `union_true_sound` and `union_cell_complete` without the `.ok` hypotheses: on the positive
fragment every true cell compatible with `τ` is sound, and `τ` lies in some cell flagged with the truth value of `e`. -/
theorem union_cells_typed (sig : Sig) (Γ : VarCtx) (Λ : LitCtx) (w : World) (τ : Asg) (e : Expr)
    (hF : e.Fp = true) (hτ : ∀ v ∈ e.vars, ∃ x, τ.lookup v = some x ∧ (w.dom v).count x = 1)
    (hlit : LitNodup e) (env : Env)
    (hfresh : ∀ id, Key.lit id ∈ e.nodes → env.lookup (.lit id) = none)
    (hag : agreesB τ env = true)
    (hww : World.wt sig Γ w = true) (he : e.wt sig w Γ Λ = true) (henv : EnvWt w Γ Λ env) (hτw : AsgWt w Γ τ) :
    ∃ rs b, eval w e env = .ok rs ∧ satE w e τ = .ok b ∧
      (∀ p ∈ rs, p.2 = true → agreesB τ p.1 = true → b = true) ∧
      (∃ p ∈ rs, p.2 = b ∧ agreesB τ p.1 = true) := by
  obtain ⟨rs, h1, _⟩ := eval_ok hww e he env henv
  obtain ⟨b, h2⟩ := satE_ok hww hτw e he (fun v hv => by obtain ⟨x, hx, _⟩ := hτ v hv; simp [hx])
  exact ⟨rs, b, h1, h2,
    fun p hp hpt hpa => union_true_sound w τ e hF hτ hlit env rs b hfresh h1 p hp hpt hpa h2,
    union_cell_complete w τ e hF hτ hlit env rs b hfresh hag h1 h2⟩

/-! ## non-vacuity

The 3-object world `c02nvW` of `Props/C02.lean` (class 0 with `a : int`, `f : bool`, `items : list`, `m_dbl : int`;
two variables over the three objects) is well-typed, and so are the queries of the non-vacuity examples of C01 / C02
(`c02nvQ`: `F2`; `c01nvQ`: `F1`; `c01unQ`, `c01unQ2`: `Fp1` with a `Union`), both with an explicit literal context
and with the inferred one. -/
def tyNvSig : Sig := [(0, [("a", .num), ("f", .bool), ("items", .list 0), ("m_dbl", .num)])]
def tyNvΓ : VarCtx := [(0, .obj 0), (1, .obj 0)]
def tyNvΛ : LitCtx := [(101, .num), (102, .num), (103, .num)]

example :
    World.wt tyNvSig tyNvΓ c02nvW = true ∧
    c02nvQ.wt tyNvSig c02nvW tyNvΓ tyNvΛ = true ∧ c01nvQ.wt tyNvSig c02nvW tyNvΓ tyNvΛ = true ∧
    c01unQ.wt tyNvSig c02nvW tyNvΓ tyNvΛ = true ∧ c01unQ2.wt tyNvSig c02nvW tyNvΓ tyNvΛ = true ∧
    c02nvQ.wtInfer tyNvSig c02nvW tyNvΓ = true ∧ c01nvQ.wtInfer tyNvSig c02nvW tyNvΓ = true ∧
    c01unQ.wtInfer tyNvSig c02nvW tyNvΓ = true ∧ c01unQ2.wtInfer tyNvSig c02nvW tyNvΓ = true :=
  by decide +kernel

example : ∃ rows rows', evalQuery c02nvW c02nvQ.toQuery = .ok rows ∧ solutions c02nvW c02nvQ = .ok rows' ∧
    rows.Perm rows' :=
  C02_multiplicity_typed tyNvSig tyNvΓ tyNvΛ c02nvW c02nvQ c02nvC rfl (by decide +kernel) (by decide +kernel)
    (domsNodup_of_B (by decide +kernel)) (by decide +kernel) (by decide +kernel) (by decide +kernel)

example : ∃ rows rows', evalQuery c02nvW c01unQ.toQuery = .ok rows ∧ solutions c02nvW c01unQ = .ok rows' ∧
    ∀ r, r ∈ rows ↔ r ∈ rows' :=
  C01_sound_complete_typed tyNvSig tyNvΓ tyNvΛ c02nvW c01unQ c01unC rfl (by decide +kernel) (by decide +kernel)
    (by decide +kernel) (domsNodup_of_B (by decide +kernel)) (by decide +kernel) (by decide +kernel)
    (by decide +kernel) (by decide +kernel)

example : ∃ rows rows', evalQuery c02nvW c01unQ2.toQuery = .ok rows ∧ solutions c02nvW c01unQ2 = .ok rows' ∧
    ∀ r, r ∈ rows ↔ r ∈ rows' :=
  C01_sound_complete_typed tyNvSig tyNvΓ tyNvΛ c02nvW c01unQ2 c01unC2 rfl (by decide +kernel) (by decide +kernel)
    (by decide +kernel) (domsNodup_of_B (by decide +kernel)) (by decide +kernel) (by decide +kernel)
    (by decide +kernel) (by decide +kernel)

/-! The discipline is not vacuous in the other direction either: the queries it rejects include the ones that
raise. `x.a < x.items` (`TypeError`), `x.nope == 1` (`AttributeError`), `x.items[0] == 1` over possibly empty lists
(`IndexError`), `1 in x.a` (`TypeError`) are ill-typed, and each raises on `c02nvW` in the engine model. -/
def tyBadQ1 : SQuery := ⟨[.var 0], some (.cmp .lt (.attr (.var 0) "a") (.attr (.var 0) "items"))⟩
def tyBadQ2 : SQuery := ⟨[.var 0], some (.cmp .eq (.attr (.var 0) "nope") (.lit 101 (.int 1)))⟩
def tyBadQ3 : SQuery := ⟨[.var 0], some (.cmp .eq (.index (.attr (.var 0) "items") 0) (.lit 101 (.int 1)))⟩
def tyBadQ4 : SQuery := ⟨[.var 0], some (.contains (.attr (.var 0) "a") (.lit 101 (.int 1)))⟩

example :
    tyBadQ1.wt tyNvSig c02nvW tyNvΓ tyNvΛ = false ∧ evalQuery c02nvW tyBadQ1.toQuery = .error .badOperand ∧
    tyBadQ2.wt tyNvSig c02nvW tyNvΓ tyNvΛ = false ∧ evalQuery c02nvW tyBadQ2.toQuery = .error .attrError ∧
    tyBadQ3.wt tyNvSig c02nvW tyNvΓ tyNvΛ = false ∧ evalQuery c02nvW tyBadQ3.toQuery = .error .indexError ∧
    tyBadQ4.wt tyNvSig c02nvW tyNvΓ tyNvΛ = false ∧ evalQuery c02nvW tyBadQ4.toQuery = .error .badOperand :=
  by decide +kernel

/-! `Index`, `Optional` and subclassing: a world with a subclass (class 1 ⊂ class 0) whose `items` lists all have
at least one element and whose `next` attribute is an object of class 0 or `None`. `x.items[0] >= 1` is typable
(`items : list 1`) although `x.items[1]` is not; `x.next == None` is typable, `x.next.a` is not
(`AttributeError` on `None`); the object of class 1 is accepted for the variable of type `obj 0`. -/
def tyIxW : World :=
  { objs := [⟨0, [("a", .int 1), ("items", .list [1, 2]), ("next", .obj 1)], false⟩,
             ⟨1, [("a", .int 2), ("items", .list [3]), ("next", .none), ("extra", .bool true)], false⟩],
    doms := [(0, [.obj 0, .obj 1])],
    subclass := [(1, 0)] }
def tyIxSig : Sig := [(0, [("a", .num), ("items", .list 1), ("next", .opt (.obj 0))]), (1, [("extra", .bool)])]
def tyIxΓ : VarCtx := [(0, .obj 0)]
def tyIxQ : SQuery :=
  ⟨[.var 0, .index (.attr (.var 0) "items") 0],
   some (.and (.cmp .ge (.index (.attr (.var 0) "items") 0) (.lit 101 (.int 1)))
              (.or (.cmp .eq (.attr (.var 0) "next") (.lit 102 .none)) (.hasType (.var 0) 1)))⟩
def tyIxBad1 : SQuery := ⟨[.var 0], some (.cmp .ge (.index (.attr (.var 0) "items") 1) (.lit 101 (.int 1)))⟩
def tyIxBad2 : SQuery := ⟨[.var 0], some (.cmp .ge (.attr (.attr (.var 0) "next") "a") (.lit 101 (.int 1)))⟩

example :
    World.wt tyIxSig tyIxΓ tyIxW = true ∧ tyIxQ.wtInfer tyIxSig tyIxW tyIxΓ = true ∧
    evalQuery tyIxW tyIxQ.toQuery = .ok [[.obj 1, .int 3]] ∧ solutions tyIxW tyIxQ = .ok [[.obj 1, .int 3]] ∧
    tyIxBad1.wtInfer tyIxSig tyIxW tyIxΓ = false ∧ evalQuery tyIxW tyIxBad1.toQuery = .error .indexError ∧
    tyIxBad2.wtInfer tyIxSig tyIxW tyIxΓ = false ∧ evalQuery tyIxW tyIxBad2.toQuery = .error .attrError :=
  by decide +kernel

end KrroodVerif.Eql
