import KrroodVerif.Props.C20
import KrroodVerif.Props.C14
import KrroodVerif.Lemmas.HeapReach
/-!
# C20, run level — at every point of every history nothing is alive that the user cannot reach

Every operation of the model that can release a reference (`drop`, `dropq`, `evalq`, `set` on a scalar AND on a container
field, whose inference may overwrite a scalar field — `parent` of `children`) ends with the collection CPython's reference
counting performs; all others only add references to live instances. Hence `HK` at every point of every history of the
specification (`specRun_HK`, from Lemmas/SpecOK.lean), whose heap the model's is (`run_heap_eq`): the theorems `C20_*_run`
and `C20_drop_all_clean` are readings of it.
-/
namespace KrroodVerif.SG

variable {σ : Type}

/-- the inference started by a relation on a container (non-scalar) field only writes container fields. No theorem assumes
it: the witnesses below are about schemas that are not -/
structure Schema.ContainerClosed (S : Schema) : Prop where
  supers : ∀ f c f', S.kind f ≠ .scalar → f' ∈ S.supers f c → S.kind f' ≠ .scalar
  takerSupers : ∀ f c f', S.kind f ≠ .scalar → f' ∈ S.takerSupers f c → S.kind f' ≠ .scalar
  inverse : ∀ f c f', S.kind f ≠ .scalar → S.inverse f c = some f' → S.kind f' ≠ .scalar
  takerInverse : ∀ f c f', S.kind f ≠ .scalar → S.takerInverse f c = some f' → S.kind f' ≠ .scalar
  trans : ∀ f f', S.kind f ≠ .scalar → S.transitive f = true → S.desc f' = S.desc f → S.kind f' ≠ .scalar

theorem updateFields_sub {S : Schema} {fields : List FEntry} {f : Fld} {a b : Obj} (hk : S.kind f ≠ .scalar)
    {e : FEntry} (he : e ∈ fields) : e ∈ updateFields S fields f a b := by
  unfold updateFields
  split
  · rename_i h1
    exact (hk h1).elim
  · split
    · exact he
    · exact List.mem_append_left _ he

theorem HK.record {q : Quirks} {C : Prop} {s : Spec} (hk : HK q C s.h) (S : Schema) (f : Fld) (a b : R) (inf : Bool)
    (ha : s.h.isLive a.obj = true) (hb : s.h.isLive b.obj = true) (hc : C → S.kind f ≠ .scalar) :
    HK q C (s.record S f a b inf).h := by
  unfold Spec.record
  cases inf with
  | false => exact hk
  | true =>
    refine hk.fields (h' := s.h.updateValue S f a.obj b.obj) rfl rfl rfl ?_
      (fun hC e he => updateFields_sub (hc hC) he)
    intro e he
    rcases updateFields_mem he with h1 | h1
    · exact Or.inl h1
    · exact Or.inr (h1 ▸ ⟨ha, hb⟩)

theorem specRun_HK (q : Quirks) (S : Schema) (ops : List Op) : HK q True (specRun q S ops).h :=
  (specRun_ok q S ops).hk

theorem run_heap_eq (S : Schema) (a : Alloc σ) (ha : a.Valid) (ops : List Op) :
    (run Quirks.asIs S a ops).h = (specRun Quirks.asIs S ops).h := by
  have := (C14_model_eq_spec Quirks.asIs S a ha ops ⟨Or.inl rfl, Or.inl rfl⟩).1
  rw [← this]
  rfl

/-- At every point of every history (every schema, valid allocator, `id()` recycling) the heap of the code
as it is only mentions live instances: the user's references, the cached domains of the query objects, owners and values
of field contents; and every query object in the expression table is one the user holds. -/
theorem C20_wf_run (S : Schema) (a : Alloc σ) (ha : a.Valid) (ops : List Op) :
    (run Quirks.asIs S a ops).h.WF Quirks.asIs := by
  rw [run_heap_eq S a ha]
  exact (specRun_HK Quirks.asIs S ops).1

/-- `gc.collect()` at any point of any history leaves no garbage — the fuel `live.length + 1` of the model's collector is
adequate on every heap a history produces. -/
theorem C20_no_garbage_after_collect_run (S : Schema) (a : Alloc σ) (ha : a.Valid) (ops : List Op) :
    (((run Quirks.asIs S a ops).h.collect Quirks.asIs).garbage Quirks.asIs) = [] :=
  collect_garbage_nil (C20_wf_run S a ha ops)

/-- Every schema, every valid allocator, every history: at every point nothing is alive that is
unreachable from the user's references and the user's live query objects. -/
theorem C20_no_garbage_run (S : Schema) (a : Alloc σ) (ha : a.Valid) (ops : List Op) :
    (run Quirks.asIs S a ops).h.garbage Quirks.asIs = [] := by
  have hk := specRun_HK Quirks.asIs S ops
  rw [run_heap_eq S a ha]
  exact hk.1.garbage_nil_iff.2 (hk.2.2 trivial)

/-- a container field `0` (children) whose inverse `1` (parent) is a scalar -/
def overwriteSchema : Schema where
  subs := fun _ => []
  depth := 1
  kind := fun f => if f = 1 then .scalar else .list
  supers := fun _ _ => []
  inverse := fun f _ => if f = 0 then some 1 else none
  transitive := fun _ => false
  desc := fun f => f
  fuel := 4

/-- On a concrete witness, in a schema that is not container-closed:
`p0.children = [c]` (inferred: `c.parent = p0`), the user drops `p0` (still reachable through `c.parent`), then
`p1.children.append(c)`: the inferred `c.parent = p1` overwrites the only reference to `p0`, and `p0` dies with the
`append`, as in CPython. -/
theorem C20_cex_container_overwrite :
    let ops : List Op := [.new 0 0 0, .new 1 0 1, .new 2 0 2, .set 0 0 2, .drop 0, .set 0 1 2]
    (run Quirks.asIs overwriteSchema lifo (ops.take 5)).h.live.map (·.obj) = [0, 1, 2] ∧
    (run Quirks.asIs overwriteSchema lifo ops).h.live.map (·.obj) = [1, 2] ∧
    (run Quirks.asIs overwriteSchema lifo ops).h.garbage Quirks.asIs = [] ∧
    (specRun Quirks.asIs overwriteSchema ops).reg.map (·.obj) = [1, 2] ∧
    ¬ overwriteSchema.ContainerClosed := by
  refine ⟨by decide +kernel, by decide +kernel, by decide +kernel, by decide +kernel, ?_⟩
  intro h
  exact h.inverse 0 0 1 (by decide) (by decide) (by decide)

/-- Every schema, every valid allocator, every history: if at the end the user holds no instance
and no query object then no instance is alive, and after `remove_dead_instances` every SymbolGraph structure is empty. -/
theorem C20_drop_all_clean (S : Schema) (a : Alloc σ) (ha : a.Valid) (ops : List Op)
    (hheld : (run Quirks.asIs S a ops).h.held = [])
    (hqv : ∀ v ∈ (run Quirks.asIs S a ops).h.qvars, v.held = false) :
    let st := run Quirks.asIs S a ops
    let g := sweep Quirks.asIs a st.g st.h.isLive
    st.h.live = [] ∧ g.nodes = [] ∧ g.byClass = [] ∧ g.instIdx = [] ∧ g.edges = [] ∧ g.relIdx = [] := by
  intro st g
  have hk := specRun_HK Quirks.asIs S ops
  rw [← run_heap_eq S a ha] at hk
  have hroots : st.h.roots Quirks.asIs = [] := roots_eq_nil rfl hheld hqv
  have hlive : st.h.live = [] := hk.2.1 hroots
  have hc : Clean st.h g := C20_registry_bounded_run Quirks.asIs S a ha ops rfl rfl
  have hn : g.nodes = [] := by
    have := hc.nodesLe
    rw [hlive] at this
    exact List.eq_nil_of_length_eq_zero (Nat.le_zero.1 this)
  have hi : g.instIdx = [] := by
    have := hc.instLe
    rw [hn] at this
    exact List.eq_nil_of_length_eq_zero (Nat.le_zero.1 this)
  have he : g.edges = [] := by
    rw [List.eq_nil_iff_forall_not_mem]
    intro e hem
    have := (hc.edgesLive e hem).1
    rw [hn] at this
    cases this
  have hr : g.relIdx = [] := by
    rw [List.eq_nil_iff_forall_not_mem]
    intro r hrm
    obtain ⟨e, hem, _⟩ := hc.relEdges r hrm
    rw [he] at hem
    cases hem
  exact ⟨hlive, hn, hc.byClass.trans hn, hi, he, hr⟩

open KrroodVerif.Drive.SG in
/-- The instance the correspondence runs: the harness's schema (which has container fields
whose inference overwrites a scalar field: `Org.children` (10) / `Org.parent` (11)), classes defined on the way included. -/
theorem C20_no_garbage_run_harness (extra : List (Cls × Cls)) (a : Alloc σ) (ha : a.Valid) (ops : List Op) :
    (run Quirks.asIs (schemaWith extra) a ops).h.garbage Quirks.asIs = [] :=
  C20_no_garbage_run _ a ha ops

/-- a container-closed schema (in contrast to `overwriteSchema`) -/
example : cexSchema.ContainerClosed :=
  ⟨fun _ _ _ _ h => by simp [cexSchema] at h, fun _ _ _ _ h => by simp [cexSchema] at h,
   fun _ _ _ _ h => by simp [cexSchema] at h, fun _ _ _ _ h => by simp [cexSchema] at h,
   fun _ _ _ _ _ => by simp [cexSchema]⟩

/-- the harness schema is not container-closed: `children.append` overwrites `parent`; the overwritten parent dies with
the `append` -/
example :
    let ops : List Op := [.new 0 1 0, .new 1 1 1, .new 2 1 2, .set 10 0 2, .drop 0, .set 10 1 2]
    (run Quirks.asIs Drive.SG.schema lifo (ops.take 5)).h.live.map (·.obj) = [0, 1, 2] ∧
    (run Quirks.asIs Drive.SG.schema lifo ops).h.live.map (·.obj) = [1, 2] ∧
    (run Quirks.asIs Drive.SG.schema lifo ops).h.fields.map (fun e => (e.owner, e.fld, e.val)) = [(2, 11, 1), (1, 10, 2)] := by
  decide +kernel

/-- a history that ends with nothing held, after relations, a role and queries (harness schema) -/
example :
    let st := run Quirks.asIs Drive.SG.schema lifo
      [.new 0 2 0, .new 1 1 1, .newrole 2 8 2 0, .set 7 2 1, .mkq 5 0 none, .evalq 5, .drop 0, .drop 1, .drop 2, .dropq 5]
    st.h.held = [] ∧ (∀ v ∈ st.h.qvars, v.held = false) ∧ st.g.nodes.length = 3 := by
  decide +kernel

end KrroodVerif.SG
