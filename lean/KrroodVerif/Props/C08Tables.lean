import KrroodVerif.Model.RuleTables
import KrroodVerif.Props.C08Build
/-!
# C08 — surgery and selector semantics as tables

`Model/RuleTables.lean` describes `rule.refinement` / `rule.alternative_or_next` (`SurgeryTable`) and
`ExceptIf` / `Alternative` / `Next` / `update_conclusion` (`SelectorTable`) as first-order data with interpreters
`buildWith` / `evalWith`. On the hand table `Rdr.surgery` the table interpreter IS the model's builder
`build Quirks.today` (every store, every program, every authoring schedule); on the one-variable reading of
`Rdr.selectors` (`SelectorTable.oneVar`: `Next` hands the bindings of a false left value to its right operand, which over
one rule variable only repeats results) it IS the model's evaluator `evalT`, for every keying `DedupSpec.toDedup` of
`concluded_before`, every tree, payload, domain, incoming binding and memory.

The translator (`harness/translate/c08_translate.py`) regenerates `Translated.surgery` / `Translated.selectors` from
the Python AST on every run; the kernel then re-checks `Translated.surgery = Rdr.surgery`,
`Translated.selectors = Rdr.selectors` (`decide`) and `C08_end_to_end` restated for the translated tables
(`C08_end_to_end_of_tables`, the form the per-run file instantiates).
-/
namespace KrroodVerif.Rdr

/-! ## surgery -/

namespace BState

theorem setSide_left (v : Nat) : setSide .left v = fun n => { n with left := some v } := rfl
theorem setSide_right (v : Nat) : setSide .right v = fun n => { n with right := some v } := rfl

theorem climbStep_eq_climbStepWith (s : BState) (cur : Nat) :
    s.climbStep cur = climbStepWith surgery.altOrNext.climb s cur := by
  unfold climbStepWith climbStep
  cases (s.node cur).parent with
  | none => rfl
  | some par =>
    simp only [surgery, List.any_cons, List.any_nil, condHolds, Bool.or_false]
    cases hk : (s.node par).kind <;> simp

theorem climb_eq_climbWith (s : BState) : ∀ (f cur : Nat),
    s.climb f cur = climbWith surgery.altOrNext.climb s f cur
  | 0, _ => rfl
  | f + 1, cur => by
    simp only [climbWith, climb, ← climbStep_eq_climbStepWith, ← climb_eq_climbWith s f]

/-- `graft`, the operation `Lemmas/RuleBuild.lean` reasons about, is the common tail `wrapWith` of both surgery
functions with the hand table's settings -/
theorem graft_eq_wrapWith (tests : List (Side × Side)) (s : BState) (k : NK) (wt : Kind) (cur b : Nat) :
    graft s tests k cur b =
      wrapWith (s.alloc { kind := .leaf, blk := b }).1 cur s.nodes.length true ⟨k, .current, .newBranch, wt⟩ true
        ⟨true, tests⟩ .rightOfNew :=
  rfl

theorem doRefinement_eq_doRefinementWith (s : BState) (b : Nat) :
    s.doRefinement Quirks.today b = s.doRefinementWith surgery.refinement b := by
  cases hs : s.stack with
  | nil => simp only [doRefinementWith, doRefinement, hs]
  | cons cur rest =>
    rw [doRefinement_eq s cur rest b hs]
    simp only [doRefinementWith, hs]
    exact congrArg some (graft_eq_wrapWith _ s .exceptIf .ref cur b)

theorem doAltOrNext_eq_doAltOrNextWith (s : BState) (w : Wrap) (b : Nat) (hl : w.left = .current)
    (hr : w.right = .newBranch) :
    s.doAltOrNext Quirks.today w.cls b = s.doAltOrNextWith surgery.altOrNext w b := by
  cases hs : s.stack with
  | nil => simp only [doAltOrNextWith, doAltOrNext, hs]
  | cons top rest =>
    rw [doAltOrNext_eq s top rest w.cls b hs]
    simp only [doAltOrNextWith, hs, show surgery.altOrNext.climbLoops = true from rfl, ← climb_eq_climbWith,
      ↓reduceIte]
    obtain ⟨k, l, r, wt⟩ := w
    subst hl hr
    exact congrArg some (graft_eq_wrapWith _ s k wt _ b)

theorem step_eq_stepWith (s : BState) (op : Op) : s.step Quirks.today op = s.stepWith surgery op := by
  cases op with
  | refinement b => exact doRefinement_eq_doRefinementWith s b
  | alternative b => exact doAltOrNext_eq_doAltOrNextWith s surgery.altOrNext.wrapAlt b rfl rfl
  | next b => exact doAltOrNext_eq_doAltOrNextWith s surgery.altOrNext.wrapNext b rfl rfl
  | _ => rfl

theorem run_eq_runWith : ∀ (ops : List Op) (s : BState), s.run Quirks.today ops = s.runWith surgery ops
  | [], _ => rfl
  | op :: ops, s => by
    simp only [run, runWith, step_eq_stepWith]
    cases s.stepWith surgery op with
    | none => rfl
    | some s' => exact run_eq_runWith ops s'

end BState

/-- The surgery table `Rdr.surgery`, interpreted, is the model's builder — every program. -/
theorem build_eq_buildWith (p : Prog) : build Quirks.today p = buildWith surgery p :=
  BState.run_eq_runWith _ _

theorem buildA_eq_buildAWith (a : Authored) : buildA Quirks.today a = buildAWith surgery a :=
  BState.run_eq_runWith _ _

/-! ## selectors -/

theorem mapSeen_filter (f : Out → Seen → List Out × Seen) (p : Out → Bool) : ∀ (l : List Out) (s : Seen),
    mapSeen (fun a s => if p a then f a s else ([], s)) l s = mapSeen f (l.filter p) s
  | [], s => rfl
  | a :: as, s => by
    cases hp : p a
    · simp only [mapSeen, hp, Bool.false_eq_true, ↓reduceIte, List.filter_cons, List.nil_append]
      rw [mapSeen_filter f p as s]
    · simp only [mapSeen, hp, ↓reduceIte, List.filter_cons]
      rw [mapSeen_filter f p as]

theorem mapSeen_congr {α} (f g : α → Seen → List Out × Seen) (h : ∀ a s, f a s = g a s) (l : List α) (s : Seen) :
    mapSeen f l s = mapSeen g l s := by
  have : f = g := by
    funext a s
    exact h a s
  rw [this]

theorem mapSeen_nil' {α} (f : α → Seen → List Out × Seen) (s : Seen) : mapSeen f [] s = ([], s) := rfl

theorem emitOut_left (d : Dedup) (id x : Nat) (lc rc : List Nat) (f : Bool) (s : Seen) :
    emitOut d id x lc rc ⟨f, .left⟩ s = ([⟨x, f, (update d id x f lc s).1⟩], (update d id x f lc s).2) := rfl
theorem emitOut_right (d : Dedup) (id x : Nat) (lc rc : List Nat) (f : Bool) (s : Seen) :
    emitOut d id x lc rc ⟨f, .right⟩ s = ([⟨x, f, (update d id x f rc s).1⟩], (update d id x f rc s).2) := rfl
theorem emitOut_none (d : Dedup) (id x : Nat) (lc rc : List Nat) (f : Bool) (s : Seen) :
    emitOut d id x lc rc ⟨f, .none⟩ s = ([⟨x, f, []⟩], s) := rfl

/-- `ExceptIf`: only the true right values are passed on -/
theorem rightEmits_skip (d : Dedup) (id : Nat) (lc : List Nat) (e : Emit) (rs : List Out) (s : Seen) :
    rightEmits d id lc (some e) none rs s =
      mapSeen (fun (rv : Out) s => emitOut d id rv.x lc rv.concl e s) (rs.filter fun o => !o.isF) s := by
  unfold rightEmits
  rw [← mapSeen_filter]
  congr 1
  funext rv s
  cases rv.isF <;> simp [optEmit]

/-- `Next` and `Alternative`: every right value is passed on -/
theorem rightEmits_both (d : Dedup) (id : Nat) (lc : List Nat) (eT eF : Emit) (rs : List Out) (s : Seen) :
    rightEmits d id lc (some eT) (some eF) rs s =
      mapSeen (fun (rv : Out) s => emitOut d id rv.x lc rv.concl (if rv.isF then eF else eT) s) rs s := by
  unfold rightEmits
  congr 1
  funext rv s
  cases rv.isF <;> simp [optEmit]

/-- a right value yielded with its own truth value and conclusions (`Next`) -/
theorem emitOut_right_ite (d : Dedup) (id x : Nat) (lc rc : List Nat) (f : Bool) (s : Seen) :
    emitOut d id x lc rc (if f = true then ⟨true, .right⟩ else ⟨false, .right⟩) s =
      ([⟨x, f, (update d id x f rc s).1⟩], (update d id x f rc s).2) := by
  cases f <;> rfl

theorem emitOut_ite (d : Dedup) (id x : Nat) (lc rc : List Nat) (c : Prop) [Decidable c] (a b : Emit) (s : Seen) :
    emitOut d id x lc rc (if c then a else b) s = if c then emitOut d id x lc rc a s else emitOut d id x lc rc b s := by
  split <;> rfl

theorem onLeftWith_emit (d : Dedup) (id : Nat) (rst : List Nat) (evalR : Option Nat → Seen → List Out × Seen) (lv : Out)
    (e : Emit) (s : Seen) : onLeftWith d id rst evalR lv (.emit e) s = emitOut d id lv.x lv.concl rst e s := rfl

theorem onLeftWith_evalRight (d : Dedup) (id : Nat) (rst : List Nat) (evalR : Option Nat → Seen → List Out × Seen)
    (lv : Out) (onT onF : Option Emit) (s : Seen) :
    onLeftWith d id rst evalR lv (.evalRight onT onF none) s =
      rightEmits d id lv.concl onT onF (evalR (some lv.x) s).1 (evalR (some lv.x) s).2 := rfl

theorem onLeftWith_ite (d : Dedup) (id : Nat) (rst : List Nat) (evalR : Option Nat → Seen → List Out × Seen) (lv : Out)
    (c : Prop) [Decidable c] (a b : OnLeft) (s : Seen) :
    onLeftWith d id rst evalR lv (if c then a else b) s =
      if c then onLeftWith d id rst evalR lv a s else onLeftWith d id rst evalR lv b s := by
  split <;> rfl

theorem evalT_eq_evalWith_of (pay : Payload) (tb : SelectorTable) (dom : List Nat)
    (h1 : tb.exceptIf = selectors.exceptIf) (h2 : tb.alt = selectors.alt) (h3 : tb.next = nextRowLeak) (t : Sel) :
    ∀ src s, evalT pay tb.dedup.toDedup dom t src s = evalWith tb pay dom t src s := by
  induction t with
  | leaf id blk concl =>
    intro src s
    simp [evalT, evalWith]
  | node k id l r ihl ihr =>
    intro src s
    cases k
    · simp only [evalT, evalWith, SelectorTable.row, h1, selectors, ← ihl, ← ihr]
      congr 1
      funext lv s
      cases hf : lv.isF
      · simp only [Bool.false_eq_true, ↓reduceIte, onLeftWith, rightEmits_skip]
        -- the `ExceptIf` row loops over the true right values and then adds the left value's conclusions if there was
        -- none; `evalT` tests first: without a true right value the loop runs over `[]`
        split
        · rename_i he
          have : List.filter (fun o => !o.isF) (evalT pay tb.dedup.toDedup dom r (some lv.x) s).fst = [] :=
            List.isEmpty_iff.mp he
          simp only [this, mapSeen_nil', List.nil_append, emitOut_left]
        · simp only [emitOut_right]
      · simp only [↓reduceIte, onLeftWith, emitOut_none]
    · simp only [evalT, evalWith, SelectorTable.row, h2, selectors, ← ihl, ← ihr, onLeftWith_ite, onLeftWith_emit,
        onLeftWith_evalRight, rightEmits_both, emitOut_ite, emitOut_left, emitOut_right, emitOut_none]
    · simp only [evalT, evalWith, SelectorTable.row, h3, nextRowLeak, ← ihl, ← ihr, onLeftWith_ite, onLeftWith_emit,
        onLeftWith_evalRight, rightEmits_both, emitOut_right_ite, emitOut_left]

/-- The selector table `Rdr.selectors` (rows: one-variable reading), interpreted, is the model's
evaluator `evalT` — every keying of `concluded_before` a `DedupSpec` describes, every tree, payload, domain,
incoming binding and memory. -/
theorem evalT_eq_evalWith (pay : Payload) (ds : DedupSpec) (dom : List Nat) (t : Sel) (src : Option Nat) (s : Seen) :
    evalT pay ds.toDedup dom t src s =
      evalWith ({ selectors with dedup := ds } : SelectorTable).oneVar pay dom t src s :=
  evalT_eq_evalWith_of pay ({ selectors with dedup := ds } : SelectorTable).oneVar dom rfl rfl rfl t src s

theorem selectors_dedup : selectors.dedup.toDedup = Quirks.today.dedup := rfl

theorem evalTop_eq_evalTopWith (pay : Payload) (dom : List Nat) (t : Sel) :
    evalTop pay Quirks.today.dedup dom t = evalTopWith selectors.oneVar pay dom t := by
  unfold evalTop evalTopWith
  rw [← evalT_eq_evalWith_of pay selectors.oneVar dom rfl rfl rfl t none []]
  rfl

/-- The form the per-run file instantiates: builder and evaluator interpreted from any tables that equal the hand tables
return exactly the rows of the specification — for every unambiguous program, every payload and every domain. -/
theorem C08_end_to_end_of_tables (st : SurgeryTable) (tb : SelectorTable) (hs : st = surgery) (ht : tb = selectors)
    (p : Prog) (pay : Payload) (dom : List Nat) (hu : p.unambiguous = true) :
    ∃ t, (buildWith st p).bind BState.tree = some t ∧
      ∀ c x, (c, x) ∈ evalTopWith tb.oneVar pay dom t ↔ (c, x) ∈ spec pay p dom := by
  subst hs ht
  obtain ⟨t, h1, h2⟩ := C08_end_to_end p pay dom hu
  rw [build_eq_buildWith] at h1
  rw [evalTop_eq_evalTopWith] at h2
  exact ⟨t, h1, h2⟩

/-- Builder and evaluator interpreted from the hand tables return exactly the rows of the specification — for every
unambiguous program, every payload and every domain. -/
theorem C08_end_to_end_tables (p : Prog) (pay : Payload) (dom : List Nat) (hu : p.unambiguous = true) :
    ∃ t, (buildWith surgery p).bind BState.tree = some t ∧
      ∀ c x, (c, x) ∈ evalTopWith selectors.oneVar pay dom t ↔ (c, x) ∈ spec pay p dom :=
  C08_end_to_end_of_tables surgery selectors rfl rfl p pay dom hu

/-- non-vacuity: the hypotheses of `C08_end_to_end_of_tables` are met by the hand tables and a six-branch program -/
example : surgery = surgery ∧ selectors = selectors ∧
    (Prog.mk 0 (.cons .ref (.mk 1 (.cons .alt (.mk 2 (.cons .ref (.mk 3 .nil) .nil)) (.cons .next (.mk 4 .nil) .nil)))
      (.cons .alt (.mk 5 .nil) (.cons .next (.mk 6 .nil) .nil)))).unambiguous = true := by decide

end KrroodVerif.Rdr
