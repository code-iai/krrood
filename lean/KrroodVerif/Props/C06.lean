import KrroodVerif.Lemmas.OrmGenLemmas
/-!
# C06 — ORMatic produces a valid, complete SQLAlchemy layer for every supported model; generation is deterministic

Property theorems about `OrmGen.generate` (Model/OrmGen.lean), the transcription of ORMatic's name derivation, parent
resolution, inherited-field elimination, kind dispatch and module imports. `Quirks.today` is the generator as it was
found (F-C06-1 and F-C06-2 present), `Quirks.none` the generator at /repo HEAD (fixes 7e17f04, 3b42907).
-/
namespace KrroodVerif.OrmGen

/-! ## name formulas -/

theorem lower_append (a b : Name) : lower (a ++ b) = lower a ++ lower b := by simp [lower]

theorem lower_lower (a : Name) : lower (lower a) = lower a := by
  simp [lower, toLower_toLower]

theorem lower_length (a : Name) : (lower a).length = a.length := by simp [lower]

/-- The name formulas do not collide.
(1) table names `XDAO` and FK column names `f_id` are injective in the class / field name;
(2) association table names `f"{table.lower()}_{field}_association"` of two (class, field) pairs coincide — even
    ignoring case — only if the class names coincide ignoring case and the field names coincide ignoring case,
    provided the class names do not contain `dao_`;
(3) a DAO table name is never an association table name (ignoring case). -/
theorem C06_names_injective :
    Function.Injective tableName ∧ Function.Injective fkName ∧
    (∀ c₁ c₂ f₁ f₂ : Name, hasDaoUnderscore (lower c₁) = false → hasDaoUnderscore (lower c₂) = false →
      lower (assocName (tableName c₁) f₁) = lower (assocName (tableName c₂) f₂) →
      lower c₁ = lower c₂ ∧ lower f₁ = lower f₂) ∧
    (∀ c₁ c₂ f : Name, lower (tableName c₁) ≠ lower (assocName (tableName c₂) f)) :=
  ⟨tableName_injective, fkName_injective, fun _ _ _ _ => lower_assocName_injective, lower_tableName_ne_assocName⟩

/-- The association table name `f"{table.lower()}_{field}_association"` is an injective function of the (class, field)
pair — up to the case of the class name, which `table.lower()` erases — for class names free of `dao_`. In particular
two different collection fields of one class never share an association table. -/
theorem assocName_injective (c₁ c₂ f₁ f₂ : Name) (h₁ : hasDaoUnderscore (lower c₁) = false)
    (h₂ : hasDaoUnderscore (lower c₂) = false)
    (h : assocName (tableName c₁) f₁ = assocName (tableName c₂) f₂) : lower c₁ = lower c₂ ∧ f₁ = f₂ := by
  rw [assocName_tableName, assocName_tableName] at h
  exact assocName_split h₁ h₂ h

/-- The association table name keeps every character of the table and the field name (no truncation): its length is
`len(table) + 1 + len(field) + len("_association")`. -/
theorem assocName_length (t f : Name) : (assocName t f).length = t.length + f.length + 13 := by
  simp [assocName, lower, assocSuffix]
  omega

/-- `XDAO`, `f_id` and `<table.lower()>_id` keep every character of the name they are derived from. -/
theorem generated_name_lengths (c f : Name) :
    (tableName c).length = c.length + 3 ∧ (fkName f).length = f.length + 3 ∧
      (assocFk (tableName c)).length = c.length + 6 := by
  simp [tableName, fkName, assocFk, lower, daoSuffix, idSuffix]

/-- the two FK columns of an association table between different classes (ignoring case) are named differently -/
theorem C06_assoc_fk_distinct (c₁ c₂ : Name) (h : lower c₁ ≠ lower c₂) :
    assocFk (tableName c₁) ≠ assocFk (tableName c₂) := by
  intro e
  simp only [assocFk, lower_tableName] at e
  exact h (List.append_cancel_right (List.append_cancel_right e))

/-! ## validity -/

/-- what the field-name hygiene of `WF` gives for the name of an attribute emitted for field `f` -/
structure AttrNameOk (f : Field) (a : Attr) : Prop where
  lower_eq : lower a.name = a.name
  ne_pk : a.name ≠ pkName
  ne_poly : a.name ≠ polyName
  form : a.name = f.name ∧ endsWithId a.name = false ∨ a.name = fkName f.name

theorem attrNameOk {m : ClassModel} (wf : WF m) {c : Class} (hc : c ∈ m) {f : Field}
    (hf : f ∈ tableFields m c) {a : Attr} (ha : a ∈ parseField m c f) : AttrNameOk f a := by
  have hy := tableFields_nameOk wf hc hf
  rcases (emittedAttr ha).name with h | h
  · refine ⟨h ▸ hy.lower_eq, fun e => ?_, h ▸ hy.ne_poly, .inl ⟨h, h ▸ hy.not_id⟩⟩
    have := hy.not_id
    rw [← h, e] at this
    exact absurd this (by decide)
  · refine ⟨?_, fun e => ?_, fun e => ?_, .inr h⟩
    · rw [h, lower_fkName, hy.lower_eq]
    · exact hy.ne_database (fkName_injective ((h.symm.trans e).trans pkName_eq))
    · exact absurd (e ▸ h ▸ endsWithId_fkName f.name) (by decide)

theorem attrs_names_nodup {m : ClassModel} (wf : WF m) {c : Class} (hc : c ∈ m) :
    (((tableFields m c).flatMap (parseField m c)).map (·.name)).Nodup := by
  refine nodup_map_flatMap _ (tableFields_pairwise m c) (fun f _ => parseField_names_nodup m c f) ?_
  intro f hf g hg hne a ha b hb e
  rcases (attrNameOk wf hc hf ha).form with ⟨h1, i1⟩ | h1 <;>
    rcases (attrNameOk wf hc hg hb).form with ⟨h2, i2⟩ | h2
  · exact hne (by rw [← h1, ← h2, e])
  · rw [e, h2, endsWithId_fkName] at i1
    exact absurd i1 (by decide)
  · rw [← e, h1, endsWithId_fkName] at i2
    exact absurd i2 (by decide)
  · exact hne (fkName_injective (by rw [← h1, ← h2, e]))

theorem genTable_attrNames (m : ClassModel) (c : Class) : (genTable m c).attrNames =
    pkName :: (if ((parentOf m c).isNone && hasChildren m c) = true then [polyName] else []) ++
      ((tableFields m c).flatMap (parseField m c)).map (·.name) := rfl

theorem genTable_attrNames_nodup {m : ClassModel} (wf : WF m) {c : Class} (hc : c ∈ m) :
    ((genTable m c).attrNames.map lower).Nodup := by
  have hN : ∀ x ∈ ((tableFields m c).flatMap (parseField m c)).map (·.name),
      lower x = x ∧ x ≠ pkName ∧ x ≠ polyName := by
    intro x hx
    obtain ⟨a, ha, rfl⟩ := List.mem_map.mp hx
    obtain ⟨f, hf, ha⟩ := List.mem_flatMap.mp ha
    have := attrNameOk wf hc hf ha
    exact ⟨this.lower_eq, this.ne_pk, this.ne_poly⟩
  have hT : ((pkName :: polyName :: ((tableFields m c).flatMap (parseField m c)).map (·.name)).map lower).Nodup := by
    -- by rewriting: a `show` of the lower-cased list would make the unifier evaluate `lower` on the literal names
    rw [List.map_cons, List.map_cons, List.map_congr_left fun x hx => (hN x hx).1, List.map_id', lower_pkName,
      lower_polyName]
    refine List.nodup_cons.mpr
      ⟨fun h => ?_, List.nodup_cons.mpr ⟨fun h => (hN _ h).2.2 rfl, attrs_names_nodup wf hc⟩⟩
    exact (List.mem_cons.mp h).elim (by decide) fun h => (hN _ h).2.1 rfl
  rw [genTable_attrNames]
  refine hT.sublist (List.Sublist.map _ (.cons_cons _ ?_))
  cases (parentOf m c).isNone && hasChildren m c with
  | false => exact .cons _ (.refl _)
  | true => exact .refl _

theorem mem_tables {q : Quirks} {m : ClassModel} {t : Table} (h : t ∈ (generate q m).tables) :
    ∃ c ∈ m, t = genTable m c := by
  obtain ⟨c, hc, e⟩ := List.mem_map.mp h
  exact ⟨c, hc, e.symm⟩

theorem mem_assocs {q : Quirks} {m : ClassModel} {a : Assoc} (h : a ∈ (generate q m).assocs) :
    ∃ c ∈ m, ∃ f ∈ tableFields m c, a ∈ assocOf q m c f := by
  obtain ⟨c, hc, h⟩ := List.mem_flatMap.mp h
  obtain ⟨f, hf, h⟩ := List.mem_flatMap.mp h
  exact ⟨c, hc, f, hf, h⟩

theorem tableName_mem {q : Quirks} {m : ClassModel} {t : Name} (h : mapped m t = true) :
    tableName t ∈ (generate q m).tableNames := by
  obtain ⟨d, hd, rfl⟩ := mapped_iff.mp h
  exact List.mem_map.mpr ⟨_, List.mem_map.mpr ⟨d, hd, rfl⟩, rfl⟩

theorem tableNames_nodup {q : Quirks} {m : ClassModel} (wf : WF m) :
    ((generate q m).tables.map (fun t => lower t.name)).Nodup := by
  have e : (generate q m).tables.map (fun t => lower t.name) =
      (m.map (fun c => lower c.name)).map (· ++ ['d', 'a', 'o']) := by
    simp [generate, List.map_map, genTable, lower_tableName, Function.comp_def]
  rw [e]
  exact Nodup.map_inj (fun a b h => List.append_cancel_right h) wf.namesDistinct

theorem assocNames_nodup {q : Quirks} {m : ClassModel} (wf : WF m) :
    ((generate q m).assocs.map (fun a => lower a.name)).Nodup := by
  refine nodup_map_flatMap _ (List.pairwise_map.mp wf.namesDistinct) (fun c hc => ?_) ?_
  · refine nodup_map_flatMap _ (tableFields_pairwise m c) (fun f _ => ?_) ?_
    · obtain ⟨n, k⟩ := f
      cases k with
      | coll t => by_cases hm : mapped m t = true <;> simp [assocOf, hm]
      | _ => simp [assocOf]
    · intro f hf g hg hne a ha b hb e
      obtain ⟨_, _, _, rfl⟩ := mem_assocOf.mp ha
      obtain ⟨_, _, _, rfl⟩ := mem_assocOf.mp hb
      have hcl := wf.namesClean c hc
      have := (lower_assocName_injective hcl hcl e).2
      rw [(tableFields_nameOk wf hc hf).lower_eq, (tableFields_nameOk wf hc hg).lower_eq] at this
      exact hne this
  · intro c hc d hd hne a ha b hb e
    obtain ⟨f, _, ha⟩ := List.mem_flatMap.mp ha
    obtain ⟨g, _, hb⟩ := List.mem_flatMap.mp hb
    obtain ⟨_, _, _, rfl⟩ := mem_assocOf.mp ha
    obtain ⟨_, _, _, rfl⟩ := mem_assocOf.mp hb
    exact hne (lower_assocName_injective (wf.namesClean c hc) (wf.namesClean d hd) e).1

theorem Table.mem_targets {t : Table} {x : Name} (h : x ∈ t.targets) :
    t.base = some x ∨ ∃ a ∈ t.attrs, a.kind = .fkCol x ∨ ∃ many sec, a.kind = .rel x many sec := by
  rcases List.mem_append.mp h with h | h
  · exact .inl (Option.mem_toList.mp h)
  · obtain ⟨a, ha, hx⟩ := List.mem_flatMap.mp h
    refine .inr ⟨a, ha, ?_⟩
    split at hx
    · rename_i tg hk
      exact .inl (List.mem_singleton.mp hx ▸ hk)
    · rename_i tg many sec hk
      exact .inr ⟨many, sec, List.mem_singleton.mp hx ▸ hk⟩
    · exact absurd hx List.not_mem_nil

theorem Table.mem_secondaries {t : Table} {x : Name} (h : x ∈ t.secondaries) :
    ∃ a ∈ t.attrs, ∃ tg many, a.kind = .rel tg many (some x) := by
  obtain ⟨a, ha, hx⟩ := List.mem_flatMap.mp h
  refine ⟨a, ha, ?_⟩
  split at hx
  · rename_i tg many s hk
    exact ⟨tg, many, List.mem_singleton.mp hx ▸ hk⟩
  · exact absurd hx List.not_mem_nil

theorem selfCollection_of {m : ClassModel} {c : Class} {f : Field} (hc : c ∈ m) (hf : f ∈ tableFields m c)
    (hk : f.kind = .coll c.name) : selfCollection m = true :=
  List.any_eq_true.mpr ⟨c, hc, List.any_eq_true.mpr ⟨f, hf, beq_iff_eq.mpr hk⟩⟩

theorem static_imports (q : Quirks) (m : ClassModel) :
    Module.typing ∈ imports q m ∧ Module.customTypes ∈ imports q m := by
  simp [imports]

theorem mem_imports_of_field {q : Quirks} {m : ClassModel} {c : Class} {f : Field} {x : Module} (hc : c ∈ m)
    (hf : f ∈ tableFields m c) (hx : x ∈ fieldImports f) : x ∈ imports q m := by
  unfold imports
  simp only [List.mem_append, List.mem_flatMap]
  exact .inl (.inr ⟨c, hc, f, hf, hx⟩)

theorem builtins_imported {q : Quirks} {m : ClassModel}
    (h2 : q.builtinsOnlyWhenUsed = true → hasBuiltinField m = true) : Module.builtins ∈ imports q m := by
  cases hq : q.builtinsOnlyWhenUsed with
  | false => simp [imports, hq]
  | true =>
    obtain ⟨c, hc, hany⟩ := List.any_eq_true.mp (h2 hq)
    obtain ⟨f, hf, hk⟩ := List.any_eq_true.mp hany
    refine mem_imports_of_field hc hf ?_
    obtain ⟨n, k⟩ := f
    cases k with
    | scalar s o => exact List.mem_singleton.mpr rfl
    | _ => exact absurd hk Bool.false_ne_true

theorem assocFkNames_distinct (q : Quirks) (l r : Name)
    (h : q.sameAssocFkNames = true → assocFk l ≠ assocFk r) :
    (assocFkNames q l r).1 ≠ (assocFkNames q l r).2 := by
  unfold assocFkNames
  cases hq : q.sameAssocFkNames with
  | true => simpa using h hq
  | false =>
    by_cases e : assocFk l = assocFk r
    · simp [e, sourcePrefix, targetPrefix]
    · simp [e]

/-- The generated schema of a well-formed model is valid under any quirk setting whose trigger is absent from the
model: `sameAssocFkNames` needs a collection of a class's own type, `builtinsOnlyWhenUsed` a model without a
builtin-typed column. `C06_valid_partial` and `C06_full` are the two settings of interest. -/
theorem generate_valid (q : Quirks) (m : ClassModel) (wf : WF m)
    (h1 : q.sameAssocFkNames = true → noSelfCollection m)
    (h2 : q.builtinsOnlyWhenUsed = true → hasBuiltinField m = true) : Valid (generate q m) := by
  constructor
  case notCrashed =>
    refine List.any_eq_false.mpr fun c hc => Bool.eq_false_iff.mp (List.any_eq_false.mpr fun f hf => ?_)
    exact Bool.eq_false_iff.mp
      (fieldCrashes_of_kindOk (wf.kindsOk c hc f (tableFields_own (wf.ownFieldsDistinct c hc) hf)))
  case tablesDistinct =>
    refine List.nodup_append.mpr ⟨tableNames_nodup wf, assocNames_nodup wf, ?_⟩
    intro x hx y hy e
    obtain ⟨t, ht, rfl⟩ := List.mem_map.mp hx
    obtain ⟨a, ha, rfl⟩ := List.mem_map.mp hy
    obtain ⟨c, _, rfl⟩ := mem_tables ht
    obtain ⟨d, _, f, _, haf⟩ := mem_assocs ha
    obtain ⟨_, _, _, rfl⟩ := mem_assocOf.mp haf
    exact lower_tableName_ne_assocName _ _ _ e
  case attrsDistinct =>
    intro t ht
    obtain ⟨c, hc, rfl⟩ := mem_tables ht
    exact genTable_attrNames_nodup wf hc
  case assocColsDistinct =>
    intro a ha
    obtain ⟨c, hc, f, hf, haf⟩ := mem_assocs ha
    obtain ⟨t, hk, hm, rfl⟩ := mem_assocOf.mp haf
    refine assocFkNames_distinct q _ _ fun hq => C06_assoc_fk_distinct _ _ fun e => ?_
    obtain ⟨d, hd, rfl⟩ := mapped_iff.mp hm
    cases nodup_map_inj wf.namesDistinct hc hd e
    exact Bool.false_ne_true ((Eq.symm (h1 hq)).trans (selfCollection_of hc hf hk))
  case targetsExist =>
    intro t ht x hx
    obtain ⟨c, hc, rfl⟩ := mem_tables ht
    rcases Table.mem_targets hx with hb | ⟨a, ha, hk⟩
    · obtain ⟨p, hp, rfl⟩ := Option.map_eq_some_iff.mp hb
      exact tableName_mem (mapped_iff.mpr ⟨p, (parentOf_some hp).1, rfl⟩)
    · obtain ⟨f, _, ha⟩ := List.mem_flatMap.mp ha
      rcases hk with hk | ⟨many, sec, hk⟩
      · obtain ⟨t', ht', rfl⟩ := (emittedAttr ha).fkTarget _ hk
        exact tableName_mem ht'
      · obtain ⟨t', ht', rfl, _⟩ := (emittedAttr ha).relTarget _ _ _ hk
        exact tableName_mem ht'
  case secondariesExist =>
    intro t ht x hx
    obtain ⟨c, hc, rfl⟩ := mem_tables ht
    obtain ⟨a, ha, tg, many, hk⟩ := Table.mem_secondaries hx
    obtain ⟨f, hf, ha⟩ := List.mem_flatMap.mp ha
    obtain ⟨t', ht', _, hs⟩ := (emittedAttr ha).relTarget _ _ _ hk
    obtain ⟨hfk, rfl⟩ := hs _ rfl
    exact List.mem_map.mpr ⟨_, List.mem_flatMap.mpr ⟨c, hc, List.mem_flatMap.mpr
      ⟨f, hf, mem_assocOf.mpr ⟨t', hfk, ht', rfl⟩⟩⟩, rfl⟩
  case assocTargetsExist =>
    intro a ha
    obtain ⟨c, hc, f, hf, haf⟩ := mem_assocs ha
    obtain ⟨t, _, hm, rfl⟩ := mem_assocOf.mp haf
    exact ⟨tableName_mem (mapped_iff.mpr ⟨c, hc, rfl⟩), tableName_mem hm⟩
  case modulesImported =>
    intro t ht
    obtain ⟨c, hc, rfl⟩ := mem_tables ht
    have hb : Module.builtins ∈ (generate q m).imports := builtins_imported h2
    refine ⟨fun x hx => List.mem_singleton.mp hx ▸ hb, fun a ha x hx => ?_⟩
    obtain ⟨f, hf, ha⟩ := List.mem_flatMap.mp ha
    rcases (emittedAttr ha).mods x hx with rfl | rfl | rfl | hx
    · exact (static_imports q m).1
    · exact hb
    · exact (static_imports q m).2
    · exact mem_imports_of_field hc hf hx

/-- C06, validity of the generator with both recorded defects (`Quirks.today`: F-C06-1, F-C06-2). For every model that
follows the modelling rules and the naming hygiene `WF`, that has no collection of a class's own type (trigger of
F-C06-1) and at least one builtin-typed column (otherwise F-C06-2), the schema ORMatic derives is valid: distinct table /
column names, existing targets, every module named in an annotation imported.

The statement without the two extra hypotheses, `WF m → Valid (generate Quirks.today m)`, is false (`C06_cex_self_list`,
`C06_cex_no_builtin`); for `Quirks.none` it is `C06_full`. -/
theorem C06_valid_partial (m : ClassModel) (wf : WF m) (h1 : noSelfCollection m) (h2 : hasBuiltinField m = true) :
    Valid (generate Quirks.today m) :=
  generate_valid Quirks.today m wf (fun _ => h1) (fun _ => h2)

/-- C06, validity of the generator without the two defects (`Quirks.none`): with distinct left/right column names and
`builtins` always imported the schema is valid for every well-formed model. -/
theorem C06_full (m : ClassModel) (wf : WF m) : Valid (generate Quirks.none m) :=
  generate_valid Quirks.none m wf (fun h => by simp [Quirks.none] at h) (fun h => by simp [Quirks.none] at h)

/-- `Tree.children: List[Tree]` (plus an `int` field) -/
def treeModel : ClassModel :=
  [⟨['T', 'r', 'e', 'e'], none,
    [⟨['v'], .scalar .int false⟩, ⟨['c', 'h', 'i', 'l', 'd', 'r', 'e', 'n'], .coll ['T', 'r', 'e', 'e']⟩]⟩]

/-- `Holder.leaf: Optional[Leaf]`, `Leaf` without fields -/
def holderModel : ClassModel :=
  [⟨['L', 'e', 'a', 'f'], none, []⟩,
   ⟨['H', 'o', 'l', 'd', 'e', 'r'], none, [⟨['l', 'e', 'a', 'f'], .ref ['L', 'e', 'a', 'f'] true⟩]⟩]

/-- Counter-example for F-C06-1 on one concrete model: a well-formed model with a collection of its own class makes the
generator under `Quirks.today` produce an association table with two identically named columns. -/
theorem C06_cex_self_list :
    WF treeModel ∧ selfCollection treeModel = true ∧ hasBuiltinField treeModel = true ∧
    ¬ Valid (generate Quirks.today treeModel) ∧ Valid (generate Quirks.none treeModel) := by
  decide +kernel

/-- Counter-example for F-C06-2 on one concrete model: a well-formed model without any builtin-typed column makes the
generator under `Quirks.today` name `builtins` in the primary key annotation without importing it. -/
theorem C06_cex_no_builtin :
    WF holderModel ∧ noSelfCollection holderModel ∧ noBuiltinField holderModel = true ∧
    ¬ Valid (generate Quirks.today holderModel) ∧ Valid (generate Quirks.none holderModel) := by
  decide +kernel

/-! ## completeness -/

/-- C06, completeness: for every well-formed model the generated schema has one DAO per class mirroring the
first-base chain; every public dataclass field (own or inherited) is introduced by the class or one of its ancestors
and mapped on that class's DAO with the kind the property demands (column for scalar / Optional / enum / datetime /
JSON list, FK + one-relationship for a reference, association-table many-relationship for a collection); and every
attribute of a DAO stems from a public field — nothing for `_`-fields. Holds for every quirk setting. -/
theorem C06_complete (q : Quirks) (m : ClassModel) (wf : WF m) : Complete m (generate q m) := by
  constructor
  case mirror => simp [generate, genTable, List.map_map, Function.comp_def]
  case covered =>
    intro c hc f hf hpub
    exact covered_names wf c hc f.name (mem_wrapped_names.mpr ⟨List.mem_map.mpr ⟨f, hf, rfl⟩, hpub⟩)
  case mappedKind =>
    intro c hc t ht hcls f hf
    obtain ⟨c', hc', rfl⟩ := mem_tables ht
    cases nodup_map_inj wf.namesDistinct hc' hc (congrArg lower hcls)
    exact fieldMapped_of_attrs fun a ha => List.mem_flatMap.mpr ⟨f, hf, ha⟩
  case nothingPrivate =>
    intro t ht a ha
    obtain ⟨c, hc, rfl⟩ := mem_tables ht
    obtain ⟨f, hf, ha⟩ := List.mem_flatMap.mp ha
    have hs := tableFields_sub hf
    exact ⟨c, hc, rfl, f, hs.1, hs.2.1, (emittedAttr ha).name⟩

/-! ## the model meets the specification -/

theorem dao_eq_tableName (n : Name) : Spec.dao n = tableName n := rfl

theorem parent_base (m : ClassModel) (c : Class) :
    (parentOf m c).map (fun p => tableName p.name) =
      c.base.bind (fun b => if mapped m b = true then some (Spec.dao b) else none) := by
  unfold parentOf mapped
  cases c.base with
  | none => rfl
  | some b =>
    cases hl : lookup m b with
    | none => simp [hl]
    | some p => simp [hl, (lookup_some hl).2, dao_eq_tableName]

theorem parent_isNone {m : ClassModel} (wf : WF m) {c : Class} (hc : c ∈ m) :
    (parentOf m c).isNone = c.base.isNone := by
  cases hb : c.base with
  | none =>
    rw [parentOf, hb, Option.bind_none]
    rfl
  | some b =>
    obtain ⟨p, hp, _⟩ := parentOf_of_base wf hc hb
    rw [hp]
    rfl

theorem hasChildren_eq {m : ClassModel} (wf : WF m) (c : Class) :
    hasChildren m c = m.any (fun d => d.base == some c.name) := by
  rw [hasChildren, Bool.eq_iff_iff, List.any_eq_true, List.any_eq_true]
  refine exists_congr fun d => and_congr_right fun hd => ?_
  cases hb : d.base with
  | none => simp [parentOf, hb]
  | some b =>
    obtain ⟨p, hp, rfl⟩ := parentOf_of_base wf hd hb
    simp [hp]

theorem cols_of_field (m : ClassModel) (c : Class) (f : Field) :
    ((parseField m c f).filter Attr.isColumn).map
        (fun a => (a.name, if a.optional then some a.nullable else none, a.colTy)) =
      (match f.kind with
        | .ref t o => if mapped m t then [(f.name ++ ['_', 'i', 'd'], if o then some true else none, .key)] else []
        | .coll _ => []
        | k => [(f.name, if Spec.optOf k then some true else none, Spec.tyOf k)]) := by
  obtain ⟨n, k⟩ := f
  cases k with
  | scalar _ o | enum o | datetime o | custom o => cases o <;> rfl
  | jsonList s => rfl
  | ref t o =>
    simp only [parseField]
    cases mapped m t <;> cases o <;> rfl
  | coll t =>
    simp only [parseField]
    cases mapped m t <;> rfl

theorem rels_of_field (m : ClassModel) (c : Class) (f : Field) :
    (parseField m c f).filterMap (fun a => match a.kind with
        | .rel tg many sec => some (tableName c.name, a.name, tg, many, sec)
        | _ => none) =
      (match f.kind with
        | .ref t _ => if mapped m t then [(Spec.dao c.name, f.name, Spec.dao t, false, none)] else []
        | .coll t => if mapped m t then
            [(Spec.dao c.name, f.name, Spec.dao t, true,
              some (lower (Spec.dao c.name) ++ ['_'] ++ f.name ++ assocSuffix))] else []
        | _ => []) := by
  obtain ⟨n, k⟩ := f
  cases k with
  | ref t o =>
    simp only [parseField]
    cases mapped m t <;> rfl
  | coll t =>
    simp only [parseField, assocName_eq]
    cases mapped m t <;> rfl
  | _ => rfl

theorem fks_of_field (m : ClassModel) (c : Class) (f : Field) :
    (parseField m c f).filterMap (fun a => match a.kind with
        | .fkCol tg => some (tableName c.name, a.name, tg)
        | _ => none) =
      (match f.kind with
        | .ref t _ => if mapped m t then [(Spec.dao c.name, f.name ++ ['_', 'i', 'd'], Spec.dao t)] else []
        | _ => []) := by
  obtain ⟨n, k⟩ := f
  cases k with
  | ref t _ | coll t =>
    simp only [parseField]
    cases mapped m t <;> rfl
  | _ => rfl

theorem assocs_of_field (q : Quirks) (m : ClassModel) (c : Class) (f : Field) :
    (assocOf q m c f).map (fun a => (a.name, a.leftTable, a.rightTable)) =
      (match f.kind with
        | .coll t => if mapped m t then
            [(lower (Spec.dao c.name) ++ ['_'] ++ f.name ++ assocSuffix, Spec.dao c.name, Spec.dao t)] else []
        | _ => []) := by
  obtain ⟨n, k⟩ := f
  cases k with
  | coll t =>
    simp only [assocOf, assocName_eq]
    cases mapped m t <;> rfl
  | _ => rfl

theorem filterMap_sublist_map {α β : Type} (f : α → Option β) (g : α → β) :
    ∀ l : List α, (∀ t ∈ l, f t = none ∨ f t = some (g t)) → (l.filterMap f).Sublist (l.map g)
  | [], _ => by simp
  | a :: l, h => by
    have ih := filterMap_sublist_map f g l (fun t ht => h t (List.mem_cons_of_mem _ ht))
    rcases h a (by simp) with e | e
    · simp only [List.filterMap_cons, e, List.map_cons]
      exact ih.cons _
    · simp only [List.filterMap_cons, e, List.map_cons]
      exact ih.cons_cons _

theorem schema_hasChild (q : Quirks) (m : ClassModel) (c : Class) :
    (generate q m).tables.any (fun u => u.base == some (genTable m c).name) = hasChildren m c := by
  simp only [generate, List.any_map, hasChildren]
  congr 1
  funext d
  simp only [Function.comp, genTable]
  cases parentOf m d with
  | none => simp
  | some p =>
    by_cases e : p.name = c.name
    · simp [e]
    · have : ¬ tableName p.name = tableName c.name := fun h => e (tableName_injective h)
      simp [e, this, beq_false_of_ne]

theorem ite_self_true (b : Bool) : (if b = true then b else true) = true := by
  cases b <;> rfl

theorem genTable_polyIdentity_isSome (m : ClassModel) (c : Class) :
    (genTable m c).polyIdentity.isSome = ((genTable m c).base.isSome || hasChildren m c) := by
  simp only [genTable, Option.isSome_map]
  cases (parentOf m c).isSome || hasChildren m c <;> rfl

theorem genTable_polyOn (m : ClassModel) (c : Class) :
    (genTable m c).polyOn = ((genTable m c).base.isNone && hasChildren m c) := by
  simp only [genTable, Option.isNone_map]

theorem polyOk_generate (q : Quirks) (m : ClassModel) (wf : WF m) : polyOk (generate q m) = true := by
  unfold polyOk
  rw [Bool.and_eq_true, List.all_eq_true, decide_eq_true_eq]
  constructor
  · intro t ht
    obtain ⟨c, _, rfl⟩ := mem_tables ht
    simp only [schema_hasChild, genTable_polyIdentity_isSome, genTable_polyOn, ite_self_true, Bool.and_self]
  · have hn : ((generate q m).tables.map (·.name)).Nodup := by
      apply Nodup.of_map lower
      rw [List.map_map]
      exact tableNames_nodup wf
    refine List.Nodup.sublist (filterMap_sublist_map _ (·.name) _ ?_) hn
    intro t ht
    obtain ⟨c, _, rfl⟩ := mem_tables ht
    simp only [genTable]
    split <;> simp

/-- C06, the model meets the specification. For every well-formed model — whatever the quirk setting — the
schema facts observed of the model's output (DAOs with base chain and column sets incl. the nullability of Optional
fields, association tables and what they link, relationships, foreign keys, polymorphic set-up) are exactly those the
specification `Spec.expected` reads directly off the dataclasses. The correspondence check compares the observation of
the real generator's output with `Spec.expected` on sampled models; this theorem is the same comparison for the model,
on all inputs. -/
theorem C06_model_meets_spec (q : Quirks) (m : ClassModel) (wf : WF m) :
    observe (generate q m) = Spec.expected m := by
  unfold observe Spec.expected
  simp only [Obs.mk.injEq]
  -- `tables`, `assocs`, `rels`, `fks`: each class by class over the fields the class introduces (`tableFields_eq_introduced`)
  refine ⟨?_, ?_, ?_, ?_, polyOk_generate q m wf⟩
  · simp only [generate, List.map_map]
    refine List.map_congr_left fun c hc => ?_
    simp only [Function.comp, ObsTable.mk.injEq]
    refine ⟨rfl, rfl, parent_base m c, ?_⟩
    -- the columns: the discriminator on a root with children (`parent_isNone`, `hasChildren_eq`), then field by field
    simp only [genTable, List.filter_flatMap, List.map_flatMap, tableFields_eq_introduced wf hc,
      parent_isNone wf hc, hasChildren_eq wf c, cols_of_field]
    rfl
  · simp only [generate, List.map_flatMap]
    refine flatMap_congr' fun c hc => ?_
    rw [tableFields_eq_introduced wf hc]
    exact flatMap_congr' fun f _ => assocs_of_field q m c f
  · simp only [generate, List.flatMap_map, genTable, List.filterMap_flatMap]
    refine flatMap_congr' fun c hc => ?_
    rw [tableFields_eq_introduced wf hc]
    exact flatMap_congr' fun f _ => rels_of_field m c f
  · simp only [generate, List.flatMap_map, genTable, List.filterMap_flatMap, ← parent_base]
    refine flatMap_congr' fun c hc => ?_
    rw [tableFields_eq_introduced wf hc]
    exact congrArg _ (flatMap_congr' fun f _ => fks_of_field m c f)

/-! ## determinism -/

/-- A permutation of distinctly named classes leaves `lookup` unchanged, and each per-class piece of the generator reads
the class list only through `lookup`, its length (the fuel of `anc`) and one `any`. -/
theorem perClass_perm {m m' : ClassModel} (hn : (m.map (·.name)).Nodup) (hp : m.Perm m') (q : Quirks) :
    genTable m = genTable m' ∧ tableFields m = tableFields m' ∧ assocOf q m = assocOf q m' ∧
      fieldCrashes m = fieldCrashes m' := by
  have hlk : lookup m = lookup m' := funext fun n => Option.ext fun c => by
    rw [lookup_eq_some_iff hn, lookup_eq_some_iff ((hp.map _).nodup_iff.mp hn), hp.mem_iff]
  have hmp : mapped m = mapped m' := by
    unfold mapped
    rw [hlk]
  have hpar : parentOf m = parentOf m' := by
    unfold parentOf
    rw [hlk]
  have hanc : anc m = anc m' := by
    funext n c
    induction n generalizing c with
    | zero => rfl
    | succ n ih => simp only [anc, hpar, ih]
  have htf : tableFields m = tableFields m' := by
    unfold tableFields inheritedNames wrappedFields dcFields ancestors
    rw [hanc, hp.length_eq]
  have hch : hasChildren m = hasChildren m' := by
    funext c
    unfold hasChildren
    rw [hpar]
    exact hp.any_eq
  refine ⟨?_, htf, ?_, ?_⟩
  · unfold genTable parseField
    rw [hpar, hch, htf, hmp]
  · unfold assocOf
    rw [hmp]
  · unfold fieldCrashes
    rw [hmp]

/-- C06, determinism: `generate` is a function of the *set* of classes — permuting the class list handed to
`ClassDiagram` permutes the generated DAO classes and association tables and changes nothing else. (That the function
is a function at all — no hidden state, no hash-order dependence — is what the correspondence's byte-comparison under
two `PYTHONHASHSEED`s checks on the real code.) -/
theorem C06_perm_invariant (q : Quirks) (m m' : ClassModel) (hn : (m.map (·.name)).Nodup) (hp : m.Perm m') :
    (generate q m).tables.Perm (generate q m').tables ∧
    (generate q m).assocs.Perm (generate q m').assocs ∧
    (generate q m).imports.Perm (generate q m').imports ∧
    (generate q m).crashed = (generate q m').crashed := by
  obtain ⟨hg, htf, hao, hfc⟩ := perClass_perm hn hp q
  simp only [generate, imports, hg, htf, hao, hfc, hp.isEmpty_eq]
  exact ⟨hp.map _, hp.flatMap_right _, (List.Perm.append_left _ (hp.flatMap_right _)).append_right _, hp.any_eq⟩

/-! ## tests on concrete models -/

/-- `Owner(Part)` with a reference, an Optional self reference, two collections of one target, an enum, a datetime, a
JSON list and a private field; `Wheel(Part)`; `Part` the root of the hierarchy -/
def sampleModel : ClassModel :=
  [⟨['P', 'a', 'r', 't'], none, [⟨['m', 'a', 's', 's'], .scalar .float false⟩, ⟨['t', 'a', 'g'], .scalar .str true⟩,
      ⟨['_', 'c'], .scalar .int false⟩]⟩,
   ⟨['W', 'h', 'e', 'e', 'l'], some ['P', 'a', 'r', 't'], [⟨['k', 'i', 'n', 'd'], .enum false⟩,
      ⟨['m', 'a', 's', 's'], .scalar .float false⟩]⟩,
   ⟨['O', 'w', 'n', 'e', 'r'], some ['P', 'a', 'r', 't'],
     [⟨['m', 'a', 'i', 'n'], .ref ['W', 'h', 'e', 'e', 'l'] false⟩, ⟨['p', 'r', 'e', 'v'], .ref ['O', 'w', 'n', 'e', 'r'] true⟩,
      ⟨['l', 'e', 'f', 't'], .coll ['W', 'h', 'e', 'e', 'l']⟩, ⟨['r', 'i', 'g', 'h', 't'], .coll ['W', 'h', 'e', 'e', 'l']⟩,
      ⟨['w', 'h', 'e', 'n'], .datetime true⟩, ⟨['l', 'o', 'g'], .jsonList .int⟩]⟩]

/-- the hypotheses of `C06_valid_partial` / `C06_complete` are satisfiable by a model with a field of every kind except
a custom-typed one -/
example : WF sampleModel ∧ noSelfCollection sampleModel ∧ hasBuiltinField sampleModel = true := by decide +kernel

/-- the conclusion of `C06_valid_partial` can fail: `treeModel`, well-formed with a self collection, is rejected -/
example : ¬ Valid (generate Quirks.today treeModel) :=
  have ⟨_, _, _, h, _⟩ := C06_cex_self_list
  h

/-- the hypotheses of `C06_perm_invariant` are satisfiable with a non-trivial permutation -/
example : (sampleModel.map (·.name)).Nodup ∧ sampleModel.Perm sampleModel.reverse ∧
    sampleModel ≠ sampleModel.reverse :=
  ⟨by decide, (List.reverse_perm _).symm, by decide⟩

/-- the `dao_` hygiene of `C06_names_injective` is necessary: class `A` with field `xdao_y` and class `Adao_x` with
field `y` get the same association table name -/
example : assocName (tableName ['A']) ['x', 'd', 'a', 'o', '_', 'y'] =
    assocName (tableName ['A', 'd', 'a', 'o', '_', 'x']) ['y'] := by decide

/-- the `*_id` hygiene of `WF` is necessary: a reference `x` next to a scalar `x_id` gives two attributes `x_id` -/
example : ¬ Valid (generate Quirks.none
    [⟨['A'], none, [⟨['x'], .ref ['A'] false⟩, ⟨['x', '_', 'i', 'd'], .scalar .int false⟩]⟩]) := by decide +kernel

/-- Two long names that agree in their first 54 characters give different association tables. A generator that cut the
name to 63 characters (51 of `<dao>_<field>` plus `_association`: the seeded change C06-r3m2) would merge them. -/
example : assocName (tableName "EnvironmentalMonitoringStation".toList) "temperature_sensors_indoor".toList ≠
    assocName (tableName "EnvironmentalMonitoringStation".toList) "temperature_sensors_outdoor".toList :=
  fun h => absurd (assocName_right_injective _ h) (by decide +kernel)

end KrroodVerif.OrmGen
