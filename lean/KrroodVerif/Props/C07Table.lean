import KrroodVerif.Props.C07Frag
/-!
# C07 — the operator tables, regenerated from the Python source on every run

`Model/SqlTable.lean` states the decision logic of `OperatorMapper.map_comparison_operator`, `map_contains_operator`,
`null_safe_in`, the dispatch of `translate_query` / `_translate_comparator_operand` and the rejection rules as tables
(`opTable`, `dispatch`, `operandDispatch`, `rejects`).  `harness/translate/c07_translate.py` regenerates them from the
current Python AST on every run and the kernel re-checks `Translated.opTable = opTable` and `tableOk Translated.opTable`.
This file gives those two facts their meaning:

* the hand-written SQL semantics of the model (`sqlCmpV`, `sqlIn`, the `instr` atom: what every other C07 theorem and the
  correspondence are about) IS the interpretation of `opTable`, for all scalar values (`evalSqlT_opTable` and its three
  atoms).  So `Translated.opTable = opTable` says: the operator logic of the current source is the one the model
  transcribes.  It is also why `evalSql` has `SqlSem` (`evalSql_sem`, on which `C07_preserves_partial` rests): `opTable`
  passes the check.
* for EVERY table `T` with `tableOk T = true`, translation with the operators rendered as `T` says preserves the answers
  on the fragment of `C07_preserves_partial` (`C07_table_preserves`, from `evalSqlT_sem`).  So `tableOk Translated.opTable`
  (by `decide`: a finite table — 24 comparison rows × 6 ways two scalars can be related, 2 membership rows × the 10
  well-formed membership cases, 4 substring rows × 4 cases) says: the property holds of the operator logic of the current
  source, whatever it looks like.  The table of the code at /repo HEAD passes; the tables of a seeded change (`le` bound
  to `operator.lt`: seeded/C07-r4m2) and of the code before the fixes 1eb4fe3 / 20e7107 do not.
* the hand-written translator rejects exactly the node kinds the tables `dispatch` / `operandDispatch` have no case for,
  with the error class `rejects` names.
-/
namespace KrroodVerif.SqlTr

/-! ## Scalars and their relation -/

theorem num_beq (a b : Int) : (Val.num a == Val.num b) = (a == b) := by
  rw [Bool.eq_iff_iff, beq_iff_eq, beq_iff_eq, Val.num.injEq]

theorem num_bne (a b : Int) : (Val.num a != Val.num b) = (a != b) := by simp [bne, num_beq]

theorem litVal_beq (w x : Option Int) : (litVal w == litVal x) = (w == x) := by
  cases w <;> cases x
  · rfl
  · rfl
  · rfl
  · simp [litVal, num_beq]

theorem any_litVal_beq (x : Option Int) (vs : List (Option Int)) :
    (vs.any fun w => litVal w == litVal x) = vs.contains x := by
  simp only [litVal_beq, List.contains_eq_any_beq, BEq.comm (a := x)]

theorem pyCmp_num (op : Cmp) (n m : Int) : pyCmp op (.num n) (.num m) = some (cmpInt op n m) := by
  cases op
  case eq => simp [pyCmp, cmpInt, num_beq]
  case ne => simp [pyCmp, cmpInt, num_bne]
  all_goals rfl

/-- an operand's value is the literal's value where the operand is a literal -/
def Consistent : SqlOperand → Val → Prop
  | .lit m, v => v = litVal m
  | .col _, _ => True

theorem consistent_operandVal (db : DB) (env : List Nat) (a : SqlOperand) : Consistent a (sqlOperandVal db env a) := by
  cases a
  · trivial
  · rfl

theorem sqlCmpV_num (op : Cmp) {a b : SqlOperand} {n m : Int} (ha : a ≠ .lit none) (hb : b ≠ .lit none) :
    sqlCmpV op a b (.num n) (.num m) = some (cmpInt op n m) := by
  cases op
  case eq =>
    simp only [sqlCmpV]
    split
    · simp [cmpInt, num_beq]
    · exact absurd rfl hb
    · exact absurd rfl ha
    · rfl
  case ne => simp [sqlCmpV, cmpInt, num_bne]
  all_goals rfl

theorem null_bne_null : (Val.null != Val.null) = false := by decide

theorem relOf_num (n m : Int) :
    (n < m ∧ relOf (.num n) (.num m) = some .lt) ∨ (n = m ∧ relOf (.num n) (.num m) = some .eq) ∨
    (m < n ∧ relOf (.num n) (.num m) = some .gt) := by
  by_cases h1 : n < m
  · exact Or.inl ⟨h1, by simp [relOf, h1]⟩
  · by_cases h2 : n = m
    · exact Or.inr (Or.inl ⟨h2, by simp [relOf, h2]⟩)
    · exact Or.inr (Or.inr ⟨by omega, by simp [relOf, h1, h2]⟩)

theorem pyRel_num (op : Cmp) {n m : Int} {r : Rel} (hr : relOf (.num n) (.num m) = some r) :
    pyRel op r = some (cmpInt op n m) := by
  rcases relOf_num n m with ⟨h, hr'⟩ | ⟨h, hr'⟩ | ⟨h, hr'⟩
  · cases hr'.symm.trans hr
    cases op <;> simp [pyRel, cmpInt, Rel.isEq, Rel.bothNull] <;> omega
  · cases hr'.symm.trans hr
    cases op <;> simp [pyRel, cmpInt, Rel.isEq, Rel.bothNull, h]
  · cases hr'.symm.trans hr
    cases op <;> simp [pyRel, cmpInt, Rel.isEq, Rel.bothNull] <;> omega

theorem rel_scalar {v w : Val} (hv : Scalar v) (hw : Scalar w) :
    ∃ r, relOf v w = some r ∧ r ∈ allRels ∧ ∀ op, pyCmp op v w = pyRel op r := by
  rcases hv with rfl | ⟨n, rfl⟩ <;> rcases hw with rfl | ⟨m, rfl⟩
  · exact ⟨.nullLR, rfl, by decide, fun op => by cases op <;> rfl⟩
  · exact ⟨.nullL, rfl, by decide, fun op => by cases op <;> rfl⟩
  · exact ⟨.nullR, rfl, by decide, fun op => by cases op <;> rfl⟩
  · rcases relOf_num n m with ⟨_, h⟩ | ⟨_, h⟩ | ⟨_, h⟩ <;>
      exact ⟨_, h, by decide, fun op => by rw [pyCmp_num, pyRel_num op h]⟩

theorem mem_allCmps (op : Cmp) : op ∈ allCmps := by cases op <;> decide
theorem mem_allSides (s : Sides) : s ∈ allSides := by cases s <;> decide

/-! ## Every table that passes the check has the property -/

/-- what `tableOk` says of the rows the evaluation reads, by name -/
structure TableRows (T : OpTable) : Prop where
  cmp : ∀ op s, ∃ f, lookupOp T (.cmp op s) = some (.cmp f) ∧ cmpRowOk op s f = true
  leftColl : lookupOp T (.contains .leftColl) = some (.nullSafeIn .right)
  member : ∀ hn, ∃ f, lookupOp T (.member hn) = some (.mem f) ∧ memRowOk hn f = true

theorem tableOk_rows {T : OpTable} (h : tableOk T = true) : TableRows T := by
  simp only [tableOk, Bool.and_eq_true, List.all_eq_true, beq_iff_eq] at h
  obtain ⟨⟨⟨⟨⟨hcmp, hleft⟩, _⟩, hmem⟩, _⟩, _⟩ := h
  refine ⟨fun op s => ?_, hleft, fun hn => ?_⟩
  · have h1 := hcmp op (mem_allCmps op) s (mem_allSides s)
    split at h1
    · rename_i f hf
      exact ⟨f, hf, h1⟩
    · cases h1
  · have h1 := hmem hn (by cases hn <;> decide)
    split at h1
    · rename_i f hf
      exact ⟨f, hf, h1⟩
    · cases h1

theorem cmpT_true_iff {T : OpTable} (h : tableOk T = true) (op : Cmp) (a b : SqlOperand) (va vb : Val) (bb : Bool)
    (hva : Scalar va) (hvb : Scalar vb) (hpy : pyCmp op va vb = some bb) :
    cmpT T op a b va vb = some true ↔ bb = true := by
  obtain ⟨f, hf, hrow⟩ := (tableOk_rows h).cmp op (sidesOf a b)
  obtain ⟨r, hr, hmem, hrel⟩ := rel_scalar hva hvb
  rw [hrel] at hpy
  have hrow := List.all_eq_true.mp hrow r hmem
  simp only [hpy, beq_iff_eq] at hrow
  simp only [cmpT, hf, hr, Option.bind_some]
  rw [← hrow, beq_iff_eq]

theorem mem_allMemCases : ∀ c : MemCase, c.wf = true → c ∈ allMemCases := by
  have : ∀ a b c d : Bool, (⟨a, b, c, d⟩ : MemCase).wf = true → (⟨a, b, c, d⟩ : MemCase) ∈ allMemCases := by
    decide +kernel
  exact fun c => this c.1 c.2 c.3 c.4

theorem memCase_scalar {x : Val} (hx : Scalar x) (vs : List (Option Int)) :
    ∃ c, memCaseOf x vs = some c ∧ c ∈ allMemCases ∧ c.hasNone = vs.contains none ∧
      (vs.any fun w => litVal w == x) = pyMem c := by
  rcases hx with rfl | ⟨n, rfl⟩
  · exact ⟨_, rfl, mem_allMemCases _ rfl, rfl, any_litVal_beq none vs⟩
  · refine ⟨_, rfl, mem_allMemCases _ ?_, rfl, any_litVal_beq (some n) vs⟩
    -- a member is a non-None value
    cases hm : vs.contains (some n) with
    | false => simp [MemCase.wf]
    | true =>
      have : some n ∈ vs.filter Option.isSome := List.mem_filter.mpr ⟨List.contains_iff_mem.mp hm, rfl⟩
      cases hf : vs.filter Option.isSome with
      | nil =>
        rw [hf] at this
        cases this
      | cons _ _ => simp [MemCase.wf]

theorem memT_true_iff {T : OpTable} (h : tableOk T = true) (x : Val) (vs : List (Option Int)) (hx : Scalar x) :
    memT T x vs = some true ↔ (vs.any fun w => litVal w == x) = true := by
  have hl := (tableOk_rows h).leftColl
  obtain ⟨f, hf, hrow⟩ := (tableOk_rows h).member (vs.contains none)
  obtain ⟨c, hc, hcm, hcn, hpy⟩ := memCase_scalar hx vs
  have hrow := List.all_eq_true.mp hrow c hcm
  simp only [hcn, bne_self_eq_false, Bool.false_or, beq_iff_eq] at hrow
  simp only [memT, hl, hf, hc, Option.bind_some]
  rw [hpy, ← hrow, beq_iff_eq]

theorem evalSql_truthy (db : DB) (env : List Nat) (c : ColRef) (hv : Scalar ((sqlColVal db env c).getD .null)) :
    evalSql db env (.truthy c) = some true ↔ pyTruthy ((sqlColVal db env c).getD .null) = true := by
  simp only [evalSql]
  rcases hv with h | ⟨n, h⟩
  · rw [h]
    simp [pyTruthy]
  · rw [h]
    simp [pyTruthy]

/-- For every operator table that passes the decidable check, the statement evaluated with the
operators rendered as the table says has the property the preservation proof needs. -/
theorem evalSqlT_sem (T : OpTable) (h : tableOk T = true) : SqlSem (evalSqlT T) where
  and_ := fun _ _ _ _ => rfl
  or_ := fun _ _ _ _ => rfl
  cmp := fun _ _ op a b bb hva hvb hpy => cmpT_true_iff h op a b _ _ bb hva hvb hpy
  inList := fun _ _ _ vs hv => memT_true_iff h _ vs hv
  truthy := evalSql_truthy

/-- For EVERY operator table `T` that passes `tableOk` (decidable, finite): a single-variable
query of the fragment of `C07_preserves_partial`, translated with the operators rendered as `T` says and executed under
SQL's three-valued logic, returns exactly the entities in-memory evaluation returns (same ids, order, multiplicity), and
in-memory evaluation does not raise.  Unbounded in nesting depth, chain length, database size and in the table. -/
theorem C07_table_preserves (T : OpTable) (hT : tableOk T = true)
    (S : Schema) (db : DB) (q : Query) (sel : Cls) (e : Expr) (s : SqlQuery)
    (hv : q.vars = [sel]) (hc : q.cond = some e) (hf : Frag e) (hg : Good db (rootsOf S db sel) e)
    (ht : translate S q = .ok s) :
    evalMem S q db = some (execSqlWith (evalSqlT T) S s db) :=
  C07_preserves_with (evalSqlT T) (evalSqlT_sem T hT) S db q sel e s hv hc hf hg ht

/-- `the(...)` fails in both worlds or in neither, for every table that passes the check -/
theorem C07_table_the (T : OpTable) (hT : tableOk T = true)
    (S : Schema) (db : DB) (q : Query) (sel : Cls) (e : Expr) (s : SqlQuery)
    (hv : q.vars = [sel]) (hc : q.cond = some e) (hf : Frag e) (hg : Good db (rootsOf S db sel) e)
    (ht : translate S q = .ok s) :
    (evalMem S q db).map theOf = some (theOf (execSqlWith (evalSqlT T) S s db)) := by
  rw [C07_table_preserves T hT S db q sel e s hv hc hf hg ht]
  rfl

/-! ## `opTable`, the table of the code as it is -/

theorem C07_opTable_ok : tableOk opTable = true := by decide +kernel

theorem lookupOp_opTable_cmp : ∀ op ∈ allCmps, ∀ s ∈ allSides,
    lookupOp opTable (.cmp op s) = some (.cmp (cmpRow op s)) := by decide +kernel

theorem cmpRow_sem_num : ∀ op ∈ allCmps, ∀ s ∈ allSides, ∀ r ∈ [Rel.lt, .eq, .gt],
    (cmpRow op s).sem s r = pyRel op r := by
  decide +kernel

/-- The hand-written three-valued comparison of the model is the interpretation of `opTable`, on all
scalar values. -/
theorem cmpT_opTable (op : Cmp) (a b : SqlOperand) (va vb : Val) (hva : Scalar va) (hvb : Scalar vb)
    (ha : Consistent a va) (hb : Consistent b vb) :
    cmpT opTable op a b va vb = sqlCmpV op a b va vb := by
  simp only [cmpT, lookupOp_opTable_cmp op (mem_allCmps op) _ (mem_allSides _)]
  -- two numbers: the row and the model both read as the integer comparison
  have hnum : ∀ n m, a ≠ .lit none → b ≠ .lit none →
      (relOf (.num n) (.num m)).bind ((cmpRow op (sidesOf a b)).sem (sidesOf a b)) =
        sqlCmpV op a b (.num n) (.num m) := by
    intro n m ha hb
    obtain ⟨r, hr, hmem⟩ : ∃ r, relOf (.num n) (.num m) = some r ∧ r ∈ [Rel.lt, .eq, .gt] := by
      rcases relOf_num n m with ⟨_, h⟩ | ⟨_, h⟩ | ⟨_, h⟩ <;> exact ⟨_, h, by decide⟩
    rw [hr, Option.bind_some, cmpRow_sem_num op (mem_allCmps op) _ (mem_allSides _) r hmem, pyRel_num op hr,
      sqlCmpV_num op ha hb]
  -- by the form of each operand (a literal's value is the literal's own: `Consistent`) and its value: where one is NULL the row
  -- and the model compute, operator by operator; two numbers are `hnum`
  cases a with
  | col c =>
    cases b with
    | col d =>
      rcases hva with rfl | ⟨n, rfl⟩ <;> rcases hvb with rfl | ⟨m, rfl⟩
      · cases op <;> rfl
      · cases op <;> rfl
      · cases op <;> rfl
      · exact hnum n m nofun nofun
    | lit k =>
      cases hb
      cases k with
      | none => rcases hva with rfl | ⟨n, rfl⟩ <;> cases op <;> rfl
      | some m =>
        rcases hva with rfl | ⟨n, rfl⟩
        · cases op <;> rfl
        · exact hnum n m nofun nofun
  | lit j =>
    cases ha
    cases b with
    | col d =>
      cases j with
      | none => rcases hvb with rfl | ⟨m, rfl⟩ <;> cases op <;> rfl
      | some n =>
        rcases hvb with rfl | ⟨m, rfl⟩
        · cases op <;> rfl
        · exact hnum n m nofun nofun
    | lit k =>
      cases hb
      cases j with
      | none => cases k <;> cases op <;> rfl
      | some n =>
        cases k with
        | none => cases op <;> rfl
        | some m => exact hnum n m nofun nofun

theorem lookupOp_opTable_leftColl : lookupOp opTable (.contains .leftColl) = some (.nullSafeIn .right) := by
  decide +kernel

theorem lookupOp_opTable_member (hasNone : Bool) :
    lookupOp opTable (.member hasNone) = some (.mem (if hasNone then .or .inNonNull .isNull else .inAll)) := by
  cases hasNone <;> decide +kernel

theorem lookupOp_opTable_substr : ∀ sh ∈ [ContShape.strCol, .colStr, .strStr, .colCol],
    lookupOp opTable (.contains sh) = some (.instrGt0 false) ∨ lookupOp opTable (.contains sh) = some (.pyIn false) := by
  decide +kernel

/-- The hand-written `null_safe_in` semantics of the model (`sqlIn`) is the interpretation of `opTable`. -/
theorem memT_opTable (x : Val) (vs : List (Option Int)) : memT opTable x vs = sqlIn x vs := by
  unfold memT
  rw [lookupOp_opTable_leftColl, lookupOp_opTable_member]
  cases hc : vs.contains none with
  | false =>
    simp only [Bool.false_eq_true, ↓reduceIte]
    cases x with
    | ref i => rfl
    | null =>
      simp only [memCaseOf, hc, Option.bind_some, MemForm.sem, sqlIn, ↓reduceIte, Bool.not_false, Bool.and_true,
        Bool.false_eq_true]
    | num n =>
      simp only [memCaseOf, hc, Option.bind_some, MemForm.sem, sqlIn, Bool.false_eq_true, ↓reduceIte]
      cases vs.contains (some n) <;> simp
  | true =>
    simp only [↓reduceIte]
    cases x with
    | ref i => rfl
    | null =>
      simp only [memCaseOf, hc, Option.bind_some, MemForm.sem, sqlIn, ↓reduceIte]
      cases (vs.filter Option.isSome).isEmpty <;> simp [or3]
    | num n =>
      simp only [memCaseOf, hc, Option.bind_some, MemForm.sem, sqlIn, Bool.false_eq_true, ↓reduceIte]
      cases vs.contains (some n) <;> simp [or3]

theorem evalSql_instr (db : DB) (env : List Nat) (tab : StrTab) (a b : SqlSOperand) :
    evalSql db env (.instr tab a b) =
      match strOperandVal db env tab a, strOperandVal db env tab b with
      | some container, some item => some (isInfixL item container)
      | _, _ => none := by
  cases a <;> cases b <;> rfl

/-- The `instr` atom of the model is the interpretation of the four substring rows of `opTable`. -/
theorem subT_opTable (db : DB) (env : List Nat) (tab : StrTab) (a b : SqlSOperand) :
    subT opTable a b (strOperandVal db env tab a) (strOperandVal db env tab b) = evalSql db env (.instr tab a b) := by
  obtain ⟨f, hf, hsem⟩ : ∃ f, lookupOp opTable (.contains (subShape a b)) = some f ∧
      ∀ c, subFormSem f c = some c.rInL := by
    have hsh : subShape a b ∈ [ContShape.strCol, .colStr, .strStr, .colCol] := by
      cases a <;> cases b <;> simp [subShape]
    rcases lookupOp_opTable_substr _ hsh with h | h
    · exact ⟨_, h, fun _ => rfl⟩
    · exact ⟨_, h, fun _ => rfl⟩
  rw [evalSql_instr]
  unfold subT
  rw [hf]
  cases strOperandVal db env tab a <;> cases strOperandVal db env tab b <;> simp [hsem]

/-- every comparison in the condition is between scalars -/
def ScalarCond (db : DB) (env : List Nat) : SqlCond → Prop
  | .and a b | .or a b => ScalarCond db env a ∧ ScalarCond db env b
  | .cmp _ a b => Scalar (sqlOperandVal db env a) ∧ Scalar (sqlOperandVal db env b)
  | _ => True

/-- On a WHERE condition whose compared values are scalars, the statement evaluated through `opTable` is the hand-written
`evalSql` (the model every other C07 theorem and the correspondence are about). -/
theorem evalSqlT_opTable (db : DB) (env : List Nat) : ∀ c, ScalarCond db env c →
    evalSqlT opTable db env c = evalSql db env c := by
  intro c
  induction c with
  | and a b iha ihb | or a b iha ihb =>
    intro h
    simp only [evalSqlT, evalSql, iha h.1, ihb h.2]
  | cmp op a b =>
    intro h
    exact cmpT_opTable op a b _ _ h.1 h.2 (consistent_operandVal db env a) (consistent_operandVal db env b)
  | inList c vs =>
    intro _
    exact memT_opTable _ vs
  | instr tab a b =>
    intro _
    exact subT_opTable db env tab a b
  | _ =>
    intro _
    rfl

/-- The hand-written `evalSql` has the property the preservation proof needs: on scalars it is the interpretation of
`opTable`, which passes the check. -/
theorem evalSql_sem : SqlSem evalSql where
  and_ := fun _ _ _ _ => rfl
  or_ := fun _ _ _ _ => rfl
  cmp := fun db env op a b bb hva hvb hpy => by
    rw [← evalSqlT_opTable db env (.cmp op a b) ⟨hva, hvb⟩]
    exact (evalSqlT_sem opTable C07_opTable_ok).cmp db env op a b bb hva hvb hpy
  inList := fun db env c vs hv => by
    rw [← evalSqlT_opTable db env (.inList c vs) trivial]
    exact (evalSqlT_sem opTable C07_opTable_ok).inList db env c vs hv
  truthy := evalSql_truthy

/-! ## Tables that do not pass -/

/-- `T` with the form of every row that `p` selects replaced -/
def setRows (T : OpTable) (p : EqlOp → Option SqlForm) : OpTable :=
  T.map fun (k, f) => (k, (p k).getD f)

/-- seeded change C07-r4m2: `le` bound to `operator.lt` in a lookup table -/
def leAsLtTable : OpTable := setRows opTable fun k => match k with | .cmp .le _ => some (.cmp ⟨.lt, false⟩) | _ => none
/-- before fix 1eb4fe3: `!=` rendered `left != right` (UNKNOWN on NULL: F-C07-2) -/
def legacyNeTable : OpTable := setRows opTable fun k => match k with | .cmp .ne _ => some (.cmp ⟨.ne, false⟩) | _ => none
/-- before fix 1eb4fe3: `column.in_(values)` also when None is among the values (F-C07-2) -/
def legacyInTable : OpTable := setRows opTable fun k => match k with | .member true => some (.mem .inAll) | _ => none
/-- before fix 20e7107: `contains(column, "literal")` rendered with LIKE (F-C07-5) -/
def likeTable : OpTable := setRows opTable fun k => match k with | .contains .colStr => some (.like false) | _ => none
/-- `ge` mapped to `>` (DESIGN §8) -/
def geAsGtTable : OpTable := setRows opTable fun k => match k with | .cmp .ge _ => some (.cmp ⟨.gt, false⟩) | _ => none
/-- operands of `<` swapped -/
def ltSwappedTable : OpTable := setRows opTable fun k => match k with | .cmp .lt s => some (.cmp ⟨.lt, true⟩) | _ => none
/-- a harmless variant that DOES pass: `a >= b` written `b <= a` -/
def harmlessVariantTable : OpTable :=
  setRows opTable fun k => match k with | .cmp .ge _ => some (.cmp ⟨.le, true⟩) | _ => none

theorem C07_table_cex_le_as_lt : tableOk leAsLtTable = false := by decide +kernel
theorem C07_table_cex_legacy_ne : tableOk legacyNeTable = false := by decide +kernel
theorem C07_table_cex_legacy_in : tableOk legacyInTable = false := by decide +kernel
theorem C07_table_cex_like : tableOk likeTable = false := by decide +kernel
example : tableOk geAsGtTable = false := by decide +kernel
example : tableOk ltSwappedTable = false := by decide +kernel
/-- `C07_table_preserves` is not vacuous beyond `opTable`: a different table passes too -/
example : tableOk harmlessVariantTable = true ∧ harmlessVariantTable ≠ opTable := by decide +kernel

/-! ## Dispatch and rejection tables -/

/-- the node kind `operandDispatch` is looked up with, as `exprKind` is for `dispatch` -/
def operandKind : Operand → NodeKind
  | .chain _ => .attribute
  | .lit _ => .literal
  | .other .index => .index
  | .other .call => .call
  | .other .flatten => .flatten
  | .other .nested => .nestedQuery
  | .other .selfVar => .variable
  | .other .objLit => .literal
  | .var _ _ => .variable
  | .obj _ => .literal

/-- The node kinds `dispatch` has no case for are exactly the constructors outside the
dispatch of the hand-written translator, and each of them is refused with the error class `rejects` names. -/
theorem C07_dispatch_rejects (S : Schema) (vars : List Cls) (uo : Bool) (e : Expr) (st : St) :
    (dispatch.lookup (exprKind e) = none ↔ OutsideDispatch e) ∧
    (dispatch.lookup (exprKind e) = none →
      ∃ err, (rejects.lookup .condNodeOther).bind ErrClass.toTrErr = some err ∧ tr S vars uo e st = .error (.rejected err)) := by
  have hiff : dispatch.lookup (exprKind e) = none ↔ OutsideDispatch e := by
    cases e <;> (simp only [exprKind, OutsideDispatch]; decide)
  exact ⟨hiff, fun h => ⟨.unsupportedQueryType, rfl, C07_rejects S vars uo e st (hiff.mp h)⟩⟩

/-- An operand of a kind `operandDispatch` has no case for is refused with the error class
`rejects` names (Index / Call / Flatten / nested query: `UnsupportedQueryTypeError`, fix c10063e). -/
theorem C07_operand_rejects (S : Schema) (vars : List Cls) (o : Operand) (st : St)
    (h : operandDispatch.lookup (operandKind o) = none) :
    ∃ err, (rejects.lookup .operandSymbolicOther).bind ErrClass.toTrErr = some err ∧
      trOperand S vars o st = .error (.rejected err) := by
  refine ⟨.unsupportedQueryType, rfl, ?_⟩
  cases o with
  | other k =>
    cases k with
    | index => rfl
    | call => rfl
    | flatten => rfl
    | nested => rfl
    | _ => cases h
  | _ => cases h

/-- `set_of` and a missing DAO are refused with the classes `rejects` names -/
theorem C07_query_rejects (S : Schema) (q : Query) :
    (q.kind = .setOf → ∃ err, (rejects.lookup .selectNotEntity).bind ErrClass.toTrErr = some err ∧
      translate S q = .error (.rejected err)) ∧
    (∀ sel, q.kind = .entity → q.vars[0]? = some sel → findClass S sel = none →
      ∃ err, (rejects.lookup .noDaoForSelected).bind ErrClass.toTrErr = some err ∧
        translate S q = .error (.rejected err)) := by
  exact ⟨fun h => ⟨.unsupportedQueryType, rfl, by simp [translate, h]⟩,
    fun sel hk hv hf => ⟨.missingDAO, rfl, translate_no_dao hk hv hf⟩⟩

end KrroodVerif.SqlTr
