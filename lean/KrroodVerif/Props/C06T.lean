import KrroodVerif.Props.C06
import KrroodVerif.Model.OrmDispatch
/-!
# C06 — the kind dispatch and the mapper-argument rules as tables translated from the source

`Model/OrmDispatch.lean` turns `WrappedTable.parse_field` and `WrappedTable.create_mapper_args` into tables with an
interpreter. The hand-written model (`parseField`, `generate` — the functions every C06 theorem is about) is the
interpreter run on the tables `dispatch` and `mapperRules`; for any tables with `DispatchOk` and `MapperOk` (both
decidable, finite) the generator built on them equals the model's on every class model, so the property theorems hold of
it; only the decision function of a table matters, and equality of decision functions is a finite check (2⁹ resp. 2³
vectors).

On every run `harness/translate/c06_translate.py` regenerates the two tables from the current Python AST and the kernel
re-checks `dispatchExtEq Translated.dispatch dispatch`, `mapperExtEq Translated.mapperRules mapperRules`,
`DispatchOk Translated.dispatch`, `MapperOk Translated.mapperRules` by `decide` (finite tables) and instantiates
`C06_of_translated_tables`.
-/
namespace KrroodVerif.OrmGen

theorem Shape.mem_all (s : Shape) : s ∈ Shape.all := by
  cases s with
  | scalar o | datetime o | enum o | custom o => cases o <;> decide
  | coll a | typeType a => cases a <;> decide
  | jsonList | customList => decide
  | ref a o => cases a <;> cases o <;> decide

theorem factsOf_eq_shape (m : ClassModel) (k : Kind) : factsOf m k = (shapeOf m k).facts := by
  cases k <;> rfl

theorem dispatch_ok : DispatchOk dispatch := by decide

theorem mapperRules_ok : MapperOk mapperRules := by decide

theorem interp_of_ok {t : DispatchTable} (h : DispatchOk t) (m : ClassModel) (k : Kind) :
    interpDispatch t (factsOf m k) = (shapeOf m k).action := by
  rw [factsOf_eq_shape]
  exact h _ (Shape.mem_all _)

/-- the four per-field pieces of some generator (attributes, association tables, imports, crash flag) are the model's -/
structure FieldAgrees (q : Quirks) (m : ClassModel) (f : Field) (attrs : Class → List Attr)
    (assocs : Class → List Assoc) (imps : List Module) (crashes : Bool) : Prop where
  attrs : ∀ c, attrs c = parseField m c f
  assocs : ∀ c, assocs c = assocOf q m c f
  imports : imps = fieldImports f
  crashes : crashes = fieldCrashes m f

section
attribute [local simp] parseField assocOf fieldImports fieldCrashes shapeOf Shape.action emitAttrs emitAssocs
  emitImports emitCrashes Kind.opt Kind.target

theorem emit_action (q : Quirks) (m : ClassModel) (f : Field) :
    FieldAgrees q m f (emitAttrs m (shapeOf m f.kind).action · f) (emitAssocs q m (shapeOf m f.kind).action · f)
      (emitImports (shapeOf m f.kind).action f) (emitCrashes m (shapeOf m f.kind).action f) := by
  obtain ⟨n, k⟩ := f
  cases k with
  | ref t o =>
    cases hm : mapped m t
    · cases o <;> constructor <;> simp [hm]
    · cases o <;> constructor <;> simp [hm]
  | _ => exact ⟨fun _ => rfl, fun _ => rfl, rfl, rfl⟩

end

theorem fieldT_eq {t : DispatchTable} (h : DispatchOk t) (q : Quirks) (m : ClassModel) (f : Field) :
    FieldAgrees q m f (parseFieldT t m · f) (assocOfT t q m · f) (fieldImportsT t m f) (fieldCrashesT t m f) := by
  unfold parseFieldT assocOfT fieldImportsT fieldCrashesT
  rw [interp_of_ok h]
  exact emit_action q m f

theorem genField_eq_interp (m : ClassModel) (c : Class) (f : Field) :
    parseField m c f = parseFieldT dispatch m c f :=
  ((fieldT_eq dispatch_ok Quirks.today m f).attrs c).symm

theorem bool_mem (b : Bool) : b ∈ [false, true] := by cases b <;> simp

theorem mapperOf_ok {r : MapperRules} (hr : MapperOk r) (m : ClassModel) (c : Class) :
    (mapperOf r m c).contains .polyColumn = (!(parentOf m c).isSome && hasChildren m c) ∧
    (mapperOf r m c).contains .polyOn = (!(parentOf m c).isSome && hasChildren m c) ∧
    (mapperOf r m c).contains .polyIdentitySelf = ((parentOf m c).isSome || hasChildren m c) ∧
    (mapperOf r m c).contains .inheritCondition = (parentOf m c).isSome :=
  hr _ (bool_mem _) _ (bool_mem _)

theorem genTableT_eq {t : DispatchTable} {r : MapperRules} (ht : DispatchOk t) (hr : MapperOk r)
    (m : ClassModel) (c : Class) : genTableT t r m c = genTable m c := by
  obtain ⟨h1, h2, h3, _⟩ := mapperOf_ok hr m c
  have : parseFieldT t m c = parseField m c := funext fun f => (fieldT_eq ht Quirks.today m f).attrs c
  simp only [genTableT, genTable, h1, h2, h3, this]
  cases parentOf m c <;> cases hasChildren m c <;> rfl

theorem C06_generateT_eq_of_ok {t : DispatchTable} {r : MapperRules} (ht : DispatchOk t) (hr : MapperOk r)
    (q : Quirks) (m : ClassModel) : generateT t r q m = generate q m := by
  have h1 : genTableT t r m = genTable m := funext (genTableT_eq ht hr m)
  have h2 : ∀ c, assocOfT t q m c = assocOf q m c := fun c => funext fun f => (fieldT_eq ht q m f).assocs c
  have h3 : fieldImportsT t m = fieldImports := funext fun f => (fieldT_eq ht q m f).imports
  have h4 : fieldCrashesT t m = fieldCrashes m := funext fun f => (fieldT_eq ht q m f).crashes
  unfold generateT generate importsT imports
  simp only [h1, h2, h3, h4]

theorem generate_eq_interp (q : Quirks) (m : ClassModel) : generate q m = generateT dispatch mapperRules q m :=
  (C06_generateT_eq_of_ok dispatch_ok mapperRules_ok q m).symm

/-- C06, completeness by table: one DAO per class mirroring the base chain, every public field mapped with the
right kind on the DAO of the class that introduces it, nothing for `_`-fields — for the generator driven by any decision
list with `DispatchOk` and any mapper rules with `MapperOk`. -/
theorem C06_complete_of_tables {t : DispatchTable} {r : MapperRules} (ht : DispatchOk t) (hr : MapperOk r)
    (q : Quirks) (m : ClassModel) (wf : WF m) : Complete m (generateT t r q m) := by
  rw [C06_generateT_eq_of_ok ht hr]
  exact C06_complete q m wf

theorem C06_full_of_tables {t : DispatchTable} {r : MapperRules} (ht : DispatchOk t) (hr : MapperOk r)
    (m : ClassModel) (wf : WF m) : Valid (generateT t r Quirks.none m) := by
  rw [C06_generateT_eq_of_ok ht hr]
  exact C06_full m wf

/-- C06, model = specification by table: the schema facts observed of the table-driven generator are those the
specification reads off the dataclasses. -/
theorem C06_spec_of_tables {t : DispatchTable} {r : MapperRules} (ht : DispatchOk t) (hr : MapperOk r)
    (q : Quirks) (m : ClassModel) (wf : WF m) : observe (generateT t r q m) = Spec.expected m := by
  rw [C06_generateT_eq_of_ok ht hr]
  exact C06_model_meets_spec q m wf

theorem C06_perm_invariant_of_tables {t : DispatchTable} {r : MapperRules} (ht : DispatchOk t) (hr : MapperOk r)
    (q : Quirks) (m m' : ClassModel) (hn : (m.map (·.name)).Nodup) (hp : m.Perm m') :
    (generateT t r q m).tables.Perm (generateT t r q m').tables ∧
    (generateT t r q m).assocs.Perm (generateT t r q m').assocs ∧
    (generateT t r q m).imports.Perm (generateT t r q m').imports ∧
    (generateT t r q m).crashed = (generateT t r q m').crashed := by
  rw [C06_generateT_eq_of_ok ht hr, C06_generateT_eq_of_ok ht hr]
  exact C06_perm_invariant q m m' hn hp

/-- C06, explicit join condition: under `MapperOk` every DAO that has a parent DAO carries an explicit
`inherit_condition` — whatever references exist between a class and its ancestors or descendants (a reference from a
class to its own subclass adds a second foreign-key path between the two tables; without the explicit condition
SQLAlchemy cannot choose the join: `AmbiguousForeignKeysError`). -/
theorem C06_inherit_condition_of_rules {r : MapperRules} (hr : MapperOk r) (m : ClassModel) :
    inheritConditionsGiven r m = true := by
  refine List.all_eq_true.mpr fun c _ => ?_
  rw [(mapperOf_ok hr m c).2.2.2]
  exact ite_self_true _

/-- the decision function is all that matters: tables with the same interpretation drive the same generator (of the
mapper rules only WHICH entries are emitted matters, not their order) -/
theorem C06_generateT_ext {t u : DispatchTable} {r s : MapperRules}
    (hd : ∀ v, interpDispatch t v = interpDispatch u v)
    (hm : ∀ v e, (interpMapper r v).contains e = (interpMapper s v).contains e)
    (q : Quirks) (m : ClassModel) : generateT t r q m = generateT u s q m := by
  have h1 : interpDispatch t = interpDispatch u := funext hd
  unfold generateT importsT genTableT mapperOf parseFieldT assocOfT fieldImportsT fieldCrashesT
  simp only [h1, hm]

/-- extensional equality of two decision lists is decidable: 2⁹ fact vectors -/
def dispatchExtEq (t u : DispatchTable) : Bool :=
  [false, true].all fun a => [false, true].all fun b => [false, true].all fun c => [false, true].all fun d =>
  [false, true].all fun e => [false, true].all fun f => [false, true].all fun g => [false, true].all fun h =>
  [false, true].all fun i => interpDispatch t ⟨a, b, c, d, e, f, g, h, i⟩ == interpDispatch u ⟨a, b, c, d, e, f, g, h, i⟩

theorem dispatchExtEq_sound {t u : DispatchTable} (h : dispatchExtEq t u = true) (v : Facts) :
    interpDispatch t v = interpDispatch u v := by
  obtain ⟨a, b, c, d, e, f, g, h', i⟩ := v
  simp only [dispatchExtEq, List.all_eq_true] at h
  exact eq_of_beq (h a (bool_mem a) b (bool_mem b) c (bool_mem c) d (bool_mem d) e (bool_mem e) f (bool_mem f)
    g (bool_mem g) h' (bool_mem h') i (bool_mem i))

def MapperEmit.all : List MapperEmit := [.polyColumn, .polyOn, .polyIdentitySelf, .inheritCondition]

theorem MapperEmit.mem_all (e : MapperEmit) : e ∈ MapperEmit.all := by cases e <;> decide

/-- two rule lists emit the same SET of entries under every condition (2³ vectors × 4 entries) -/
def mapperExtEq (r s : MapperRules) : Bool :=
  [false, true].all fun a => [false, true].all fun b => [false, true].all fun c =>
    MapperEmit.all.all fun e => (interpMapper r ⟨a, b, c⟩).contains e == (interpMapper s ⟨a, b, c⟩).contains e

theorem mapperExtEq_sound {r s : MapperRules} (h : mapperExtEq r s = true) (v : MFacts) (e : MapperEmit) :
    (interpMapper r v).contains e = (interpMapper s v).contains e := by
  obtain ⟨a, b, c⟩ := v
  simp only [mapperExtEq, List.all_eq_true] at h
  exact eq_of_beq (h a (bool_mem a) b (bool_mem b) c (bool_mem c) e (MapperEmit.mem_all e))

/-- The obligation of one run of the translator: tables regenerated from the source that (i) are extensionally `dispatch`
and `mapperRules` and (ii) pass `DispatchOk` / `MapperOk` drive exactly the model's generator (so every C06 theorem speaks
about them), and the property theorems hold of the generator they drive. (i) alone already gives the first conclusion,
(ii) alone the others: the two checks are independent ties. -/
theorem C06_of_translated_tables {t : DispatchTable} {r : MapperRules}
    (he : dispatchExtEq t dispatch = true) (hme : mapperExtEq r mapperRules = true)
    (ht : DispatchOk t) (hr : MapperOk r) (q : Quirks) (m : ClassModel) :
    generateT t r q m = generate q m ∧
    (WF m → Complete m (generateT t r q m) ∧ Valid (generateT t r Quirks.none m) ∧
      observe (generateT t r q m) = Spec.expected m) ∧
    inheritConditionsGiven r m = true := by
  refine ⟨?_, fun wf => ⟨C06_complete_of_tables ht hr q m wf, C06_full_of_tables ht hr m wf,
    C06_spec_of_tables ht hr q m wf⟩, C06_inherit_condition_of_rules hr m⟩
  rw [generate_eq_interp]
  exact C06_generateT_ext (dispatchExtEq_sound he) (mapperExtEq_sound hme) q m

example : DispatchOk dispatch ∧ MapperOk mapperRules ∧ dispatchExtEq dispatch dispatch = true :=
  ⟨dispatch_ok, mapperRules_ok, by simp [dispatchExtEq]⟩

/-- `and not is_container` dropped from the builtin branch: `List[int]` would become a plain column -/
example : ¬ DispatchOk
    [ (.atom .isTypeType, .typeType), (.or (.atom .isBuiltinType) (.atom .isEnum), .builtin),
      (.and (.atom .isOneToOne) (.atom .endpointMapped), .oneToOne),
      (.and (.atom .isOneToOne) (.atom .endpointInTypeMappings), .customType),
      (.or (.atom .isCollectionOfBuiltins) (.and (.atom .endpointInTypeMappings) (.atom .isContainer)), .json),
      (.atom .isOneToMany, .oneToMany) ] := by decide +kernel

/-- the one-to-many branch moved to the front: `Type[X]` and containers of custom types become relationships -/
example : ¬ DispatchOk ((.atom .isOneToMany, .oneToMany) :: dispatch) := by decide +kernel

/-- a harmless rewrite: De Morgan + commuted operands in the builtin branch — same decision function -/
example : dispatchExtEq
    [ (.atom .isTypeType, .typeType),
      (.not (.or (.atom .isContainer) (.and (.not (.atom .isEnum)) (.not (.atom .isBuiltinType)))), .builtin),
      (.and (.atom .endpointMapped) (.atom .isOneToOne), .oneToOne),
      (.and (.atom .isOneToOne) (.atom .endpointInTypeMappings), .customType),
      (.or (.and (.atom .isContainer) (.atom .endpointInTypeMappings)) (.atom .isCollectionOfBuiltins), .json),
      (.atom .isOneToMany, .oneToMany) ] dispatch = true := by decide +kernel

/-- `inherit_condition` only for classes without children: rejected -/
example : ¬ MapperOk
    [ (.and (.not (.atom .hasParent)) (.atom .hasChildren), [.polyColumn, .polyOn, .polyIdentitySelf]),
      (.atom .hasParent, [.polyIdentitySelf]),
      (.and (.and (.atom .hasParent) (.atom .joined)) (.not (.atom .hasChildren)), [.inheritCondition]) ] := by decide +kernel

/-- a model in which a class refers to its own direct subclass, to a grandchild, and child and parent refer to each
other: well-formed, so the theorems above apply to it -/
def hierarchyRefModel : ClassModel :=
  [ ⟨['A'], none, [⟨['x'], .scalar .int false⟩, ⟨['k', 'i', 'd'], .ref ['B'] true⟩, ⟨['g', 'c'], .ref ['C'] false⟩,
      ⟨['k', 'i', 'd', 's'], .coll ['B']⟩]⟩,
    ⟨['B'], some ['A'], [⟨['u', 'p'], .ref ['A'] true⟩]⟩,
    ⟨['C'], some ['B'], [⟨['t', 'o', 'p'], .ref ['A'] false⟩]⟩ ]

example : WF hierarchyRefModel ∧ inheritConditionsGiven mapperRules hierarchyRefModel = true ∧
    Valid (generateT dispatch mapperRules Quirks.none hierarchyRefModel) :=
  have wf : WF hierarchyRefModel := by decide +kernel
  ⟨wf, C06_inherit_condition_of_rules mapperRules_ok _, C06_full_of_tables dispatch_ok mapperRules_ok _ wf⟩

end KrroodVerif.OrmGen
