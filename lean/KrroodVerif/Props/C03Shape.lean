import KrroodVerif.Lemmas.DomShapeLemmas
import KrroodVerif.Props.C03
/-!
# C03 — the tie by translation: `HashedIterable.__iter__` / `__bool__` as an `IterShape`

`harness/translate/c03_translate.py` regenerates `Translated.shape : IterShape` from the CURRENT Python AST on every
run; the kernel then re-checks, by `decide`,

* `Translated.shape = Dom.shape ∨ Translated.shape = Dom.shapeIdx ∨ Translated.shape = Dom.shapeSnap` (the code is one of
  the two hand-written machines — `Dom.shape`: generator cursors, krrood before e48e46b; `Dom.shapeIdx`: index cursors,
  from e48e46b on — or the snapshot variant of the first),
* `IterOk Translated.shape`, and `IterFullOk Translated.shape` unless F-C03-1 is listed as an open finding.

The theorems below turn these finite facts into statements about ALL domains, query families and schedules.
-/
namespace KrroodVerif.Dom

/-- the decidable condition checked on the regenerated shape: see `IterShape.coreOk` -/
def IterOk (s : IterShape) : Prop := s.ok = true
/-- the same with index cursors in phase 1 -/
def IterFullOk (s : IterShape) : Prop := s.fullOk = true

instance (s : IterShape) : Decidable (IterOk s) := inferInstanceAs (Decidable (s.ok = true))
instance (s : IterShape) : Decidable (IterFullOk s) := inferInstanceAs (Decidable (s.fullOk = true))

theorem IterOk_iff {s : IterShape} : IterOk s ↔ s.cachedOnly = false ∧ s.cacheWhen = .beforeYield ∧
    s.source = .shared ∧ s.atEnd = .keep ∧ s.truth = .valuesOrSource :=
  coreOk_iff

theorem IterFullOk_iff {s : IterShape} : IterFullOk s ↔ s.phase1 = .index ∧ IterOk s := by
  simp only [IterFullOk, IterShape.fullOk, IterOk, IterShape.ok, Bool.and_eq_true, beq_iff_eq]

theorem IterFullOk.ok {s : IterShape} (h : IterFullOk s) : IterOk s :=
  (IterFullOk_iff.mp h).2

/-- Generator cursors. Every theorem of `Props/C03.lean` about `run` is thereby a theorem about the interpretation of the
regenerated shape whenever `Translated.shape = Dom.shape`. -/
theorem C03_shape_is_model (n : Nat) (sats : Nat → List Nat) (ops : List Op) :
    runS shape sats (initS n) ops = run sats (init n) ops := by
  rw [← embS_init, run_eq_interp]

/-- Index cursors: the same for `Dom.shapeIdx` and `runIdx`. -/
theorem C03_shape_is_model_idx (n : Nat) (sats : Nat → List Nat) (ops : List Op) :
    runS shapeIdx sats (initS n) ops = runIdx sats (initIdx n) ops := by
  rw [← embSI_init, runIdx_eq_interp]

/-- The per-run obligation `IterOk Translated.shape` makes it a statement about the code at /repo HEAD. Whatever phase 1
is (live dict view, snapshot list or index): on a schedule whose consumption phases do not overlap (any abandonment
point, any number of re-evaluations, iterators created in advance), every `next()` of the interpreted machine returns
what the same query returns alone on a fresh query. -/
theorem C03_shape_nonoverlap (s : IterShape) (hok : IterOk s) (n : Nat) (sats : Nat → List Nat) (ops : List Op)
    (hno : noOverlap ops = true) : runS s sats (initS n) ops = specRun n sats [] ops :=
  run_noOverlapS hok n sats ops _ _ _ _ (noInvS_init s n sats) hno

/-- EVERY schedule — any interleaving of any number of iterators, nested loops, abandonment, re-evaluation — meets the
specification when phase 1 is an index: what an index cursor has left does not change when somebody else advances
(`RemS.frame`). -/
theorem C03_shape_full (s : IterShape) (hok : IterFullOk s) (n : Nat) (sats : Nat → List Nat) (ops : List Op) :
    runS s sats (initS n) ops = specRun n sats [] ops :=
  run_fullS (IterFullOk_iff.mp hok).2 (IterFullOk_iff.mp hok).1 n sats ops _ _ (fullInvS_init s n sats)

example : IterOk shape ∧ IterOk shapeSnap ∧ IterOk shapeIdx ∧ IterFullOk shapeIdx ∧ ¬ IterFullOk shape ∧
    ¬ IterFullOk shapeSnap := by decide

example : runS shapeSnap nvSats (initS 4) nvOps2 = specRun 4 nvSats [] nvOps2 :=
  C03_shape_nonoverlap shapeSnap (by decide) 4 nvSats nvOps2 (by decide)

/-- the snapshot shape really differs from the live view on an overlapping schedule (no RuntimeError, a lost element
instead), and neither meets the specification there -/
example :
    runS shapeSnap cexSats (initS 3) cexOpsErr =
      [none, some (.val 0), none, some (.val 0), some (.val 1), some (.val 2)] ∧
    runS shape cexSats (initS 3) cexOpsErr =
      [none, some (.val 0), none, some (.val 0), some (.val 1), some .runtimeError] ∧
    specRun 3 cexSats [] cexOpsErr =
      [none, some (.val 0), none, some (.val 0), some (.val 1), some (.val 1)] := by decide

example : runS shapeIdx cexSats (initS 3) cexOps = specRun 3 cexSats [] cexOps :=
  C03_shape_full shapeIdx (by decide) 3 cexSats cexOps

/-- first evaluation reads one result and is closed, the second one runs to the end -/
def shapeOpsAbandon : List Op :=
  [.start 0, .next 0, .abandon 0, .start 1, .next 1, .next 1, .next 1, .next 1]

/-- a query over an EMPTY domain evaluated twice -/
def shapeOpsEmpty : List Op := [.start 0, .next 0, .start 1, .next 1]

/-- one evaluation of a fresh query -/
def shapeOpsOnce : List Op := [.start 0, .next 0]

/-- The shapes of the seeded changes, each on a `noOverlap` schedule:
`cacheWhen = afterYield` (C03-m1, C10-r2m1, C09-r3m2) and `never`: the element handed out last is lost;
`atEnd` (C01-r2m2): likewise; `source = takeOver` (C11-r5m2): everything after it is lost; `cachedOnly` (C02-m2): the
un-cached tail is never read; `atEnd = release` (C03-r4m1, C09-r5m1): the second evaluation over an empty domain
raises ValueError; `truth = valuesOnly`: already the first evaluation does. -/
theorem C03_shape_cex :
    noOverlap shapeOpsAbandon = true ∧ noOverlap shapeOpsEmpty = true ∧ noOverlap shapeOpsOnce = true ∧
    specRun 3 cexSats [] shapeOpsAbandon =
      [none, some (.val 0), none, none, some (.val 0), some (.val 1), some (.val 2), some .stop] ∧
    runS { shape with cacheWhen := .afterYield } cexSats (initS 3) shapeOpsAbandon =
      [none, some (.val 0), none, none, some (.val 1), some (.val 2), some .stop, some .stop] ∧
    runS { shape with cacheWhen := .never } cexSats (initS 3) shapeOpsAbandon =
      [none, some (.val 0), none, none, some (.val 1), some (.val 2), some .stop, some .stop] ∧
    runS { shape with cacheWhen := .atEnd } cexSats (initS 3) shapeOpsAbandon =
      [none, some (.val 0), none, none, some (.val 1), some (.val 2), some .stop, some .stop] ∧
    runS { shape with source := .takeOver } cexSats (initS 3) shapeOpsAbandon =
      [none, some (.val 0), none, none, some (.val 0), some .stop, some .stop, some .stop] ∧
    runS { shape with cachedOnly := true } cexSats (initS 3) shapeOpsAbandon =
      [none, some (.val 0), none, none, some (.val 0), some .stop, some .stop, some .stop] ∧
    specRun 0 cexSats [] shapeOpsEmpty = [none, some .stop, none, some .stop] ∧
    runS { shape with atEnd := .release } cexSats (initS 0) shapeOpsEmpty =
      [none, some .stop, none, some .valueError] ∧
    specRun 1 cexSats [] shapeOpsOnce = [none, some (.val 0)] ∧
    runS { shape with truth := .valuesOnly } cexSats (initS 1) shapeOpsOnce = [none, some .valueError] := by
  decide +kernel

/-- the three witness schedules of `C03_shape_ok_tight`, as one test -/
def passesWitnesses (s : IterShape) : Bool :=
  runS s cexSats (initS 3) shapeOpsAbandon == specRun 3 cexSats [] shapeOpsAbandon &&
  runS s cexSats (initS 0) shapeOpsEmpty == specRun 0 cexSats [] shapeOpsEmpty &&
  runS s cexSats (initS 1) shapeOpsOnce == specRun 1 cexSats [] shapeOpsOnce

/-- `IterOk` is not stricter than the property: a shape that is not `IterOk` fails one of three fixed NON-overlapping
witness schedules (a finite table: one kernel evaluation over the 288 shapes) — except that this machine, whose source is
always a generator object, cannot tell `truth = sourceOnly` from `valuesOrSource`; `sourceOnly` is excluded from `IterOk`
because a `HashedIterable(values=…)` without a source must be truthy. -/
theorem C03_shape_ok_tight (s : IterShape) (ht : s.truth ≠ .sourceOnly) :
    IterOk s ↔ passesWitnesses s = true := by
  have h := IterShape.all_spec (p := fun s => s.truth == .sourceOnly || s.ok == passesWitnesses s)
    (by decide +kernel) s
  simp only [Bool.or_eq_true, beq_iff_eq] at h
  rw [IterOk, h.resolve_left ht]

/-- A value handed out by one `next()` is in the cache when the caller gets it, and nothing is ever removed from the
cache. So `HashedIterable.__getitem__` (the only other reader of the shared source: it pulls only for an id that is NOT
cached; its body is checked by the translator) never pulls for a value the engine has in hand, and the schedule machine may
ignore it. -/
theorem C03_shape_handed_out_cached (s : IterShape) (hok : IterOk s) (d : SDom) (c : SCursor) :
    (∀ x, (stepS s d c).2.2 = .val x → x ∈ (stepS s d c).1.cache) ∧
    (∀ y, y ∈ d.cache → y ∈ (stepS s d c).1.cache) :=
  stepS_cached (IterOk_iff.mp hok).2.1 d c

/-- necessity: with `cacheWhen = afterYield` the value in the caller's hand is NOT cached -/
example :
    (stepS { shape with cacheWhen := .afterYield } { cache := [], rest := [7, 8], released := false } .fresh).2.2 = .val 7 ∧
    (stepS { shape with cacheWhen := .afterYield } { cache := [], rest := [7, 8], released := false } .fresh).1.cache = [] ∧
    (stepS shape { cache := [], rest := [7, 8], released := false } .fresh).1.cache = [7] := by decide

end KrroodVerif.Dom
