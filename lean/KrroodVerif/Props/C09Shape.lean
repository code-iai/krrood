import KrroodVerif.Model.QuantShape
import KrroodVerif.Props.C09Lazy
/-!
# C09 — the counting loop as a regenerated description (`LoopShape`)

Every description satisfying the decidable `ShapeOk` interprets, for every constraint and list of child results, to
`Quant.run`, hence to the specification, takes exactly `Quant.consumed` child results, and `the` over it has exactly the
three outcomes of `theSpec`; `Props/C09Sched.lean` adds that interleaved evaluations of one node are independent.

Per run the translator regenerates `Translated.rawShape` (and its normalisation `Translated.shape`) from the current
source and the kernel re-checks `Translated.shape = Quant.shape` and `ShapeOk Translated.rawShape` by `decide`; with the
theorems here the second alone gives `interpLoop Translated.rawShape = Quant.run = Quant.spec` for ALL inputs.
-/
namespace KrroodVerif.Quant

theorem ShapeOk.counter_eq {s : LoopShape} (hs : ShapeOk s) : s.counter = .frameLocal := hs.1
theorem ShapeOk.init_eq {s : LoopShape} (hs : ShapeOk s) : s.init = 0 := hs.2.1
theorem ShapeOk.filter_eq {s : LoopShape} (hs : ShapeOk s) : s.filter = .all := hs.2.2.1
theorem ShapeOk.body_mem {s : LoopShape} (hs : ShapeOk s) : s.body ∈ okBodies := hs.2.2.2.1
theorem ShapeOk.final_eq {s : LoopShape} (hs : ShapeOk s) : s.final = [.check 0 true] := hs.2.2.2.2.1
theorem ShapeOk.the_ok {s : LoopShape} (hs : ShapeOk s) : s.the.Ok := hs.2.2.2.2.2

theorem TheShape.Ok.dflt_eq {t : TheShape} (h : t.Ok) : t.dflt = .exactly 1 := h.1
theorem TheShape.Ok.site_eq {t : TheShape} (h : t.Ok) : t.site = .inner := h.2.1
theorem TheShape.Ok.onLess_eq {t : TheShape} (h : t.Ok) : t.onLess = .noSolution := h.2.2.1
theorem TheShape.Ok.onGreater_eq {t : TheShape} (h : t.Ok) : t.onGreater = .multipleSolutions := h.2.2.2.1
theorem TheShape.Ok.pick_eq {t : TheShape} (h : t.Ok) : t.pick = 0 := h.2.2.2.2

theorem shape_ok : ShapeOk shape := by decide

theorem okBodies_cases {b : List Ev} (h : b ∈ okBodies) :
    b = [.incr 1, .check 0 false, .yield] ∨ b = [.check 1 false, .incr 1, .yield] ∨
    b = [.check 1 false, .yield, .incr 1] := by
  simpa [okBodies] using h

/-- `n` is the counter when the check fails: advanced already or not, depending on the body; nothing reads it. -/
theorem runEvs_okBody {b : List Ev} (h : b ∈ okBodies) (c : Option Constraint) (k : Nat) :
    ∃ n, runEvs c b k 0 = match assertOpt c (k + 1) false with
      | .ok () => (k + 1, 1, none)
      | .error e => (n, 0, some e) := by
  rcases okBodies_cases h with rfl | rfl | rfl
  · -- count, check, yield
    refine ⟨k + 1, ?_⟩
    simp only [runEvs, Nat.add_zero]
    cases assertOpt c (k + 1) false <;> rfl
  · -- check, count, yield
    refine ⟨k, ?_⟩
    simp only [runEvs]
    cases assertOpt c (k + 1) false <;> rfl
  · -- check, yield, count
    refine ⟨k, ?_⟩
    simp only [runEvs]
    cases assertOpt c (k + 1) false <;> rfl

theorem interpFrom_ok {α} {s : LoopShape} (hs : ShapeOk s) (truth : α → Bool) (c : Option Constraint)
    (sols : List α) (k : Nat) :
    interpFrom s truth c k sols = loop c k sols ∧ interpConsumedFrom s truth c k sols = consumedFrom c k sols := by
  induction sols generalizing k with
  | nil =>
    simp only [interpFrom, hs.final_eq, runEvs, loop, Nat.add_zero, interpConsumedFrom, consumedFrom, and_true]
    cases assertOpt c k true <;> rfl
  | cons x xs ih =>
    obtain ⟨n, hn⟩ := runEvs_okBody hs.body_mem c k
    simp only [interpFrom, interpConsumedFrom, hs.filter_eq, keeps, if_true, loop, consumedFrom, hn]
    cases assertOpt c (k + 1) false with
    | error e => exact ⟨rfl, rfl⟩
    | ok u => simp [ih (k + 1)]

/-- A description that satisfies `ShapeOk` behaves, on every constraint (or none) and every list of child results
whatever their truth flags, exactly like the hand-written model of the loop. -/
theorem C09_shape_ok_eq_run {α} {s : LoopShape} (hs : ShapeOk s) (truth : α → Bool) (c : Option Constraint)
    (sols : List α) : interpLoop s truth c sols = run c sols := by
  simp only [interpLoop, run, hs.init_eq]
  exact (interpFrom_ok hs truth c sols 0).1

/-- An accepted description meets the specification of the property. -/
theorem C09_shape_ok_eq_spec {α} {s : LoopShape} (hs : ShapeOk s) (truth : α → Bool) (c : Option Constraint)
    (hwf : ∀ c', c = some c' → c'.WF) (sols : List α) : interpLoop s truth c sols = spec c sols := by
  rw [C09_shape_ok_eq_run hs, run_eq_spec]

/-- The description of the code as hand-modelled, interpreted, is `Quant.run`. -/
theorem C09_shape_is_model {α} (truth : α → Bool) (c : Option Constraint) (sols : List α) :
    interpLoop shape truth c sols = run c sols := C09_shape_ok_eq_run shape_ok truth c sols

/-- Laziness: an accepted description takes from its child exactly the results the model takes (`C09_consumed`: what is
yielded plus the one result revealing an exceeded upper bound). -/
theorem C09_shape_ok_consumed {α} {s : LoopShape} (hs : ShapeOk s) (truth : α → Bool) (c : Option Constraint)
    (sols : List α) : interpConsumed s truth c sols = consumed c sols := by
  simp only [interpConsumed, consumed, hs.init_eq]
  exact (interpFrom_ok hs truth c sols 0).2

/-- `the(...)` over an accepted description: the element iff exactly one solution,
`NoSolutionFound` iff none, `MultipleSolutionFound` iff several — whether the user evaluates it or an enclosing query
does. -/
theorem C09_shape_ok_the {α} {s : LoopShape} (hs : ShapeOk s) (truth : α → Bool) (nested : Bool) (sols : List α) :
    interpThe s truth nested sols = (theSpec sols).toObs := by
  have ht := hs.the_ok
  unfold interpThe
  simp only [ht.dflt_eq, C09_shape_ok_eq_run hs, ht.site_eq, ht.pick_eq, run_eq_spec]
  match sols with
  | [] => simp [spec, upper, lower, theSpec, mapErr, TheOutcome.toObs, ht.onLess_eq]
  | [x] => cases nested <;> simp [spec, upper, lower, theSpec, TheOutcome.toObs]
  | x :: y :: r => simp [spec, upper, theSpec, mapErr, TheOutcome.toObs, ht.onGreater_eq]

/-- the model's `theRun` in the vocabulary of `interpThe` -/
theorem C09_shape_the_is_model {α} (truth : α → Bool) (nested : Bool) (sols : List α) :
    some (interpThe shape truth nested sols) = (theRun sols).map TheOutcome.toObs := by
  rw [C09_shape_ok_the shape_ok, C09_the]
  rfl

end KrroodVerif.Quant
