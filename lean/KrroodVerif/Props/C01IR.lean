import KrroodVerif.Model.EqlIRTable
import KrroodVerif.Lemmas.ListBasics
/-!
C01 (c01b) — `runIR irTable` against `eval`: the interpreter of the translated evaluation methods (`Model/EqlIR.lean`) on
the table of the code as it is (`Model/EqlIRTable.lean`) computes what the hand-written `Eql.eval` computes, node class by
node class: `Not` and `AND` here; `ElseIf`, `Union`, `HasType`, variables and literals in `Props/C01IROr.lean` and
`Props/C01IRVar.lean`. `Comparator`, the attribute / index / flatten terms, `Exists` and `ForAll` are not covered (the
driver cross-check `model_ir=` validates them on every case of C01 / C02), so the statement for all of `Expr`,
`runIR irTable w e env = liftE (eval w e env)`, is not a theorem of this development.

Method: the clauses of `evalE` / `exec` are stated once as the RULES of a big-step semantics, over a frame `⟨L, s⟩` whose
locals `L` are a variable known only through lookups (`L.lookup "v1" = some …`, names kept apart by `"v1" ≠ "v2"`).
Running a method body is then a derivation from these rules: strings are compared once per rule, not at every step of a
body, and a child evaluator or helper call that is a variable is no obstacle (evaluating a body by `rfl` compares strings
by the hundred in the kernel and is stuck on every such variable). Per node class a NODE lemma
`runNode irTable nd w env = …` for an ARBITRARY child evaluator `nd.ev`, then the STEP theorem
`C01_runIR_eq_eval_<class>_partial`: if `runIR irTable` agrees with `eval` on the children it agrees on the node.
-/
open KrroodVerif.Eql KrroodVerif.Eql.IR
namespace KrroodVerif.Eql.IR

theorem bind_of_ok {α β} {m : R α} {a : α} (h : m = .ok a) (f : α → R β) : (m >>= f) = f a := by
  rw [h]
  rfl

theorem Frame.lookup_set_self (fr : Frame) (x : String) (v : V) : (fr.set x v).locals.lookup x = some v := by
  simp [Frame.set]

theorem Frame.lookup_set_ne {x y : String} (h : y ≠ x) (fr : Frame) (v : V) :
    (fr.set x v).locals.lookup y = fr.locals.lookup y :=
  (lookup_cons_ne h).trans (lookup_filter_ne h _)

/-- `OperationResult(b, flag, self)` -/
abbrev mkResult (b flag : PE) : PE := .call (.nm "OperationResult") (.cons b (.cons flag (.cons .self .nil)))

/-- `self.<child>._evaluate__(src, parent=self)` -/
abbrev evalChild (child : String) (src : PE) : PE :=
  .call (.att (.att .self child) "_evaluate__") (.cons src (.cons (.kw "parent" .self) .nil))

/-- `isinstance(self._parent_, X)` -/
abbrev parentIs (X : String) : PE := .call (.nm "isinstance") (.cons (.att .self "_parent_") (.cons (.nm X) .nil))

/-- `self is self._conditions_root_` -/
abbrev isRoot : PE := .bin "is" .self (.att .self "_conditions_root_")

/-- `bool(sources[self._id_])` -/
abbrev boundTruth : PE := .call (.nm "bool") (.cons (.idx (.nm "sources") (.att .self "_id_")) .nil)

/-- `{**sources, self._id_: HashedValue(x)}` -/
abbrev bindSelf (x : String) : PE :=
  .dict (.cons (.splat (.nm "sources")) (.cons (.kv (.att .self "_id_") (.call (.nm "HashedValue") (.cons (.nm x) .nil))) .nil))

/-- `yield OperationResult(<x>.bindings, self._is_false_, self)` -/
abbrev yieldCopy (x : String) : St :=
  .yld (mkResult (.att (.nm x) "bindings") (.att .self "_is_false_"))

section Rules
variable {lower : CallH} {nd : Node} {w : World} {L : List (String × V)} {s0 : Bool}

theorem evalE_nm {x : String} {v : V} (h : L.lookup x = some v) :
    evalE lower nd w (.nm x) ⟨L, s0⟩ = .ok (v, s0) := by
  show (match L.lookup x with | some v => _ | none => _) = _
  rw [h]

theorem evalE_glob {x : String} (h : L.lookup x = none) :
    evalE lower nd w (.nm x) ⟨L, s0⟩ = .ok (.glob x, s0) := by
  show (match L.lookup x with | some v => _ | none => _) = _
  rw [h]

theorem evalE_self : evalE lower nd w .self ⟨L, s0⟩ = .ok (.node .self, s0) := rfl
theorem evalE_true : evalE lower nd w (.cst "True") ⟨L, s0⟩ = .ok (.bool true, s0) := rfl
theorem evalE_false : evalE lower nd w (.cst "False") ⟨L, s0⟩ = .ok (.bool false, s0) := rfl
theorem evalE_nil : evalE lower nd w .nil ⟨L, s0⟩ = .ok (.list [], s0) := rfl

theorem evalE_cons {h t : PE} {x : V} {xs : List V} {s s' : Bool} (hh : evalE lower nd w h ⟨L, s0⟩ = .ok (x, s))
    (ht : evalE lower nd w t ⟨L, s⟩ = .ok (.list xs, s')) :
    evalE lower nd w (.cons h t) ⟨L, s0⟩ = .ok (.list (x :: xs), s') :=
  (bind_of_ok hh _).trans ((bind_of_ok ht _).trans rfl)

theorem evalE_kw {k : String} {e : PE} {x : V} {s : Bool} (h : evalE lower nd w e ⟨L, s0⟩ = .ok (x, s)) :
    evalE lower nd w (.kw k e) ⟨L, s0⟩ = .ok (.kwarg k x, s) :=
  (bind_of_ok h _).trans rfl

theorem evalE_att_left : evalE lower nd w (.att .self "left") ⟨L, s0⟩ = .ok (.node .left, s0) := rfl
theorem evalE_att_right : evalE lower nd w (.att .self "right") ⟨L, s0⟩ = .ok (.node .right, s0) := rfl
theorem evalE_att_child : evalE lower nd w (.att .self "_child_") ⟨L, s0⟩ = .ok (.node .child, s0) := rfl
theorem evalE_att_isFalse : evalE lower nd w (.att .self "_is_false_") ⟨L, s0⟩ = .ok (.bool s0, s0) := rfl

theorem evalE_att_bindings {e : PE} {r : IRes} {s : Bool} (h : evalE lower nd w e ⟨L, s0⟩ = .ok (.res r, s)) :
    evalE lower nd w (.att e "bindings") ⟨L, s0⟩ = .ok (.env r.b, s) :=
  (bind_of_ok h _).trans rfl

theorem evalE_att_is_false {e : PE} {r : IRes} {s : Bool} (h : evalE lower nd w e ⟨L, s0⟩ = .ok (.res r, s)) :
    evalE lower nd w (.att e "is_false") ⟨L, s0⟩ = .ok (.bool r.isFalse, s) :=
  (bind_of_ok h _).trans rfl

theorem evalE_att_is_true {e : PE} {r : IRes} {s : Bool} (h : evalE lower nd w e ⟨L, s0⟩ = .ok (.res r, s)) :
    evalE lower nd w (.att e "is_true") ⟨L, s0⟩ = .ok (.bool (!r.isFalse), s) :=
  (bind_of_ok h _).trans rfl

theorem evalE_att_evaluate {e : PE} {n : NodeRef} {s : Bool} (h : evalE lower nd w e ⟨L, s0⟩ = .ok (.node n, s)) :
    evalE lower nd w (.att e "_evaluate__") ⟨L, s0⟩ = .ok (.kwarg "_evaluate__" (.node n), s) :=
  (bind_of_ok h _).trans (by cases n <;> rfl)

theorem evalE_call_evaluate {e src : PE} {n : NodeRef} {b : IEnv} {s s' : Bool}
    (he : evalE lower nd w e ⟨L, s0⟩ = .ok (.node n, s)) (hs : evalE lower nd w src ⟨L, s⟩ = .ok (.env b, s')) :
    evalE lower nd w (.call (.att e "_evaluate__") (.cons src (.cons (.kw "parent" .self) .nil))) ⟨L, s0⟩
      = (nd.ev n b.env >>= fun rs => pure (wrapChild b n rs, s')) :=
  (bind_of_ok (evalE_att_evaluate he) _).trans
    ((bind_of_ok (evalE_cons hs (evalE_cons (evalE_kw evalE_self) evalE_nil)) _).trans rfl)

theorem evalE_att_helper {name : String} (hn : name = "evaluate_left" ∨ name = "evaluate_right") :
    evalE lower nd w (.att .self name) ⟨L, s0⟩ = .ok (.kwarg name (.node .self), s0) := by
  rcases hn with rfl | rfl
  · rfl
  · rfl

theorem evalE_call_helper {name : String} (hn : name = "evaluate_left" ∨ name = "evaluate_right") {args : PE}
    {as : List V} {s : Bool} (ha : evalE lower nd w args ⟨L, s0⟩ = .ok (.list as, s)) :
    evalE lower nd w (.call (.att .self name) args) ⟨L, s0⟩ = lower name (positional as) s :=
  (bind_of_ok (evalE_att_helper hn) _).trans ((bind_of_ok ha _).trans (by rcases hn with rfl | rfl <;> rfl))

theorem evalE_OperationResult (hO : L.lookup "OperationResult" = none) {eb ef : PE} {b : IEnv}
    {t s s' : Bool} (hb : evalE lower nd w eb ⟨L, s0⟩ = .ok (.env b, s))
    (hf : evalE lower nd w ef ⟨L, s⟩ = .ok (.bool t, s')) :
    evalE lower nd w (mkResult eb ef) ⟨L, s0⟩
      = .ok (.res { b := b, isFalse := t }, s') :=
  (bind_of_ok (evalE_glob hO) _).trans
    ((bind_of_ok (evalE_cons hb (evalE_cons hf (evalE_cons evalE_self evalE_nil))) _).trans rfl)

theorem evalE_att_id : evalE lower nd w (.att .self "_id_") ⟨L, s0⟩ = .ok (.key .self, s0) := rfl
theorem evalE_att_parent : evalE lower nd w (.att .self "_parent_") ⟨L, s0⟩ = .ok (.parent, s0) := rfl
theorem evalE_att_domain :
    evalE lower nd w (.att .self "_domain_") ⟨L, s0⟩ = .ok ((match nd.domain with | some d => .dom d | none => .none), s0) := rfl

theorem evalE_att_instantiable :
    evalE lower nd w (.att .self "_should_be_instantiated_") ⟨L, s0⟩ = .ok (.bool nd.instantiable, s0) := rfl

theorem evalE_att_domain_some {d : List Val} (hd : nd.domain = some d) :
    evalE lower nd w (.att .self "_domain_") ⟨L, s0⟩ = .ok (.dom d, s0) := by
  rw [evalE_att_domain, hd]

theorem evalE_att_instantiate :
    evalE lower nd w (.att .self "_instantiate_using_child_vars_and_yield_results_") ⟨L, s0⟩
      = .ok (.kwarg "_instantiate_using_child_vars_and_yield_results_" (.node .self), s0) := rfl

theorem evalE_in {a b : PE} {n : NodeRef} {e : IEnv} {s s' : Bool} (ha : evalE lower nd w a ⟨L, s0⟩ = .ok (.key n, s))
    (hb : evalE lower nd w b ⟨L, s⟩ = .ok (.env e, s')) :
    evalE lower nd w (.bin "in" a b) ⟨L, s0⟩ = .ok (.bool (e.has nd n), s') :=
  (bind_of_ok ha _).trans ((bind_of_ok hb _).trans rfl)

theorem evalE_or {a b : PE} {x : V} {s : Bool} (ha : evalE lower nd w a ⟨L, s0⟩ = .ok (x, s)) :
    evalE lower nd w (.bin "or" a b) ⟨L, s0⟩ = if truthyV x then .ok (x, s) else evalE lower nd w b ⟨L, s⟩ :=
  (bind_of_ok ha _).trans rfl

theorem evalE_and {a b : PE} {x : V} {s : Bool} (ha : evalE lower nd w a ⟨L, s0⟩ = .ok (x, s)) :
    evalE lower nd w (.bin "and" a b) ⟨L, s0⟩ = if truthyV x then evalE lower nd w b ⟨L, s⟩ else .ok (x, s) :=
  (bind_of_ok ha _).trans rfl

theorem evalE_not {e : PE} {x : V} {s : Bool} (h : evalE lower nd w e ⟨L, s0⟩ = .ok (x, s)) :
    evalE lower nd w (.un "not" e) ⟨L, s0⟩ = .ok (.bool (!truthyV x), s) :=
  (bind_of_ok h _).trans rfl

theorem evalE_isinstance {X : String} (hI : L.lookup "isinstance" = none) (hX : L.lookup X = none) :
    evalE lower nd w (parentIs X) ⟨L, s0⟩ = .ok (.bool nd.condPos, s0) :=
  (bind_of_ok (evalE_glob hI) _).trans
    ((bind_of_ok (evalE_cons evalE_att_parent (evalE_cons (evalE_glob hX) evalE_nil)) _).trans rfl)

/-- `isinstance(self._parent_, X) or <rest>` is the node's `condPos` for the two `rest` that occur, `self is
self._conditions_root_` and the same `or self._is_condition_of_nested_query_`: the model folds both disjuncts into
`condPos`, and the interpreter evaluates them to `False` -/
theorem evalE_condPos {X : String} (hI : L.lookup "isinstance" = none) (hX : L.lookup X = none) {rest : PE}
    (hrest : evalE lower nd w rest ⟨L, s0⟩ = .ok (.bool false, s0)) :
    evalE lower nd w (.bin "or" (parentIs X) rest) ⟨L, s0⟩ = .ok (.bool nd.condPos, s0) := by
  rw [evalE_or (evalE_isinstance hI hX)]
  cases nd.condPos
  · exact hrest
  · rfl

theorem evalE_idx_env {e i : PE} {b : IEnv} {n : NodeRef} {y : Val} {s s' : Bool}
    (he : evalE lower nd w e ⟨L, s0⟩ = .ok (.env b, s)) (hi : evalE lower nd w i ⟨L, s⟩ = .ok (.key n, s'))
    (hy : b.get nd n = .ok y) : evalE lower nd w (.idx e i) ⟨L, s0⟩ = .ok (.val y, s') :=
  (bind_of_ok he _).trans ((bind_of_ok hi _).trans ((bind_of_ok hy _).trans rfl))

theorem evalE_bool (hB : L.lookup "bool" = none) {e : PE} {y : Val} {s : Bool}
    (he : evalE lower nd w e ⟨L, s0⟩ = .ok (.val y, s)) :
    evalE lower nd w (.call (.nm "bool") (.cons e .nil)) ⟨L, s0⟩ = .ok (.bool (truthy y), s) :=
  (bind_of_ok (evalE_glob hB) _).trans ((bind_of_ok (evalE_cons he evalE_nil) _).trans rfl)

theorem evalE_bool_bound {k : Key} {x : Val} {env : Env} (hB : L.lookup "bool" = none)
    (hS : L.lookup "sources" = some (.env { env := env })) (hk : nd.keyOf .self = some k) (hx : env.lookup k = some x) :
    evalE lower nd w boundTruth ⟨L, s0⟩ = .ok (.bool (truthy x), s0) :=
  evalE_bool hB (evalE_idx_env (evalE_nm hS) evalE_att_id (by simp only [IEnv.get, List.lookup, hk, hx]))

theorem evalE_call_instantiate {b : IEnv} (hS : L.lookup "sources" = some (.env b)) :
    evalE lower nd w (.call (.att .self "_instantiate_using_child_vars_and_yield_results_") (.cons (.nm "sources") .nil)) ⟨L, s0⟩
      = (nd.instantiate b.env >>= fun rs => pure (.list (rs.map fun r =>
          V.res { b := { env := r.1, own := (.self, r.2.1) :: b.own }, isFalse := !r.2.2 }), s0)) :=
  (bind_of_ok evalE_att_instantiate _).trans ((bind_of_ok (evalE_cons (evalE_nm hS) evalE_nil) _).trans rfl)

theorem evalE_splat {e : PE} {x : V} {s : Bool} (h : evalE lower nd w e ⟨L, s0⟩ = .ok (x, s)) :
    evalE lower nd w (.splat e) ⟨L, s0⟩ = .ok (.kwarg "**" x, s) :=
  (bind_of_ok h _).trans rfl

theorem evalE_kv {k v : PE} {a b : V} {s s' : Bool} (hk : evalE lower nd w k ⟨L, s0⟩ = .ok (a, s))
    (hv : evalE lower nd w v ⟨L, s⟩ = .ok (b, s')) :
    evalE lower nd w (.kv k v) ⟨L, s0⟩ = .ok (.kwarg "kv" (.list [a, b]), s') :=
  (bind_of_ok hk _).trans ((bind_of_ok hv _).trans rfl)

theorem evalE_HashedValue (hH : L.lookup "HashedValue" = none) {e : PE} {y : Val} {s : Bool}
    (he : evalE lower nd w e ⟨L, s0⟩ = .ok (.val y, s)) :
    evalE lower nd w (.call (.nm "HashedValue") (.cons e .nil)) ⟨L, s0⟩ = .ok (.val y, s) :=
  (bind_of_ok (evalE_glob hH) _).trans ((bind_of_ok (evalE_cons he evalE_nil) _).trans rfl)

theorem evalE_dict_bind {b : IEnv} {x : String} {y : Val} (hS : L.lookup "sources" = some (.env b))
    (hH : L.lookup "HashedValue" = none) (hx : L.lookup x = some (.val y)) :
    evalE lower nd w (bindSelf x) ⟨L, s0⟩ = .ok (.env (IEnv.bind nd (IEnv.merge { env := [] } b) .self y), s0) :=
  (bind_of_ok (evalE_cons (evalE_splat (evalE_nm hS))
    (evalE_cons (evalE_kv evalE_att_id (evalE_HashedValue hH (evalE_nm hx))) evalE_nil)) _).trans rfl

theorem exec_seq_next {fr : Frame} {a b : St} {fr1 : Frame} {ys1 : List V}
    (h : exec lower nd w a fr = .ok { fr := fr1, ys := ys1, ctl := .next }) :
    exec lower nd w (.seq a b) fr
      = (exec lower nd w b fr1 >>= fun o2 => pure { fr := o2.fr, ys := ys1 ++ o2.ys, ctl := o2.ctl }) :=
  (bind_of_ok h _).trans rfl

theorem exec_seq_ok {fr : Frame} {a b : St} {fr1 fr2 : Frame} {ys1 ys2 : List V} {ctl : Ctl}
    (h1 : exec lower nd w a fr = .ok { fr := fr1, ys := ys1, ctl := .next })
    (h2 : exec lower nd w b fr1 = .ok { fr := fr2, ys := ys2, ctl := ctl }) :
    exec lower nd w (.seq a b) fr = .ok { fr := fr2, ys := ys1 ++ ys2, ctl := ctl } := by
  rw [exec_seq_next h1, h2]
  rfl

theorem exec_seq_det {fr : Frame} {a b : St} {fr1 : Frame} (h : exec lower nd w a fr = .ok { fr := fr1, ys := [], ctl := .next }) :
    exec lower nd w (.seq a b) fr = exec lower nd w b fr1 := by
  rw [exec_seq_next h]
  exact bind_pure _

theorem exec_seq_eq (a b : St) (fr : Frame) :
    exec lower nd w (.seq a b) fr = (exec lower nd w a fr >>= fun o =>
      match o.ctl with
      | .next => exec lower nd w b o.fr >>= fun o2 => pure { fr := o2.fr, ys := o.ys ++ o2.ys, ctl := o2.ctl }
      | _ => pure o) := by
  rfl

theorem exec_assign_nm {x : String} {e : PE} {v : V} {s : Bool} (h : evalE lower nd w e ⟨L, s0⟩ = .ok (v, s)) :
    exec lower nd w (.assign (.nm x) e) ⟨L, s0⟩ = .ok { fr := Frame.set ⟨L, s⟩ x v, ys := [], ctl := .next } :=
  (bind_of_ok h _).trans rfl

theorem exec_assign_isFalse {e : PE} {v : V} {s : Bool} (h : evalE lower nd w e ⟨L, s0⟩ = .ok (v, s)) :
    exec lower nd w (.assign (.att .self "_is_false_") e) ⟨L, s0⟩
      = .ok { fr := ⟨L, truthyV v⟩, ys := [], ctl := .next } :=
  (bind_of_ok h _).trans rfl

theorem exec_assign_attr {f : String} (hf : f ≠ "_is_false_") {e : PE} {v : V} {s : Bool}
    (h : evalE lower nd w e ⟨L, s0⟩ = .ok (v, s)) :
    exec lower nd w (.assign (.att .self f) e) ⟨L, s0⟩ = .ok { fr := ⟨L, s⟩, ys := [], ctl := .next } := by
  refine (bind_of_ok h _).trans ?_
  dsimp only
  -- the four targets `exec` tells apart in an assignment
  split
  -- `self._is_false_`: excluded by `hf`
  · rename_i h1
    cases h1
    exact absurd rfl hf
  -- another attribute of `self`: the frame is kept
  · rfl
  -- `<name>[self._id_]`: not of the form `self.f`
  · rename_i h1
    cases h1
  -- any other target: `self.f` is one of the above
  · rename_i h1 h2 h3
    exact absurd rfl (h2 _)

theorem exec_yld {e : PE} {v : V} {s : Bool} (h : evalE lower nd w e ⟨L, s0⟩ = .ok (v, s)) :
    exec lower nd w (.yld e) ⟨L, s0⟩ = .ok { fr := ⟨L, s⟩, ys := [v], ctl := .next } :=
  (bind_of_ok h _).trans rfl

theorem exec_yieldCopy {x : String} {r : IRes} (hO : L.lookup "OperationResult" = none)
    (hx : L.lookup x = some (.res r)) :
    exec lower nd w (yieldCopy x) ⟨L, s0⟩
      = .ok { fr := ⟨L, s0⟩, ys := [V.res { b := r.b, isFalse := s0 }], ctl := .next } :=
  exec_yld (evalE_OperationResult hO (evalE_att_bindings (evalE_nm hx)) evalE_att_isFalse)

theorem exec_ifte {e : PE} {a b : St} {v : V} {s : Bool} (h : evalE lower nd w e ⟨L, s0⟩ = .ok (v, s)) :
    exec lower nd w (.ifte e a b) ⟨L, s0⟩
      = if truthyV v then exec lower nd w a ⟨L, s⟩ else exec lower nd w b ⟨L, s⟩ :=
  (bind_of_ok h _).trans rfl

theorem exec_ifte_true {e : PE} {a b : St} {v : V} {s : Bool} (h : evalE lower nd w e ⟨L, s0⟩ = .ok (v, s))
    (hv : truthyV v = true) : exec lower nd w (.ifte e a b) ⟨L, s0⟩ = exec lower nd w a ⟨L, s⟩ := by
  rw [exec_ifte h, if_pos hv]

theorem exec_ifte_false {e : PE} {a b : St} {v : V} {s : Bool} (h : evalE lower nd w e ⟨L, s0⟩ = .ok (v, s))
    (hv : truthyV v = false) : exec lower nd w (.ifte e a b) ⟨L, s0⟩ = exec lower nd w b ⟨L, s⟩ := by
  rw [exec_ifte h, if_neg (hv ▸ Bool.false_ne_true)]

end Rules

theorem evalE_leftCall (lower : CallH) (nd : Node) (w : World) (b : IEnv) (L : List (String × V)) (s : Bool) :
    evalE lower nd w (.call (.att (.att .self "left") "_evaluate__") (.cons (.nm "sources") (.cons (.kw "parent" .self) .nil)))
        { locals := ("sources", .env b) :: L, isFalse := s }
      = (nd.ev .left b.env >>= fun rs => pure (wrapChild b .left rs, s)) :=
  evalE_call_evaluate evalE_att_left (evalE_nm rfl)

theorem exec_seq_assign_nm (lower : CallH) (nd : Node) (w : World) (x : String) (e : PE) (b : St) (fr : Frame) :
    exec lower nd w (.seq (.assign (.nm x) e) b) fr
      = (evalE lower nd w e fr >>= fun p => exec lower nd w b ({ fr with isFalse := p.2 }.set x p.1)) := by
  cases h : evalE lower nd w e fr with
  | error err =>
    show ((evalE lower nd w e fr >>= fun p => _) >>= fun o => _) = _
    rw [h]
    rfl
  | ok p => exact exec_seq_det (exec_assign_nm h)

/-! ### method calls and what `runNode` reads -/

/-- how `callWith` ends: a generator returns the list of what it yielded, unless it `return`s a value -/
def post (o : Out) : R (V × Bool) :=
  match o.ctl with
  | .ret .none => pure (.list o.ys, o.fr.isFalse)
  | .ret v => pure (v, o.fr.isFalse)
  | _ => pure (.list o.ys, o.fr.isFalse)

theorem callWith_find {tbl : Table} {nd : Node} {w : World} {lower : CallH} {name : String} {args : List V} {s : Bool}
    {m : Method} (h : tbl.find nd.cls name = some m) :
    callWith tbl nd w lower name args s
      = (exec lower nd w m.body { locals := bindParams m.params args, isFalse := s } >>= post) := by
  unfold callWith
  simp only [h]
  rfl

/-- the model's reading of a yielded `OperationResult` -/
def convR (nd : Node) (r : IRes) : Env × Val × Bool :=
  (r.b.env,
   match r.b.own.lookup .self with
   | some y => y
   | none => match nd.keyOf .self with
     | some k => (r.b.env.lookup k).getD .none
     | none => .none,
   !r.isFalse)

/-- what `runNode` makes of the yielded results -/
def conv (nd : Node) (x : V) : R (Env × Val × Bool) :=
  match x with
  | .res r =>
    let value := match r.b.own.lookup .self with
      | some y => y
      | none => match nd.keyOf .self with
        | some k => (r.b.env.lookup k).getD .none
        | none => .none
    pure (r.b.env, value, !r.isFalse)
  | _ => .error (.stuck "yielded a non-result")

theorem runNode_eq (tbl : Table) (nd : Node) (w : World) (env : Env) :
    runNode tbl nd w env = (do
      let (v, _) ← callTop tbl nd w "_evaluate__" [.env { env := env }, .none] false
      let xs ← iterV v
      xs.mapM (conv nd)) := by
  rfl

theorem mapM_conv {α} (nd : Node) (f : α → IRes) (xs : List α) :
    (xs.map fun a => V.res (f a)).mapM (conv nd) = pure (xs.map fun a => convR nd (f a)) :=
  List.mapM_map.trans List.mapM_pure

/-- the `OperationResult` a node receives from its child `c` for the child's result `r`: the element of
`wrapChild` (`Model/EqlIR.lean`) -/
def wrapC (c : NodeRef) (src : IEnv) (r : Env × Val × Bool) : IRes :=
  { b := { env := r.1, own := (c, r.2.1) :: src.own }, isFalse := !r.2.2 }

theorem iterV_wrapChild (b : IEnv) (c : NodeRef) (rs : List (Env × Val × Bool)) :
    iterV (wrapChild b c rs) = .ok (rs.map fun a => V.res (wrapC c b a)) := rfl

theorem wrapC_own {c : NodeRef} (hc : c ≠ .self) (src : IEnv) (hsrc : src.own.lookup .self = none)
    (r : Env × Val × Bool) : (wrapC c src r).b.own.lookup .self = none :=
  (lookup_cons_ne hc.symm).trans hsrc

theorem convR_wrapC_flag (nd : Node) (hk : nd.keyOf .self = none) {c : NodeRef} (hc : c ≠ .self) (src : IEnv)
    (hsrc : src.own.lookup .self = none) (r : Env × Val × Bool) (t : Bool) :
    convR nd { b := (wrapC c src r).b, isFalse := t } = (r.1, Val.none, !t) := by
  simp only [convR, wrapC_own hc src hsrc r, hk]
  rfl

theorem convR_wrapC (nd : Node) (hk : nd.keyOf .self = none) {c : NodeRef} (hc : c ≠ .self) (src : IEnv)
    (hsrc : src.own.lookup .self = none) (r : Env × Val × Bool) : convR nd (wrapC c src r) = (r.1, Val.none, r.2.2) :=
  (convR_wrapC_flag nd hk hc src hsrc r _).trans (by rw [Bool.not_not])

theorem mapM_conv_right (nd : Node) (hk : nd.keyOf .self = none) (b : IEnv) (hb : b.own.lookup .self = none)
    (rs : List (Env × Val × Bool)) :
    (rs.map fun c => V.res (wrapC .right b c)).mapM (conv nd)
      = (pure (rs.map fun c => (c.1, Val.none, c.2.2)) : R _) :=
  (mapM_conv nd _ rs).trans (congrArg pure (List.map_congr_left fun c _ => convR_wrapC nd hk (by decide) b hb c))

/-! ### `yield from` and `for` loops -/

theorem exec_yldFrom_eq (lower : CallH) (nd : Node) (w : World) (e : PE) (fr : Frame) :
    exec lower nd w (.yldFrom e) fr = (do
      let (v, s) ← evalE lower nd w e fr
      let xs ← iterV v
      pure { fr := { fr with isFalse := s }, ys := xs, ctl := .next }) := by
  rfl

theorem exec_yldFrom_helper {lower : CallH} {nd : Node} {w : World} {L : List (String × V)} {s0 : Bool} {name : String}
    (hn : name = "evaluate_left" ∨ name = "evaluate_right") {args : PE} {as : List V} {s : Bool}
    (ha : evalE lower nd w args ⟨L, s0⟩ = .ok (.list as, s)) {ζ} {M : R ζ} {ys : ζ → List V} {fl : ζ → Bool}
    (hc : lower name (positional as) s = M >>= fun z => pure (.list (ys z), fl z)) :
    exec lower nd w (.yldFrom (.call (.att .self name) args)) ⟨L, s0⟩
      = M >>= fun z => pure { fr := ⟨L, fl z⟩, ys := ys z, ctl := .next } := by
  rw [exec_yldFrom_eq, evalE_call_helper hn ha, hc, bind_assoc]
  rfl

theorem loopSt_cons {γ} (body : V → Frame → R Out) (x : V) (rest : List V) (fr : Frame) (m : R γ) (nxt : γ → Frame)
    (ys : γ → List V) (h : body x fr = m >>= fun c => pure { fr := nxt c, ys := ys c, ctl := .next }) :
    loopSt (x :: rest) fr body
      = m >>= fun c => loopSt rest (nxt c) body >>= fun o => pure { fr := o.fr, ys := ys c ++ o.ys, ctl := o.ctl } := by
  rw [loopSt, h, bind_assoc]
  rfl

theorem exec_forIn (lower : CallH) (nd : Node) (w : World) (t it : PE) (body : St) (fr : Frame) :
    exec lower nd w (.forIn t it body) fr = (do
      let (itv, s) ← evalE lower nd w it fr
      let items ← iterV itv
      loopSt items { fr with isFalse := s } fun x fr1 => do
        let fr2 ← bindTarget fr1 t x
        exec lower nd w body fr2) := by
  rfl

theorem exec_forIn_ok {lower : CallH} {nd : Node} {w : World} {x : String} {it : PE} {body : St} {fr : Frame} {itv : V}
    {s : Bool} {items : List V} (hit : evalE lower nd w it fr = .ok (itv, s)) (hiter : iterV itv = .ok items) :
    exec lower nd w (.forIn (.nm x) it body) fr
      = loopSt items { fr with isFalse := s } fun a fr1 => exec lower nd w body (fr1.set x a) :=
  (bind_of_ok hit _).trans ((bind_of_ok hiter _).trans rfl)

/-- `flatMapM` in `R` -/
def flatMapR {α β} (xs : List α) (f : α → R (List β)) : R (List β) :=
  match xs with
  | [] => .ok []
  | x :: r => do
    let a ← f x
    let b ← flatMapR r f
    pure (a ++ b)

/-- `flatMapM` in `R` with the `_is_false_` flag threaded from one element to the next -/
def flatMapRF {α γ} (xs : List α) (g : α → Bool → R γ) (ysOf : γ → List V) (flagOf : γ → Bool) (s : Bool) :
    R (List V × Bool) :=
  match xs with
  | [] => .ok ([], s)
  | a :: r => do
    let c ← g a s
    let p ← flatMapRF r g ysOf flagOf (flagOf c)
    pure (ysOf c ++ p.1, p.2)

/-- stated under a continuation `k` because a loop is always followed by `post` or by further statements -/
theorem loopSt_specF {α β γ} (body : V → Frame → R Out) (Inv : Frame → Prop) (g : α → Bool → R γ) (ysOf : γ → List V)
    (flagOf : γ → Bool) (toV : α → V)
    (hbody : ∀ a fr, Inv fr → ∃ nxt : γ → Frame, (∀ c, Inv (nxt c) ∧ (nxt c).isFalse = flagOf c) ∧
      body (toV a) fr = (g a fr.isFalse >>= fun c => pure { fr := nxt c, ys := ysOf c, ctl := .next }))
    (xs : List α) : ∀ (fr : Frame) (k : List V → Ctl → Bool → R β), Inv fr →
      (loopSt (xs.map toV) fr body >>= fun o => k o.ys o.ctl o.fr.isFalse)
        = (flatMapRF xs g ysOf flagOf fr.isFalse >>= fun p => k p.1 .next p.2) := by
  induction xs with
  | nil =>
    intro fr k _
    rfl
  | cons a rest ih =>
    intro fr k hfr
    obtain ⟨nxt, hinv, hb⟩ := hbody a fr hfr
    rw [List.map_cons, loopSt_cons _ _ _ _ _ _ _ hb, flatMapRF]
    simp only [bind_assoc, pure_bind]
    refine bind_congr fun c => ?_
    have h := ih (nxt c) (fun ys c' s => k (ysOf c ++ ys) c' s) (hinv c).1
    rw [(hinv c).2] at h
    exact h

theorem loopSt_spec {α β γ} (body : V → Frame → R Out) (Inv : Frame → Prop) (g : α → R γ) (ysOf : γ → List V)
    (flagOf : γ → Bool) (toV : α → V)
    (hbody : ∀ a fr, Inv fr → ∃ nxt : γ → Frame, (∀ c, Inv (nxt c) ∧ (nxt c).isFalse = flagOf c) ∧
      body (toV a) fr = (g a >>= fun c => pure { fr := nxt c, ys := ysOf c, ctl := .next }))
    (xs : List α) (fr : Frame) (k : List V → Ctl → R β) (hfr : Inv fr) :
    (loopSt (xs.map toV) fr body >>= fun o => k o.ys o.ctl)
      = (flatMapRF xs (fun a _ => g a) ysOf flagOf fr.isFalse >>= fun p => k p.1 .next) :=
  loopSt_specF body Inv (fun a _ => g a) ysOf flagOf toV hbody xs fr (fun ys c _ => k ys c) hfr

/-- the final frame is part of the conclusion because `OR.evaluate_right` goes on after its loop -/
theorem loopSt_det {α} (body : V → Frame → R Out) (Inv : Frame → Prop) (step : α → Frame → Frame) (out : α → List V)
    (toV : α → V)
    (hbody : ∀ a fr, Inv fr → Inv (step a fr) ∧ body (toV a) fr = .ok { fr := step a fr, ys := out a, ctl := .next })
    (xs : List α) : ∀ (fr : Frame), Inv fr →
      loopSt (xs.map toV) fr body = .ok { fr := xs.foldl (fun f a => step a f) fr, ys := xs.flatMap out, ctl := .next } := by
  induction xs with
  | nil =>
    intro fr _
    rfl
  | cons a rest ih =>
    intro fr hfr
    obtain ⟨hinv, hb⟩ := hbody a fr hfr
    rw [List.map_cons, loopSt_cons body _ _ fr (pure ()) (fun _ => step a fr) (fun _ => out a) hb, pure_bind, ih _ hinv]
    rfl

theorem flatMap_single {α β} (f : α → β) (l : List α) : List.flatMap (fun a => [f a]) l = l.map f :=
  List.map_eq_flatMap.symm

theorem exec_forIn_det {α : Type} {lower : CallH} {nd : Node} {w : World} {x : String} {it : PE} {body : St} {fr : Frame}
    (Inv : Frame → Prop) {itv : V} {s : Bool} (hit : evalE lower nd w it fr = .ok (itv, s)) {xs : List α} {toV : α → V}
    (hiter : iterV itv = .ok (xs.map toV)) (hfr : Inv { fr with isFalse := s }) {step : α → Frame → Frame} (out : α → IRes)
    (hbody : ∀ a fr, Inv fr → Inv (step a fr) ∧
      exec lower nd w body (fr.set x (toV a)) = .ok { fr := step a fr, ys := [V.res (out a)], ctl := .next }) :
    exec lower nd w (.forIn (.nm x) it body) fr
      = .ok { fr := xs.foldl (fun f a => step a f) { fr with isFalse := s }, ys := (xs.map out).map V.res, ctl := .next } := by
  rw [exec_forIn_ok hit hiter, loopSt_det _ Inv step (fun a => [V.res (out a)]) toV hbody xs _ hfr, flatMap_single,
    List.map_map]
  rfl

theorem mapM_append_R {α β} (c : α → R β) (xs ys : List α) :
    (xs ++ ys).mapM c = (xs.mapM c >>= fun a => ys.mapM c >>= fun b => pure (a ++ b)) :=
  List.mapM_append

/-- what `runNode` reads off a flag-threading loop followed by further yields `m`: the flags do not matter, only what
each pass yields -/
theorem flatMapRF_conv {α} (nd : Node) (g : α → Bool → R (List IRes × Bool)) (f : α → R (List (Env × Val × Bool)))
    (hg : ∀ a s, (g a s >>= fun c => pure (c.1.map (convR nd))) = f a) (m : R (List V)) (ls : List α) : ∀ s,
    (flatMapRF ls g (fun c => c.1.map V.res) Prod.snd s >>= fun p => m >>= fun rest => (p.1 ++ rest).mapM (conv nd))
      = (flatMapR ls f >>= fun zs => m >>= fun rest => rest.mapM (conv nd) >>= fun ws => pure (zs ++ ws)) := by
  induction ls with
  | nil =>
    intro s
    show (m >>= fun rest => ([] ++ rest).mapM (conv nd)) = (m >>= fun rest => rest.mapM (conv nd) >>= fun ws => pure ([] ++ ws))
    simp only [List.nil_append, bind_pure]
  | cons a rest ih =>
    intro s
    -- `f a` is the pass `g a s` with its yields converted (`hg`), so both sides begin with `g a s`; what follows a pass `c` is
    -- the rest of the loop under the flag `c.2` it left, whichever that is: `ih c.2`, with the converted yields of `c` in front
    simp only [flatMapRF, flatMapR, ← hg a s, bind_assoc, pure_bind, List.append_assoc, mapM_append_R, mapM_conv nd fun r => r]
    refine bind_congr fun c => ?_
    have h := congrArg (fun t => t >>= fun y => (pure (c.1.map (convR nd) ++ y) : R _)) (ih c.2)
    simp only [mapM_append_R, bind_assoc, pure_bind] at h
    exact h

/-! ### `liftE`, `addVal`, `dropVal` -/

theorem liftE_bind {α β} (x : Except Err α) (k : α → Except Err β) :
    liftE (x >>= k) = liftE x >>= fun a => liftE (k a) := by
  cases x
  · rfl
  · rfl

theorem dropVal_append (a b : List (Env × Val × Bool)) : dropVal (a ++ b) = dropVal a ++ dropVal b :=
  List.map_append

/-- `runIR` pads the results of a child with a `None` value, the node passes the padded results on, `runIR` strips
the value again: nothing is left of it -/
theorem dropVal_addVal (rs : List (Env × Bool)) : dropVal ((addVal rs).map fun c => (c.1, Val.none, c.2.2)) = rs := by
  simp only [dropVal, addVal, List.map_map, Function.comp_def, List.map_id']

theorem append_liftE {m m' : R (List (Env × Val × Bool))} {x y : Except Err (List (Env × Bool))}
    (hm : (m >>= fun a => pure (dropVal a)) = liftE x) (hm' : (m' >>= fun b => pure (dropVal b)) = liftE y) :
    ((m >>= fun a => m' >>= fun b => pure (a ++ b)) >>= fun rs => pure (dropVal rs))
      = liftE (x >>= fun a => y >>= fun b => pure (a ++ b)) := by
  simp only [liftE_bind, ← hm, ← hm', bind_assoc, pure_bind, dropVal_append]
  rfl

theorem flatMapR_liftE (f : Env × Bool → Except Err (List (Env × Bool)))
    (f' : Env × Val × Bool → R (List (Env × Val × Bool))) (ls : List (Env × Bool))
    (h : ∀ p ∈ ls, (f' (p.1, Val.none, p.2) >>= fun rs => pure (dropVal rs)) = liftE (f p)) :
    (flatMapR (addVal ls) f' >>= fun rs => pure (dropVal rs)) = liftE (flatMapM ls f) := by
  induction ls with
  | nil => rfl
  | cons p rest ih =>
    exact append_liftE (h p (List.mem_cons_self ..)) (ih fun q hq => h q (List.mem_cons_of_mem _ hq))

theorem child_liftE (G : R (List (Env × Bool))) (F : Except Err (List (Env × Bool))) (h : G = liftE F) :
    (((G >>= fun x => pure (addVal x)) >>= fun rs => pure (rs.map fun c => (c.1, Val.none, c.2.2))) >>= fun rs =>
      pure (dropVal rs)) = liftE F := by
  rw [h]
  cases F with
  | error e => rfl
  | ok rs => exact congrArg Except.ok (dropVal_addVal rs)

/-! ### the methods of `Not` and `AND` -/

/-- `self._eval_parent_ = parent; sources = sources or {}`, the first two statements of every `_evaluate__` -/
abbrev withPrologue (rest : St) : St :=
  .seq (.assign (.att .self "_eval_parent_") (.nm "parent")) (.seq (.assign (.nm "sources") (.bin "or" (.nm "sources") (.dict .nil))) rest)

/-- `self._is_false_ = v0.is_true; yield OperationResult(v0.bindings, self._is_false_, self)` -/
abbrev notLoopBody : St :=
  .seq (.assign (.att .self "_is_false_") (.att (.nm "v0") "is_true")) (yieldCopy "v0")

/-- `self._is_false_ = v1.is_false; yield OperationResult(v1.bindings, self._is_false_, self)` -/
abbrev copyBody : St :=
  .seq (.assign (.att .self "_is_false_") (.att (.nm "v1") "is_false")) (yieldCopy "v1")

/-- `self._is_false_ = v1.is_false`, then `yield OperationResult(v1.bindings, self._is_false_, self)` if it is set, else
`yield from self.evaluate_right(v1)` -/
abbrev andBody : St :=
  .seq (.assign (.att .self "_is_false_") (.att (.nm "v1") "is_false"))
    (.ifte (.att .self "_is_false_") (yieldCopy "v1") (.yldFrom (.call (.att .self "evaluate_right") (.cons (.nm "v1") .nil))))

/-! The rows of `irTable` for the connectives, written with the abbreviations above; `find_*` below check, by evaluating
the lookup in the fixed table, that the table dispatches to exactly these. -/

def mNot : Method :=
  { cls := "Not", name := "_evaluate__", kind := "def", params := ["sources", "parent"],
    body := withPrologue (.forIn (.nm "v0") (evalChild "_child_" (.nm "sources")) notLoopBody) }

def mAnd : Method :=
  { cls := "AND", name := "_evaluate__", kind := "def", params := ["sources", "parent"],
    body := withPrologue (.seq (.assign (.nm "v0") (evalChild "left" (.nm "sources"))) (.forIn (.nm "v1") (.nm "v0") andBody)) }

def mAndRight : Method :=
  { cls := "AND", name := "evaluate_right", kind := "def", params := ["left_value"],
    body := .seq (.assign (.nm "v0") (evalChild "right" (.att (.nm "left_value") "bindings")))
      (.forIn (.nm "v1") (.nm "v0") copyBody) }

theorem find_mNot : irTable.find "Not" "_evaluate__" = some mNot := by rfl
theorem find_mAnd : irTable.find "AND" "_evaluate__" = some mAnd := by rfl
theorem find_mAndRight : irTable.find "AND" "evaluate_right" = some mAndRight := by rfl

/-! ### entering `_evaluate__` -/

/-- the locals with which the body of `_evaluate__(sources, parent)` starts -/
def L0 (env : Env) : List (String × V) := [("sources", .env { env := env }), ("parent", .none)]

theorem L0_sources (env : Env) : (L0 env).lookup "sources" = some (.env { env := env }) := rfl

/-- no local shadows the class `OperationResult`; every loop body keeps it so -/
def Frame.Clean (fr : Frame) : Prop := fr.locals.lookup "OperationResult" = none

theorem L0_clean (env : Env) (s : Bool) : Frame.Clean ⟨L0 env, s⟩ := rfl

theorem Frame.Clean.set {fr : Frame} (h : fr.Clean) {x : String} (hx : "OperationResult" ≠ x) (v : V) (s : Bool) :
    Frame.Clean { fr.set x v with isFalse := s } :=
  (Frame.lookup_set_ne hx fr v).trans h

/-- `sources or {}` takes the `{}` branch exactly when `env = []`, and then `{}` is `sources` -/
theorem prologue (lower : CallH) (nd : Node) (w : World) (env : Env) (rest : St) :
    exec lower nd w (.seq (.assign (.att .self "_eval_parent_") (.nm "parent")) (.seq (.assign (.nm "sources") (.bin "or" (.nm "sources") (.dict .nil))) rest))
        { locals := [("sources", .env { env := env }), ("parent", .none)], isFalse := false }
      = exec lower nd w rest { locals := [("sources", .env { env := env }), ("parent", .none)], isFalse := false } := by
  have hsrc : exec lower nd w (.assign (.nm "sources") (.bin "or" (.nm "sources") (.dict .nil))) ⟨L0 env, false⟩
      = .ok { fr := ⟨L0 env, false⟩, ys := [], ctl := .next } := by
    cases env
    · rfl
    · rfl
  exact (exec_seq_det (fr1 := ⟨L0 env, false⟩) (by rfl)).trans (exec_seq_det hsrc)

/-- the helper calls that `callTop` lets `_evaluate__` make: three further levels of `callWith` (`callTop` is `callWith`
over this, the `_evaluate__` call itself being the fourth) -/
abbrev helpers (nd : Node) (w : World) : CallH := callWith irTable nd w (callWith irTable nd w (callWith irTable nd w call0))

theorem runNode_evaluate (nd : Node) {m : Method} (hfind : irTable.find nd.cls "_evaluate__" = some m)
    (hp : m.params = ["sources", "parent"]) {rest : St} (hb : m.body = withPrologue rest) (w : World) (env : Env) :
    runNode irTable nd w env
      = (exec (helpers nd w) nd w rest ⟨L0 env, false⟩
          >>= post >>= fun p => iterV p.1 >>= fun xs => xs.mapM (conv nd)) := by
  rw [runNode_eq, callTop, callWith_find hfind, hp, hb, bindParams, bindParams, bindParams, prologue]
  rfl

/-! ### Not -/

theorem flagCopy_body {lower : CallH} {nd : Node} {w : World} {fr : Frame} (hfr : fr.Clean) {x : String}
    (hx : "OperationResult" ≠ x) (r : IRes) {e : PE} {t : Bool}
    (he : evalE lower nd w e (fr.set x (V.res r)) = .ok (.bool t, fr.isFalse)) :
    exec lower nd w (.seq (.assign (.att .self "_is_false_") e) (yieldCopy x)) (fr.set x (V.res r))
      = .ok { fr := { fr.set x (V.res r) with isFalse := t }, ys := [V.res { b := r.b, isFalse := t }], ctl := .next } :=
  exec_seq_ok (exec_assign_isFalse he) (exec_yieldCopy (hfr.set hx _ t) (fr.lookup_set_self x _))

theorem runNode_not (nd : Node) (hcls : nd.cls = "Not") (hk : nd.keyOf .self = none) (w : World) (env : Env) :
    runNode irTable nd w env = (nd.ev .child env >>= fun rs => pure (rs.map fun a => (a.1, Val.none, !a.2.2))) := by
  rw [runNode_evaluate nd (hcls ▸ find_mNot) rfl rfl]
  have hit := evalE_call_evaluate (lower := helpers nd w) (nd := nd) (w := w) (s0 := false) evalE_att_child
    (evalE_nm (L0_sources env))
  cases hF : nd.ev .child env with
  | error e =>
    rw [exec_forIn, hit, hF]
    rfl
  | ok rs =>
    rw [hF] at hit
    rw [exec_forIn_det (body := notLoopBody) Frame.Clean hit (iterV_wrapChild _ _ rs) (L0_clean env _)
      (fun a => { b := (wrapC .child { env := env } a).b, isFalse := !(wrapC .child { env := env } a).isFalse })
      (fun a fr hfr => ⟨hfr.set (x := "v0") (by decide) _ _,
        flagCopy_body hfr (by decide) _ (evalE_att_is_true (evalE_nm (fr.lookup_set_self "v0" _)))⟩)]
    show ((rs.map _).map V.res).mapM (conv nd) = _
    rw [mapM_conv, List.map_map]
    refine congrArg pure (List.map_congr_left fun a _ => ?_)
    exact (convR_wrapC_flag nd hk (by decide) _ rfl a _).trans (by rw [wrapC, Bool.not_not])

theorem C01_runIR_eq_eval_not_partial (w : World) (e : Expr) (env : Env)
    (ih : runIR irTable w e env = liftE (eval w e env)) :
    runIR irTable w (.not e) env = liftE (eval w (.not e) env) := by
  rw [runIR, runNode_not _ rfl rfl]
  simp only [ih, eval]
  cases eval w e env with
  | error err => rfl
  | ok rs => exact congrArg Except.ok (by simp only [dropVal, addVal, List.map_map, Function.comp_def])

/-! ### AND -/

/-- the flag a loop of flag-copying passes leaves behind: that of the last result, or the incoming one -/
def flagAfter (s : Bool) (rs : List (Env × Val × Bool)) : Bool := rs.foldl (fun _ a => !a.2.2) s

theorem and_right_call (nd : Node) (hfind : irTable.find nd.cls "evaluate_right" = some mAndRight) (w : World)
    (lower : CallH) (r : IRes) (s0 : Bool) :
    callWith irTable nd w lower "evaluate_right" [V.res r] s0
      = (nd.ev .right r.b.env >>= fun rs =>
          pure (V.list ((rs.map (wrapC .right r.b)).map V.res), flagAfter s0 rs)) := by
  rw [callWith_find hfind]
  simp only [mAndRight, bindParams]
  rw [exec_seq_assign_nm, evalE_call_evaluate evalE_att_right (evalE_att_bindings (evalE_nm (v := V.res r) rfl))]
  cases nd.ev .right r.b.env with
  | error e => rfl
  | ok rs =>
    show (exec lower nd w _ _ >>= post) = _
    rw [exec_forIn_det (lower := lower) (nd := nd) (w := w) (body := copyBody)
      (fr := Frame.set ⟨[("left_value", V.res r)], s0⟩ "v0" (wrapChild r.b .right rs)) Frame.Clean
      (evalE_nm (Frame.lookup_set_self _ _ _)) (iterV_wrapChild _ _ rs)
      (Frame.Clean.set (fr := ⟨[("left_value", V.res r)], s0⟩) rfl (by decide) _ _) (wrapC .right r.b)
      (fun a fr hfr => ⟨hfr.set (x := "v1") (by decide) _ _,
        flagCopy_body hfr (by decide) _ (evalE_att_is_false (evalE_nm (fr.lookup_set_self "v1" _)))⟩)]
    -- the call returns the flag of the frame the loop ends in; a pass sets the flag to `!a.2.2` whatever the frame was
    show Except.ok (V.list _, Frame.isFalse (rs.foldl _ _)) = _
    rw [foldl_proj Frame.isFalse _ (fun _ a => !a.2.2) (fun _ _ => rfl)]
    rfl

/-- one pass of the loop over the left results in `AND._evaluate__` (`k = true`) and `OR.evaluate_left` (`k = false`),
entered with the flag `s`: `(yielded, flag left behind)`. A left result whose truth value is `k` is handed to
`evaluate_right` (`AND` has just cleared the flag, `OR` passes it on as it stands), any other is copied with the flag `k`. -/
def seqG (k : Bool) (nd : Node) (src : IEnv) (a : Env × Val × Bool) (s : Bool) : R (List IRes × Bool) :=
  if a.2.2 = k then
    nd.ev .right a.1 >>= fun rs => pure (rs.map (wrapC .right (wrapC .left src a).b), flagAfter (!k && s) rs)
  else pure ([{ b := (wrapC .left src a).b, isFalse := k }], k)

theorem and_body {nd : Node} (hfind : irTable.find nd.cls "evaluate_right" = some mAndRight) {w : World}
    (lower : CallH) {fr : Frame} (hfr : fr.Clean) (src : IEnv) (a : Env × Val × Bool) :
    exec (callWith irTable nd w lower) nd w andBody (fr.set "v1" (V.res (wrapC .left src a)))
      = (seqG true nd src a fr.isFalse >>= fun c => pure
          { fr := { fr.set "v1" (V.res (wrapC .left src a)) with isFalse := c.2 }, ys := c.1.map V.res, ctl := .next }) := by
  have hv := fr.lookup_set_self "v1" (V.res (wrapC .left src a))
  obtain ⟨e1, v1, t⟩ := a
  cases t with
  | false =>
    exact exec_seq_ok (exec_assign_isFalse (evalE_att_is_false (evalE_nm hv)))
      ((exec_ifte_true evalE_att_isFalse rfl).trans (exec_yieldCopy (hfr.set (by decide) _ _) hv))
  | true =>
    refine (exec_seq_det (exec_assign_isFalse (evalE_att_is_false (evalE_nm hv)))).trans ?_
    refine (exec_ifte_false evalE_att_isFalse rfl).trans ?_
    refine (exec_yldFrom_helper (.inr rfl) (evalE_cons (evalE_nm hv) evalE_nil) (and_right_call nd hfind w lower _ _)).trans ?_
    simp only [seqG, if_true, bind_assoc, pure_bind]
    rfl

theorem seqG_conv (k : Bool) (nd : Node) (hk : nd.keyOf .self = none) (src : IEnv) (hsrc : src.own.lookup .self = none)
    (a : Env × Val × Bool) (s : Bool) :
    (seqG k nd src a s >>= fun c => pure (c.1.map (convR nd)))
      = if a.2.2 = k then (nd.ev .right a.1 >>= fun rs => pure (rs.map fun c => (c.1, Val.none, c.2.2)))
        else pure [(a.1, Val.none, !k)] := by
  have hl := wrapC_own (c := .left) (by decide) src hsrc a
  unfold seqG
  split
  · simp only [bind_assoc, pure_bind, List.map_map, Function.comp_def, convR_wrapC nd hk (c := .right) (by decide) _ hl]
  · simp only [pure_bind, List.map_cons, List.map_nil, convR_wrapC_flag nd hk (c := .left) (by decide) src hsrc]

/-- `v0 = self.left._evaluate__(<src>, parent=self); for v1 in v0: <body>`, the loop of `AND._evaluate__` (`k = true`)
and of `OR.evaluate_left` (`k = false`): a pass of `body` is `seqG k` -/
theorem exec_leftLoop {lower : CallH} {nd : Node} {w : World} {L : List (String × V)} {s0 : Bool} {src : PE} {b : IEnv}
    (hsrc : evalE lower nd w src ⟨L, s0⟩ = .ok (.env b, s0)) (hL : Frame.Clean ⟨L, s0⟩) (k : Bool) {body : St}
    (hbody : ∀ fr : Frame, fr.Clean → ∀ a, ∃ nxt : List IRes × Bool → Frame, (∀ c, (nxt c).Clean ∧ (nxt c).isFalse = c.2) ∧
      exec lower nd w body (fr.set "v1" (V.res (wrapC .left b a)))
        = seqG k nd b a fr.isFalse >>= fun c => pure { fr := nxt c, ys := c.1.map V.res, ctl := .next })
    {β} (K : List V → Ctl → Bool → R β) :
    (exec lower nd w (.seq (.assign (.nm "v0") (evalChild "left" src)) (.forIn (.nm "v1") (.nm "v0") body)) ⟨L, s0⟩
        >>= fun o => K o.ys o.ctl o.fr.isFalse)
      = nd.ev .left b.env >>= fun ls =>
          flatMapRF ls (seqG k nd b) (fun c => c.1.map V.res) Prod.snd s0 >>= fun p => K p.1 .next p.2 := by
  rw [exec_seq_assign_nm, evalE_call_evaluate evalE_att_left hsrc]
  simp only [bind_assoc, pure_bind]
  refine bind_congr fun ls => ?_
  rw [exec_forIn_ok (evalE_nm (Frame.lookup_set_self _ _ _)) (iterV_wrapChild _ _ ls)]
  exact loopSt_specF _ Frame.Clean (seqG k nd b) _ Prod.snd (fun a => V.res (wrapC .left b a))
    (fun a fr hfr => hbody fr hfr a) ls _ K (hL.set (by decide) _ _)

theorem runNode_and (nd : Node) (hcls : nd.cls = "AND") (hk : nd.keyOf .self = none) (w : World) (env : Env) :
    runNode irTable nd w env = (nd.ev .left env >>= fun ls => flatMapR ls fun a =>
      if a.2.2 then (nd.ev .right a.1 >>= fun rs => pure (rs.map fun c => (c.1, Val.none, c.2.2)))
      else pure [(a.1, Val.none, false)]) := by
  rw [runNode_evaluate nd (hcls ▸ find_mAnd) rfl rfl, bind_assoc]
  -- of the frame the loop ends in, `post` reads the flag only: the continuation makes a frame of `s`
  refine (exec_leftLoop (evalE_nm (L0_sources env)) (L0_clean env _) true
    (fun fr hfr a => ⟨_, fun c => ⟨hfr.set (x := "v1") (by decide) _ c.2, rfl⟩, and_body (hcls ▸ find_mAndRight) _ hfr _ a⟩)
    fun ys c s => post { fr := ⟨[], s⟩, ys := ys, ctl := c } >>= fun p => iterV p.1 >>= fun xs => xs.mapM (conv nd)).trans ?_
  refine bind_congr fun ls => ?_
  have h := flatMapRF_conv nd (seqG true nd { env := env }) _ (seqG_conv true nd hk { env := env } rfl) (pure []) ls false
  simp only [pure_bind, List.append_nil, List.mapM_nil, bind_pure] at h
  exact h

theorem C01_runIR_eq_eval_and_partial (w : World) (l r : Expr) (env : Env)
    (ihl : runIR irTable w l env = liftE (eval w l env))
    (ihr : ∀ ls, eval w l env = .ok ls → ∀ p ∈ ls, p.2 = true → runIR irTable w r p.1 = liftE (eval w r p.1)) :
    runIR irTable w (.and l r) env = liftE (eval w (.and l r) env) := by
  rw [runIR, runNode_and _ rfl rfl]
  simp only [ihl, eval]
  cases hl : eval w l env with
  | error err => rfl
  | ok ls =>
    refine flatMapR_liftE _ _ ls fun p hp => ?_
    obtain ⟨e, t⟩ := p
    cases t with
    | false => rfl
    | true => exact child_liftE _ _ (ihr ls hl _ hp rfl)

/-! ### non-vacuity -/

example : ∃ nd : Node, nd.cls = "Not" ∧ nd.keyOf .self = none := ⟨{ cls := "Not" }, rfl, rfl⟩
example : ∃ nd : Node, nd.cls = "AND" ∧ nd.keyOf .self = none := ⟨{ cls := "AND" }, rfl, rfl⟩

def w0 : World := { objs := [], doms := [(0, [.bool true, .bool false])] }

/-- a leaf on which the kernel checks the agreement by evaluation (`Variable._evaluate__` as a condition) -/
theorem leaf0 : runIR irTable w0 (.truth (.var 0)) [] = liftE (eval w0 (.truth (.var 0)) []) := by rfl

example : runIR irTable w0 (.not (.truth (.var 0))) [] = liftE (eval w0 (.not (.truth (.var 0))) []) :=
  C01_runIR_eq_eval_not_partial w0 _ _ leaf0

end KrroodVerif.Eql.IR
