import KrroodVerif.Model.Descriptor
import KrroodVerif.Lemmas.ListBasics
/-!
# C15 — Property-descriptor inference reaches the full closure in any assertion order

The closure argument is made once, for `addGen` over any list of candidate generators that cover the unary rules
and both transitive joins, in a finite rule-closed universe; `addFact` is `addGen` of three generators, and the schema
rules (`uRule`) live in the universe `allFacts`. The executable specification `closure` computes `Derivable`. The
backing fields are tied to the graph by two invariants of `step`: `FieldsSound` (what the fields hold is in the graph)
and `FieldsComplete` (what the graph holds shows in the fields), which together give `FieldsAgree`.
-/
namespace KrroodVerif.PD

/-- every rule instance whose premises are in `new` and at least one of which is not in `old`
    has its conclusion in `new` -/
def ClosedRel (R : Rules) (old new : List Fact) : Prop :=
  (∀ p ∈ new, p ∉ old → ∀ q ∈ R.u p, q ∈ new) ∧
  (∀ f a b c, R.tr f = true → (f, a, b) ∈ new → (f, b, c) ∈ new →
      ((f, a, b) ∉ old ∨ (f, b, c) ∉ old) → (f, a, c) ∈ new)

def Closed (R : Rules) (g : List Fact) : Prop := ClosedRel R [] g

theorem closed_of_closedRel_nil {R : Rules} {g : List Fact} (h : ClosedRel R [] g) : Closed R g := h

theorem ClosedRel.unary_of {R : Rules} {old new : List Fact} (h : ClosedRel R old new) {p q : Fact} (hp : p ∈ new)
    (hq : q ∈ R.u p) (hold : p ∈ old → q ∈ new) : q ∈ new := by
  by_cases hpo : p ∈ old
  · exact hold hpo
  · exact h.1 p hp hpo q hq

theorem ClosedRel.trans_of {R : Rules} {old new : List Fact} (h : ClosedRel R old new) {f a b c : Nat}
    (htr : R.tr f = true) (h1 : (f, a, b) ∈ new) (h2 : (f, b, c) ∈ new)
    (hold : (f, a, b) ∈ old → (f, b, c) ∈ old → (f, a, c) ∈ new) : (f, a, c) ∈ new := by
  by_cases hx : (f, a, b) ∈ old
  · by_cases hy : (f, b, c) ∈ old
    · exact hold hx hy
    · exact h.2 f a b c htr h1 h2 (Or.inr hy)
  · exact h.2 f a b c htr h1 h2 (Or.inl hx)

theorem ClosedRel.comp {R : Rules} {a b c : List Fact} (h1 : ClosedRel R a b) (h2 : ClosedRel R b c)
    (hbc : ∀ x ∈ b, x ∈ c) : ClosedRel R a c :=
  ⟨fun p hp hpa q hq => h2.unary_of hp hq fun hpb => hbc _ (h1.1 p hpb hpa q hq),
   fun f x y z htr hx hy hnew => h2.trans_of htr hx hy fun hxb hyb => hbc _ (h1.2 f x y z htr hxb hyb hnew)⟩

theorem ClosedRel.refl (R : Rules) (a : List Fact) : ClosedRel R a a :=
  ⟨fun _ hp hpa => absurd hp hpa, fun _ _ _ _ _ h1 h2 hnew => hnew.elim (absurd h1) (absurd h2)⟩

structure UClosed (R : Rules) (U : List Fact) : Prop where
  unary : ∀ p ∈ U, ∀ q ∈ R.u p, q ∈ U
  trans : ∀ f a b c, (f, a, b) ∈ U → (f, b, c) ∈ U → (f, a, c) ∈ U

/-- what the closure argument needs of a universe; `UClosed` (the hypothesis of the property theorems) asks more:
closure under joins on every field, transitive or not -/
structure RuleClosed (R : Rules) (C : Fact → Prop) : Prop where
  unary : ∀ p q, C p → q ∈ R.u p → C q
  trans : ∀ f a b c, R.tr f = true → C (f, a, b) → C (f, b, c) → C (f, a, c)

theorem RuleClosed.join {R : Rules} {C : Fact → Prop} (hC : RuleClosed R C) {p q : Fact} (htr : R.tr p.1 = true)
    (hp : C p) (hq : C q) (h1 : q.1 = p.1) (h2 : q.2.1 = p.2.2) : C (p.1, p.2.1, q.2.2) := by
  obtain ⟨f, a, b⟩ := p
  obtain ⟨f', b', c⟩ := q
  dsimp only at h1 h2
  subst h1 h2
  exact hC.trans _ a _ c htr hp hq

theorem Derivable.ruleClosed (R : Rules) (A : Fact → Prop) : RuleClosed R (Derivable R A) :=
  ⟨fun _ _ => Derivable.unary, fun _ _ _ _ => Derivable.trans⟩

theorem Derivable.least {R : Rules} {A C : Fact → Prop} (hC : RuleClosed R C) (hA : ∀ x, A x → C x) {x : Fact}
    (hx : Derivable R A x) : C x := by
  induction hx with
  | base h => exact hA _ h
  | unary _ hq ih => exact hC.unary _ _ ih hq
  | trans htr _ _ ih1 ih2 => exact hC.trans _ _ _ _ htr ih1 ih2

theorem Derivable.congr {R : Rules} {A B : Fact → Prop} (h : ∀ y, A y ↔ B y) (x : Fact) :
    Derivable R A x ↔ Derivable R B x :=
  ⟨Derivable.least (Derivable.ruleClosed R B) fun y hy => Derivable.base ((h y).mp hy),
   Derivable.least (Derivable.ruleClosed R A) fun y hy => Derivable.base ((h y).mpr hy)⟩

theorem UClosed.ruleClosed {R : Rules} {U : List Fact} (hU : UClosed R U) : RuleClosed R (· ∈ U) :=
  ⟨fun p q hp hq => hU.unary p hp q hq, fun f a b c _ => hU.trans f a b c⟩

theorem Closed.ruleClosed {R : Rules} {g : List Fact} (h : Closed R g) : RuleClosed R (· ∈ g) :=
  ⟨fun p q hp hq => h.1 p hp List.not_mem_nil q hq,
   fun f a b c htr h1 h2 => h.2 f a b c htr h1 h2 (Or.inl List.not_mem_nil)⟩

/-- the termination measure: every insertion of a new fact of the universe lowers it, and the fuel bounds it -/
def missing (U g : List Fact) : Nat := (U.filter fun x => !g.contains x).length

theorem missing_mono {U g g' : List Fact} (h : ∀ x ∈ g, x ∈ g') : missing U g' ≤ missing U g := by
  unfold missing
  rw [← List.countP_eq_length_filter, ← List.countP_eq_length_filter]
  apply List.countP_mono_left
  intro x _ hx
  simp only [Bool.not_eq_true', List.contains_eq_mem, decide_eq_false_iff_not] at hx ⊢
  exact fun hh => hx (h x hh)

theorem missing_lt {U g g' : List Fact} (h : ∀ x ∈ g, x ∈ g') {y : Fact} (hy : y ∈ U) (hyg : y ∉ g) (hyg' : y ∈ g') :
    missing U g' < missing U g :=
  unseen_length_lt h hy hyg hyg'

theorem missing_le (U g : List Fact) : missing U g ≤ U.length := by
  unfold missing
  exact List.length_filter_le _ _

/-- what inserting the facts `ts` into the graph `g` has to achieve: `g'` holds `g` and `ts`, lies inside every
rule-closed predicate that holds of them, and applies every rule instance that has a premise outside `g` -/
structure Post (R : Rules) (g ts g' : List Fact) : Prop where
  sub : ∀ x ∈ g, x ∈ g'
  mem : ∀ t ∈ ts, t ∈ g'
  least : ∀ C : Fact → Prop, RuleClosed R C → (∀ x ∈ g, C x) → (∀ t ∈ ts, C t) → ∀ x ∈ g', C x
  clo : ClosedRel R g g'

theorem Post.nil (R : Rules) (g : List Fact) : Post R g [] g :=
  ⟨fun _ h => h, nofun, fun _ _ h _ => h, ClosedRel.refl R g⟩

theorem Post.trans {R : Rules} {g ts g1 ts' g2 : List Fact} (p1 : Post R g ts g1) (p2 : Post R g1 ts' g2) :
    Post R g (ts ++ ts') g2 := by
  refine ⟨fun x hx => p2.sub x (p1.sub x hx), List.forall_mem_append.mpr ⟨fun t ht => p2.sub t (p1.mem t ht), p2.mem⟩,
    ?_, ClosedRel.comp p1.clo p2.clo p2.sub⟩
  intro C hC hg hts
  obtain ⟨h1, h2⟩ := List.forall_mem_append.mp hts
  exact p2.least C hC (p1.least C hC hg h1) h2

theorem Post.mem_iff {R : Rules} {hist g' : List Fact} (p : Post R [] hist g') (x : Fact) :
    x ∈ g' ↔ Derivable R (fun y => y ∈ hist) x :=
  ⟨p.least _ (Derivable.ruleClosed R _) nofun (fun _ ht => Derivable.base ht) x,
   Derivable.least (closed_of_closedRel_nil p.clo).ruleClosed p.mem⟩

/-! ### The closure argument for a list of generators -/

abbrev Gen := List Fact → Fact → List Fact

/-- `add_to_graph` with the derivation sites abstracted to generators (each reads the graph when it is reached) -/
def addGen (gens : List Gen) : Nat → List Fact → Fact → List Fact
  | 0, g, _ => g
  | n+1, g, r =>
    if r ∈ g then g else
    gens.foldl (fun h γ => (γ h r).foldl (fun h' t => addGen gens n h' t) h) (r :: g)

def runGen (gens : List Gen) (fuel : Nat) (hist : List Fact) : List Fact :=
  hist.foldl (fun g r => addGen gens fuel g r) []

/-- every relation a generator proposes for the new relation `r` on graph `h` is a one-step consequence -/
def Gen.Sound (R : Rules) (γ : Gen) : Prop :=
  ∀ h r t, t ∈ γ h r → t ∈ R.u r ∨
    (R.tr r.1 = true ∧ ∃ q ∈ h, q.1 = r.1 ∧ q.2.1 = r.2.2 ∧ t = (r.1, r.2.1, q.2.2)) ∨
    (R.tr r.1 = true ∧ ∃ q ∈ h, q.1 = r.1 ∧ q.2.2 = r.2.1 ∧ t = (r.1, q.2.1, r.2.2))

/-- each join has ONE generator that proposes all its conclusions: the argument needs them proposed on a single
graph, the one that generator saw, which already held the other premise -/
structure GensOk (R : Rules) (gens : List Gen) : Prop where
  sound : ∀ γ ∈ gens, Gen.Sound R γ
  unary : ∀ r q, q ∈ R.u r → ∃ γ ∈ gens, ∀ h, q ∈ γ h r
  tout : ∃ γ ∈ gens, ∀ h r q, R.tr r.1 = true → q ∈ h → q.1 = r.1 → q.2.1 = r.2.2 → (r.1, r.2.1, q.2.2) ∈ γ h r
  tin : ∃ γ ∈ gens, ∀ h r q, R.tr r.1 = true → q ∈ h → q.1 = r.1 → q.2.2 = r.2.1 → (r.1, q.2.1, r.2.2) ∈ γ h r

theorem Gen.Sound.closed {R : Rules} {γ : Gen} (hγ : Gen.Sound R γ) {C : Fact → Prop} (hC : RuleClosed R C)
    {h : List Fact} {r : Fact} (hh : ∀ x ∈ h, C x) (hr : C r) : ∀ t ∈ γ h r, C t := by
  intro t ht
  rcases hγ h r t ht with hu | ⟨htr, q, hq, h1, h2, rfl⟩ | ⟨htr, q, hq, h1, h2, rfl⟩
  · exact hC.unary r t hr hu
  · exact hC.join htr hr (hh q hq) h1 h2
  · rw [← h1] at htr ⊢
    exact hC.join htr (hh q hq) hr h1.symm h2.symm

theorem foldl_post (R : Rules) (U : List Fact) (hU : RuleClosed R (· ∈ U)) (n : Nat) (add : List Fact → Fact → List Fact)
    (step : ∀ g r, (∀ x ∈ g, x ∈ U) → r ∈ U → missing U g < n → Post R g [r] (add g r)) :
    ∀ ts g, (∀ x ∈ g, x ∈ U) → (∀ t ∈ ts, t ∈ U) → missing U g < n →
      Post R g ts (ts.foldl (fun h t => add h t) g) := by
  intro ts
  induction ts with
  | nil =>
    intro g _ _ _
    exact Post.nil R g
  | cons t ts ih =>
    intro g hg hts hm
    have htU : t ∈ U := hts t List.mem_cons_self
    have p1 := step g t hg htU hm
    exact p1.trans (ih (add g t) (p1.least _ hU hg (List.forall_mem_singleton.mpr htU))
      (fun x hx => hts x (List.mem_cons_of_mem _ hx)) (Nat.lt_of_le_of_lt (missing_mono p1.sub) hm))

/-- `h0` is the graph on which the generator `γ` was consulted -/
theorem gens_foldl_post (R : Rules) (U : List Fact) (hU : RuleClosed R (· ∈ U)) (n : Nat) (r : Fact)
    (add : List Fact → Fact → List Fact)
    (step : ∀ g r, (∀ x ∈ g, x ∈ U) → r ∈ U → missing U g < n → Post R g [r] (add g r)) :
    ∀ (gs : List Gen), (∀ γ ∈ gs, Gen.Sound R γ) → ∀ h, r ∈ h → (∀ x ∈ h, x ∈ U) → missing U h < n →
      Post R h [] (gs.foldl (fun h γ => (γ h r).foldl (fun h' t => add h' t) h) h) ∧
      ∀ γ ∈ gs, ∃ h0, (∀ x ∈ h, x ∈ h0) ∧
        ∀ t ∈ γ h0 r, t ∈ gs.foldl (fun h γ => (γ h r).foldl (fun h' t => add h' t) h) h := by
  intro gs
  induction gs with
  | nil =>
    intro _ h _ _ _
    exact ⟨Post.nil R h, fun _ hγ => nomatch hγ⟩
  | cons γ gs ih =>
    intro hs h hr hhU hm
    simp only [List.foldl_cons]
    have hγ : ∀ C : Fact → Prop, RuleClosed R C → (∀ x ∈ h, C x) → ∀ t ∈ γ h r, C t :=
      fun C hC hh => (hs γ List.mem_cons_self).closed hC hh (hh r hr)
    have p1 := foldl_post R U hU n add step (γ h r) h hhU (hγ _ hU hhU) hm
    generalize (γ h r).foldl (fun h' t => add h' t) h = h1 at p1
    obtain ⟨p2, cov2⟩ := ih (fun γ' hγ' => hs γ' (List.mem_cons_of_mem _ hγ')) h1 (p1.sub r hr)
      (p1.least _ hU hhU (hγ _ hU hhU)) (Nat.lt_of_le_of_lt (missing_mono p1.sub) hm)
    -- the proposals follow from the graph they were read off, so they need not be listed
    have p1' : Post R h [] h1 := ⟨p1.sub, nofun, fun C hC hg _ => p1.least C hC hg (hγ C hC hg), p1.clo⟩
    refine ⟨p1'.trans p2, ?_⟩
    intro γ' hγ'
    rcases List.mem_cons.mp hγ' with rfl | hγ'
    · exact ⟨h, fun _ hx => hx, fun t ht => p2.sub t (p1.mem t ht)⟩
    · obtain ⟨h0, hsub, hcov⟩ := cov2 γ' hγ'
      exact ⟨h0, fun x hx => hsub x (p1.sub x hx), hcov⟩

/-- the insertion-time argument: a new relation `r` is inserted, then every generator's proposals are; afterwards
every rule instance with `r` as a premise has been applied, because some generator proposed its conclusion on a graph
that already held the other premise -/
theorem addGen_spec (R : Rules) (gens : List Gen) (hG : GensOk R gens) (U : List Fact) (hU : RuleClosed R (· ∈ U)) :
    ∀ n g r, (∀ x ∈ g, x ∈ U) → r ∈ U → missing U g < n → Post R g [r] (addGen gens n g r) := by
  intro n
  induction n with
  | zero =>
    intro g r _ _ h
    exact absurd h (Nat.not_lt_zero _)
  | succ n ih =>
    intro g r hg hr hm
    unfold addGen
    by_cases hmem : r ∈ g
    · simp only [hmem, if_true]
      exact ⟨fun _ h => h, List.forall_mem_singleton.mpr hmem, fun _ _ h _ => h, ClosedRel.refl R g⟩
    · simp only [hmem, if_false]
      have hm1 : missing U (r :: g) < n := by
        have := missing_lt (fun _ => List.mem_cons_of_mem r) hr hmem List.mem_cons_self
        omega
      obtain ⟨p, cov⟩ := gens_foldl_post R U hU n r (addGen gens n) ih gens hG.sound (r :: g) List.mem_cons_self
        (List.forall_mem_cons.mpr ⟨hr, hg⟩) hm1
      generalize gens.foldl _ _ = h' at p cov
      refine ⟨fun x hx => p.sub x (List.mem_cons_of_mem _ hx), List.forall_mem_singleton.mpr (p.sub r List.mem_cons_self),
        ?_, ?_, ?_⟩
      · intro C hC hg hT
        exact p.least C hC (List.forall_mem_cons.mpr ⟨hT r List.mem_cons_self, hg⟩) nofun
      · intro p' hp' hpg q hq
        apply p.clo.unary_of hp' hq
        intro hp1
        obtain rfl : p' = r := (List.mem_cons.mp hp1).resolve_right hpg
        obtain ⟨γ, hγ, hall⟩ := hG.unary p' q hq
        obtain ⟨h0, _, hc⟩ := cov γ hγ
        exact hc q (hall h0)
      · intro f a b c hf h1 h2 hnew
        apply p.clo.trans_of hf h1 h2
        intro hx hy
        rcases hnew with hn | hn
        · obtain rfl : (f, a, b) = r := (List.mem_cons.mp hx).resolve_right hn
          obtain ⟨γ, hγ, hall⟩ := hG.tout
          obtain ⟨h0, hsub, hc⟩ := cov γ hγ
          exact hc _ (hall h0 (f, a, b) (f, b, c) hf (hsub _ hy) rfl rfl)
        · obtain rfl : (f, b, c) = r := (List.mem_cons.mp hy).resolve_right hn
          obtain ⟨γ, hγ, hall⟩ := hG.tin
          obtain ⟨h0, hsub, hc⟩ := cov γ hγ
          exact hc _ (hall h0 (f, b, c) (f, a, b) hf (hsub _ hx) rfl rfl)

theorem runGen_post (R : Rules) (gens : List Gen) (hG : GensOk R gens) (U : List Fact) (hU : RuleClosed R (· ∈ U))
    (hist : List Fact) (hh : ∀ t ∈ hist, t ∈ U) : Post R [] hist (runGen gens (U.length + 1) hist) :=
  foldl_post R U hU _ _ (addGen_spec R gens hG U hU (U.length + 1)) hist [] nofun hh
    (Nat.lt_succ_of_le (missing_le U []))

theorem runGen_eq_closure (R : Rules) (gens : List Gen) (hG : GensOk R gens) (U : List Fact) (hU : UClosed R U)
    (hist : List Fact) (hh : ∀ t ∈ hist, t ∈ U) (x : Fact) :
    x ∈ runGen gens (U.length + 1) hist ↔ Derivable R (fun y => y ∈ hist) x :=
  (runGen_post R gens hG U hU.ruleClosed hist hh).mem_iff x

/-! ### `addFact` as `addGen` of three generators -/

/-- `infer_transitive_relations`, outgoing: the relations that leave the target of the new relation `r` -/
def outGen (tr : Nat → Bool) : Gen := fun h r =>
  if tr r.1 then (h.filter fun q => q.1 == r.1 && q.2.1 == r.2.2).map fun q => (r.1, r.2.1, q.2.2) else []

/-- `infer_transitive_relations`, incoming: the relations that arrive at the source of the new relation `r` -/
def inGen (tr : Nat → Bool) : Gen := fun h r =>
  if tr r.1 then (h.filter fun q => q.1 == r.1 && q.2.2 == r.2.1).map fun q => (r.1, q.2.1, r.2.2) else []

def Rules.gens (R : Rules) : List Gen := [fun _ r => R.u r, outGen R.tr, inGen R.tr]

theorem mem_join {tr : Nat → Bool} {h : List Fact} {r t : Fact} {p : Fact → Bool} {F : Fact → Fact} :
    t ∈ (if tr r.1 then (h.filter fun q => q.1 == r.1 && p q).map F else []) ↔
      tr r.1 = true ∧ ∃ q ∈ h, q.1 = r.1 ∧ p q = true ∧ t = F q := by
  cases tr r.1
  · simp only [Bool.false_eq_true, if_false, List.not_mem_nil, false_and]
  · simp only [if_true, List.mem_map, List.mem_filter, Bool.and_eq_true, beq_iff_eq, true_and]
    constructor
    · exact fun ⟨q, ⟨hq, h1, h2⟩, e⟩ => ⟨q, hq, h1, h2, e.symm⟩
    · exact fun ⟨q, hq, h1, h2, e⟩ => ⟨q, ⟨hq, h1, h2⟩, e.symm⟩

theorem mem_outGen {tr : Nat → Bool} {h : List Fact} {r t : Fact} :
    t ∈ outGen tr h r ↔ tr r.1 = true ∧ ∃ q ∈ h, q.1 = r.1 ∧ q.2.1 = r.2.2 ∧ t = (r.1, r.2.1, q.2.2) :=
  mem_join.trans (by simp only [beq_iff_eq])

theorem mem_inGen {tr : Nat → Bool} {h : List Fact} {r t : Fact} :
    t ∈ inGen tr h r ↔ tr r.1 = true ∧ ∃ q ∈ h, q.1 = r.1 ∧ q.2.2 = r.2.1 ∧ t = (r.1, q.2.1, r.2.2) :=
  mem_join.trans (by simp only [beq_iff_eq])

theorem outGen_sound (R : Rules) : Gen.Sound R (outGen R.tr) :=
  fun _ _ _ ht => Or.inr (Or.inl (mem_outGen.mp ht))

theorem inGen_sound (R : Rules) : Gen.Sound R (inGen R.tr) :=
  fun _ _ _ ht => Or.inr (Or.inr (mem_inGen.mp ht))

theorem outGen_covers (tr : Nat → Bool) (h : List Fact) (r q : Fact) (htr : tr r.1 = true) (hq : q ∈ h)
    (h1 : q.1 = r.1) (h2 : q.2.1 = r.2.2) : (r.1, r.2.1, q.2.2) ∈ outGen tr h r :=
  mem_outGen.mpr ⟨htr, q, hq, h1, h2, rfl⟩

theorem inGen_covers (tr : Nat → Bool) (h : List Fact) (r q : Fact) (htr : tr r.1 = true) (hq : q ∈ h)
    (h1 : q.1 = r.1) (h2 : q.2.2 = r.2.1) : (r.1, q.2.1, r.2.2) ∈ inGen tr h r :=
  mem_inGen.mpr ⟨htr, q, hq, h1, h2, rfl⟩

theorem Rules.gens_ok (R : Rules) : GensOk R R.gens := by
  refine ⟨?_, fun r q hq => ⟨_, List.mem_cons_self, fun _ => hq⟩,
    ⟨outGen R.tr, List.mem_cons_of_mem _ List.mem_cons_self, outGen_covers R.tr⟩,
    ⟨inGen R.tr, List.mem_cons_of_mem _ (List.mem_cons_of_mem _ List.mem_cons_self), inGen_covers R.tr⟩⟩
  intro γ hγ
  simp only [Rules.gens, List.mem_cons, List.not_mem_nil, or_false] at hγ
  rcases hγ with rfl | rfl | rfl
  · exact fun _ _ _ ht => Or.inl ht
  · exact outGen_sound R
  · exact inGen_sound R

theorem addFact_eq_addGen (R : Rules) : ∀ n g r, addFact R n g r = addGen R.gens n g r := by
  intro n
  induction n with
  | zero =>
    intro g r
    rfl
  | succ n ih =>
    intro g r
    have e : (fun h t => addGen R.gens n h t) = fun h t => addFact R n h t := by
      funext h t
      exact (ih h t).symm
    unfold addFact addGen
    by_cases hm : r ∈ g
    · simp only [hm, if_true]
    · simp only [hm, if_false, e]
      simp only [Rules.gens, List.foldl_cons, List.foldl_nil, outGen, inGen]
      cases R.tr r.1
      · simp only [Bool.false_eq_true, if_false, List.foldl_nil]
      · simp only [if_true]

theorem run_eq_closure (R : Rules) (U : List Fact) (hU : UClosed R U) (hist : List Fact)
    (hh : ∀ t ∈ hist, t ∈ U) (x : Fact) :
    x ∈ run R (U.length + 1) hist ↔ Derivable R (fun y => y ∈ hist) x := by
  have e : run R (U.length + 1) hist = runGen R.gens (U.length + 1) hist := by
    simp only [run, runGen, addFact_eq_addGen]
  rw [e]
  exact runGen_eq_closure R R.gens R.gens_ok U hU hist hh x

theorem run_order_independent (R : Rules) (U : List Fact) (hU : UClosed R U) (h1 h2 : List Fact)
    (hh1 : ∀ t ∈ h1, t ∈ U) (hsame : ∀ t, t ∈ h1 ↔ t ∈ h2) (x : Fact) :
    x ∈ run R (U.length + 1) h1 ↔ x ∈ run R (U.length + 1) h2 := by
  rw [run_eq_closure R U hU h1 hh1, run_eq_closure R U hU h2 fun t ht => hh1 t ((hsame t).mpr ht)]
  exact Derivable.congr hsame x

/-! ### The finite universe of the schema rules -/

theorem mem_allFacts {nF nO : Nat} {x : Fact} :
    x ∈ allFacts nF nO ↔ x.1 < nF ∧ x.2.1 < nO ∧ x.2.2 < nO := by
  obtain ⟨f, s, t⟩ := x
  simp only [allFacts, List.mem_flatMap, List.mem_range, List.mem_map, Prod.mk.injEq]
  constructor
  · rintro ⟨f', hf, s', hs, t', ht, rfl, rfl, rfl⟩
    exact ⟨hf, hs, ht⟩
  · rintro ⟨hf, hs, ht⟩
    exact ⟨f, hf, s, hs, t, ht, rfl, rfl, rfl⟩

/-- every role taker is an object of the world -/
def World.WF (W : World) : Prop := ∀ o r, W.rtOf o = some r → r < W.size

theorem mem_fieldsOf_lt {S : Schema} {c g : Nat} (h : g ∈ S.fieldsOf c) : g < S.fields.length := by
  simp only [Schema.fieldsOf, List.mem_filter, List.mem_range] at h
  exact h.1

theorem mem_superFields_lt {S : Schema} {c p g : Nat} (h : g ∈ S.superFields c p) : g < S.fields.length := by
  simp only [Schema.superFields, List.mem_filter] at h
  exact mem_fieldsOf_lt h.1

theorem exactField_lt {S : Schema} {c q g : Nat} (h : S.exactField c q = some g) : g < S.fields.length := by
  simp only [Schema.exactField] at h
  exact mem_fieldsOf_lt (List.mem_of_find?_eq_some h)

theorem uRule_in_universe (S : Schema) (W : World) (hW : W.WF) (p q : Fact)
    (hp : p ∈ allFacts S.fields.length W.size) (hq : q ∈ uRule S W p) :
    q ∈ allFacts S.fields.length W.size := by
  rw [mem_allFacts] at hp ⊢
  obtain ⟨_, hs, ht⟩ := hp
  simp only [uRule, List.mem_append] at hq
  rcases hq with (hq | hq) | hq
  · simp only [List.mem_map] at hq
    obtain ⟨g, hg, rfl⟩ := hq
    exact ⟨mem_superFields_lt hg, hs, ht⟩
  · split at hq
    next x hr =>
      simp only [List.mem_map] at hq
      obtain ⟨g, hg, rfl⟩ := hq
      exact ⟨mem_superFields_lt hg, hW _ _ hr, ht⟩
    · cases hq
  · split at hq
    · cases hq
    · split at hq
      next g he =>
        rw [List.mem_singleton] at hq
        subst hq
        exact ⟨exactField_lt he, ht, hs⟩
      · split at hq
        next x hr =>
          split at hq
          next g he2 =>
            rw [List.mem_singleton] at hq
            subst hq
            exact ⟨exactField_lt he2, hW _ _ hr, hs⟩
          · cases hq
        · cases hq

theorem schema_UClosed (S : Schema) (W : World) (hW : W.WF) :
    UClosed (schemaRules S W) (allFacts S.fields.length W.size) := by
  constructor
  · intro p hp q hq
    exact uRule_in_universe S W hW p q hp hq
  · intro f a b c h1 h2
    rw [mem_allFacts] at h1 h2 ⊢
    exact ⟨h1.1, h1.2.1, h2.2.2⟩

/-! ### The executable specification (naive saturation) -/

theorem mem_addNew (g xs : List Fact) (x : Fact) : x ∈ addNew g xs ↔ x ∈ g ∨ x ∈ xs :=
  mem_foldl_insert _ (fun _ _ => mem_insert_if_absent .rfl fun _ => by rw [List.mem_cons, or_comm]) xs g x

theorem mem_addNew_nil (A : List Fact) (x : Fact) : x ∈ addNew [] A ↔ x ∈ A := by
  rw [mem_addNew]
  simp

theorem mem_consequences (R : Rules) (g : List Fact) (x : Fact) :
    x ∈ consequences R g ↔
      (∃ p ∈ g, x ∈ R.u p) ∨
      (∃ p ∈ g, R.tr p.1 = true ∧ ∃ q ∈ g, q.1 = p.1 ∧ q.2.1 = p.2.2 ∧ x = (p.1, p.2.1, q.2.2)) := by
  simp only [consequences, List.mem_append, List.mem_flatMap]
  apply or_congr Iff.rfl
  apply exists_congr
  intro p
  apply and_congr Iff.rfl
  exact mem_outGen

theorem consequences_closed {R : Rules} {C : Fact → Prop} (hC : RuleClosed R C) (g : List Fact)
    (hg : ∀ x ∈ g, C x) : ∀ x ∈ consequences R g, C x := by
  intro x hx
  rcases (mem_consequences R g x).mp hx with ⟨p, hp, hx⟩ | ⟨p, hp, ht, q, hq, h1, h2, rfl⟩
  · exact hC.unary p x (hg p hp) hx
  · exact hC.join ht (hg p hp) (hg q hq) h1 h2

theorem addNew_consequences_closed {R : Rules} {C : Fact → Prop} (hC : RuleClosed R C) {g : List Fact}
    (hg : ∀ x ∈ g, C x) : ∀ x ∈ addNew g (consequences R g), C x := by
  intro x hx
  rcases (mem_addNew _ _ _).mp hx with h | h
  · exact hg x h
  · exact consequences_closed hC g hg x h

theorem saturate_spec (R : Rules) (A : Fact → Prop) :
    ∀ n g, (∀ x ∈ g, Derivable R A x) → (∀ x, A x → x ∈ g) →
      (∀ x ∈ (saturate R n g).1, Derivable R A x) ∧
      ((saturate R n g).2 = true → ∀ x, Derivable R A x → x ∈ (saturate R n g).1) := by
  intro n
  induction n with
  | zero =>
    intro g hg _
    exact ⟨hg, fun h => nomatch h⟩
  | succ n ih =>
    intro g hg hA
    unfold saturate
    by_cases hall : (consequences R g).all (fun x => decide (x ∈ g)) = true
    · simp only [hall, if_true]
      simp only [List.all_eq_true, decide_eq_true_eq] at hall
      -- a round that adds nothing: the graph is rule-closed
      refine ⟨hg, fun _ x hx => Derivable.least ⟨?_, ?_⟩ hA hx⟩
      · intro p q hp hq
        exact hall _ ((mem_consequences R g _).mpr (Or.inl ⟨p, hp, hq⟩))
      · intro f a b c htr h1 h2
        exact hall _ ((mem_consequences R g _).mpr (Or.inr ⟨_, h1, htr, _, h2, rfl, rfl, rfl⟩))
    · simp only [hall]
      apply ih
      · exact addNew_consequences_closed (Derivable.ruleClosed R A) hg
      · intro x hx
        exact (mem_addNew _ _ _).mpr (Or.inl (hA x hx))

theorem saturate_converges (R : Rules) (U : List Fact) (hU : RuleClosed R (· ∈ U)) :
    ∀ n g, (∀ x ∈ g, x ∈ U) → missing U g < n → (saturate R n g).2 = true := by
  intro n
  induction n with
  | zero =>
    intro g _ h
    exact absurd h (Nat.not_lt_zero _)
  | succ n ih =>
    intro g hg hm
    unfold saturate
    by_cases hall : (consequences R g).all (fun x => decide (x ∈ g)) = true
    · simp only [hall, if_true]
    · simp only [hall]
      apply ih
      · exact addNew_consequences_closed hU hg
      · obtain ⟨x, hx, hxg⟩ := List.all_eq_false.mp (Bool.eq_false_iff.mpr hall)
        rw [decide_eq_true_eq] at hxg
        have := missing_lt (fun y hy => (mem_addNew g _ y).mpr (Or.inl hy)) (consequences_closed hU g hg x hx) hxg
          ((mem_addNew g _ x).mpr (Or.inr hx))
        omega

/-! ### `addCore`: its graph component, its invariants -/

theorem addCore_g (R : Rules) (K : Nat → Kind) :
    ∀ n σ r b, (addCore R K n σ r b).g = addFact R n σ.g r := by
  intro n
  induction n with
  | zero =>
    intro σ r b
    rfl
  | succ n ih =>
    intro σ r b
    have hf : ∀ (ts : List Fact) (a : State),
        (ts.foldl (fun h q => addCore R K n h q true) a).g = ts.foldl (fun h q => addFact R n h q) a.g :=
      foldl_proj State.g _ _ (fun a q => ih a q true)
    unfold addCore addFact
    by_cases hm : r ∈ σ.g
    · simp only [hm, if_true]
    · simp only [hm, if_false, apply_ite State.g, hf]

/-- one level of `addCore`: `P` need only hold once `r` is inserted, the recursive (inferred) calls keep it -/
theorem addCore_succ_preserves (R : Rules) (K : Nat → Kind) (n : Nat) (P : State → Prop)
    (hP : ∀ σ q, P σ → P (addCore R K n σ q true)) (σ : State) (r : Fact) (b : Bool)
    (h1 : r ∈ σ.g → P σ)
    (h2 : r ∉ σ.g → P { σ with g := r :: σ.g, st := if b then updateValue K σ.st r else σ.st,
                                inf := if b then markInf K σ r else σ.inf }) :
    P (addCore R K (n + 1) σ r b) := by
  have hf : ∀ (ts : List Fact) (a : State), P a → P (ts.foldl (fun h q => addCore R K n h q true) a) :=
    fun ts a ha => List.foldlRecOn ts _ ha fun a ha q _ => hP a q ha
  unfold addCore
  by_cases hm : r ∈ σ.g
  · simp only [hm, if_true]
    exact h1 hm
  · simp only [hm, if_false]
    have p1 := h2 hm
    split
    · exact hf _ _ (hf _ _ (hf _ _ p1))
    · exact hf _ _ p1

theorem addCore_preserves (R : Rules) (K : Nat → Kind) (P : State → Prop)
    (hins : ∀ (σ : State) (r : Fact) (b : Bool), P σ →
      P { σ with g := r :: σ.g, st := if b then updateValue K σ.st r else σ.st,
                 inf := if b then markInf K σ r else σ.inf }) :
    ∀ n σ r b, P σ → P (addCore R K n σ r b) := by
  intro n
  induction n with
  | zero =>
    intro σ r b h
    exact h
  | succ n ih =>
    intro σ r b h
    exact addCore_succ_preserves R K n P (fun σ q hσ => ih σ q true hσ) σ r b (fun _ => h) (fun _ => hins σ r b h)

theorem addCore_clob (R : Rules) (K : Nat → Kind) (n : Nat) (σ : State) (r : Fact) (b : Bool) :
    (addCore R K n σ r b).clob = σ.clob :=
  addCore_preserves R K (fun τ => τ.clob = σ.clob) (fun _ _ _ h => h) n σ r b rfl

theorem addCore_g_mono (R : Rules) (K : Nat → Kind) (x : Fact) (n : Nat) (σ : State) (r : Fact) (b : Bool)
    (h : x ∈ σ.g) : x ∈ (addCore R K n σ r b).g :=
  addCore_preserves R K (fun τ => x ∈ τ.g) (fun _ _ _ h => List.mem_cons_of_mem _ h) n σ r b h

theorem addCore_self_mem (R : Rules) (K : Nat → Kind) (n : Nat) (σ : State) (r : Fact) (b : Bool) :
    r ∈ (addCore R K (n + 1) σ r b).g :=
  addCore_succ_preserves R K n (fun τ => r ∈ τ.g) (fun τ q h => addCore_g_mono R K r n τ q true h) σ r b id
    (fun _ => List.mem_cons_self)

/-! ### The store; the graph and the clobber flag of `step` -/

theorem Store.get_set (st : Store) (f o f' o' : Nat) (v : List Nat) :
    st.set f o v f' o' = if f' = f ∧ o' = o then v else st f' o' := by
  show Store.get _ _ _ = _
  simp only [Store.get, Store.set, List.find?_cons]
  by_cases h : f' = f ∧ o' = o
  · obtain ⟨rfl, rfl⟩ := h
    simp
  · have : ((f == f') && (o == o')) = false := by
      simp only [Bool.and_eq_false_imp, beq_iff_eq, beq_eq_false_iff_ne]
      intro hf ho
      exact h ⟨hf.symm, ho.symm⟩
    simp only [this, h, if_false]

theorem Store.set_same (st : Store) (f o : Nat) (v : List Nat) : st.set f o v f o = v := by
  simp [Store.get_set]

theorem Store.set_other (st : Store) (f o f' o' : Nat) (v : List Nat) (h : ¬ (f' = f ∧ o' = o)) :
    st.set f o v f' o' = st f' o' := by
  simp [Store.get_set, h]

theorem updateValue_other (K : Nat → Kind) (st : Store) (r : Fact) {f s : Nat} (hfs : ¬ (f = r.1 ∧ s = r.2.1)) :
    updateValue K st r f s = st f s := by
  unfold updateValue
  split <;> split
  · rfl
  · exact Store.set_other _ _ _ _ _ _ hfs
  · rfl
  · exact Store.set_other _ _ _ _ _ _ hfs

theorem updateValue_single {K : Nat → Kind} {r : Fact} (hk : K r.1 = .single) (st : Store) :
    updateValue K st r r.1 r.2.1 = [r.2.2] := by
  simp only [updateValue, hk]
  split
  · assumption
  · exact Store.set_same _ _ _ _

theorem mem_updateValue_cont {K : Nat → Kind} {r : Fact} (hk : K r.1 ≠ .single) (st : Store) (t : Nat) :
    t ∈ updateValue K st r r.1 r.2.1 ↔ t ∈ st r.1 r.2.1 ∨ t = r.2.2 := by
  unfold updateValue
  split
  · next h => exact absurd h hk
  · rw [apply_ite (fun st' : Store => st' r.1 r.2.1), Store.set_same]
    exact mem_insert_if_absent .rfl (fun _ => mem_append_singleton) t

theorem mem_storeAdd (k : Kind) (c : List Nat) (t t' : Nat) : t' ∈ storeAdd k c t ↔ t' ∈ c ∨ t' = t := by
  unfold storeAdd
  split
  · exact mem_insert_if_absent .rfl (fun _ => mem_append_singleton) t'
  · exact mem_append_singleton

theorem addItem_clob (R : Rules) (K : Nat → Kind) (n : Nat) (σ : State) (f s t : Nat) :
    (addItem R K n σ f s t).clob = σ.clob := by
  simp only [addItem]
  exact addCore_clob R K n σ (f, s, t) false

theorem addItem_g (R : Rules) (K : Nat → Kind) (n : Nat) (σ : State) (f s t : Nat) :
    (addItem R K n σ f s t).g = addFact R n σ.g (f, s, t) := by
  simp only [addItem]
  exact addCore_g R K n σ (f, s, t) false

theorem step_g (R : Rules) (K : Nat → Kind) (n : Nat) (σ : State) (op : Op) :
    (step R K n σ op).g = op.facts.foldl (fun g r => addFact R n g r) σ.g := by
  cases op with
  | churn => rfl
  | storeOnly f s t => rfl
  | assignQ f s xs muted =>
    simp only [step, Op.facts, List.foldl_map]
    rw [List.foldl_filter]
    exact foldl_proj State.g _ _ (fun a t => by
      cases muted.contains t
      · exact addItem_g R K n a f s t
      · rfl) _ _
  | set1 f s t =>
    simp only [step, Op.facts, List.foldl_cons, List.foldl_nil]
    rw [addCore_g]
  | add f s t =>
    simp only [step, Op.facts, List.foldl_cons, List.foldl_nil]
    rw [addItem_g]
  | assign f s xs =>
    simp only [step, Op.facts, List.foldl_map, reAdd]
    exact foldl_proj State.g _ _ (fun a t => addItem_g R K n a f s t) _ _

theorem runOps_g (R : Rules) (K : Nat → Kind) (n : Nat) (ops : List Op) :
    (runOps R K n ops).g = run R n (asserted ops) := by
  unfold runOps run asserted
  rw [List.foldl_flatMap]
  exact foldl_proj State.g _ _ (step_g R K n) ops State.init

theorem foldl_addItem_clob (R : Rules) (K : Nat → Kind) (n f s : Nat) (xs : List Nat) (σ : State) :
    (xs.foldl (fun h t => addItem R K n h f s t) σ).clob = σ.clob :=
  List.foldlRecOn (motive := fun τ => τ.clob = σ.clob) xs _ rfl fun a ha t _ =>
    (addItem_clob R K n a f s t).trans ha

theorem step_assign_clob (R : Rules) (K : Nat → Kind) (n : Nat) (σ : State) (f s : Nat) (xs : List Nat) :
    (step R K n σ (.assign f s xs)).clob = (σ.clob || (σ.st f s).any fun t => !σ.inf.contains (f, s, t)) :=
  foldl_addItem_clob R K n f s xs _

theorem step_assignQ_clob (R : Rules) (K : Nat → Kind) (n : Nat) (σ : State) (f s : Nat) (xs muted : List Nat) :
    (step R K n σ (.assignQ f s xs muted)).clob = (σ.clob || !(σ.st f s).isEmpty) := by
  simp only [step]
  refine List.foldlRecOn (motive := fun τ : State => τ.clob = (σ.clob || !(σ.st f s).isEmpty)) xs _ rfl ?_
  intro a ha t _
  split
  · exact ha
  · exact (addItem_clob R K n a f s t).trans ha

theorem step_clob_false (R : Rules) (K : Nat → Kind) (n : Nat) (σ : State) (op : Op)
    (h : (step R K n σ op).clob = false) : σ.clob = false := by
  cases op with
  | churn => exact h
  | storeOnly f s t => exact h
  | assignQ f s xs muted =>
    rw [step_assignQ_clob] at h
    exact (Bool.or_eq_false_iff.mp h).1
  | set1 f s t => simpa [step, addCore_clob] using h
  | add f s t => simpa [step, addItem_clob] using h
  | assign f s xs =>
    rw [step_assign_clob] at h
    exact (Bool.or_eq_false_iff.mp h).1

/-! ### What inference put into the fields (`_inferred_items`) -/

theorem mem_markInf (K : Nat → Kind) (σ : State) (r x : Fact) (h : x ∈ markInf K σ r) :
    x ∈ σ.inf ∨ (x = r ∧ K r.1 ≠ .single) := by
  unfold markInf at h
  split at h
  · exact Or.inl h
  · next hk =>
    split at h
    · exact Or.inl h
    · rcases List.mem_append.mp h with h | h
      · exact Or.inl h
      · exact Or.inr ⟨List.mem_singleton.mp h, hk⟩

theorem markInf_mono (K : Nat → Kind) (σ : State) (r x : Fact) (h : x ∈ σ.inf) : x ∈ markInf K σ r := by
  unfold markInf
  split
  · exact h
  · split
    · exact h
    · exact List.mem_append_left _ h

theorem addCore_inf_mono (R : Rules) (K : Nat → Kind) (x : Fact) :
    ∀ n σ r b, x ∈ σ.inf → x ∈ (addCore R K n σ r b).inf := by
  apply addCore_preserves R K (fun τ => x ∈ τ.inf)
  intro σ r b h
  cases b
  · exact h
  · exact markInf_mono K σ r x h

theorem mem_inferredOf (σ : State) (f s t : Nat) : t ∈ inferredOf σ f s ↔ (f, s, t) ∈ σ.inf := by
  simp only [inferredOf, List.mem_map, List.mem_filter, Bool.and_eq_true, beq_iff_eq]
  constructor
  · rintro ⟨⟨f', s', t'⟩, ⟨hr, rfl, rfl⟩, rfl⟩
    exact hr
  · intro h
    exact ⟨(f, s, t), ⟨h, rfl, rfl⟩, rfl⟩

theorem mem_reAdd (σ : State) (f s y : Nat) :
    y ∈ (inferredOf σ f s).foldl (fun c t => if t ∈ c then c else c ++ [t]) (σ.st f s) ↔
      y ∈ σ.st f s ∨ (f, s, y) ∈ σ.inf := by
  rw [mem_foldl_insert _ (fun _ _ => mem_insert_if_absent .rfl fun _ => mem_append_singleton), mem_inferredOf]

theorem foldl_addItem_inf_mono (R : Rules) (K : Nat → Kind) (n f s : Nat) (xs : List Nat) (σ : State) (x : Fact)
    (h : x ∈ σ.inf) : x ∈ (xs.foldl (fun h t => addItem R K n h f s t) σ).inf :=
  List.foldlRecOn (motive := fun τ => x ∈ τ.inf) xs (fun h t => addItem R K n h f s t) h fun a ha t _ =>
    addCore_inf_mono R K x n a (f, s, t) false ha

/-! ### The invariants `FieldsSound` and `FieldsComplete` -/

/-- the backing fields agree with the graph, except possibly at the facts in `ex` (as in `FieldsComplete`; the property
theorems have `ex = []`) -/
structure FieldsAgree (K : Nat → Kind) (ex : List Fact) (σ : State) : Prop where
  cont : ∀ f s t, K f ≠ .single → (f, s, t) ∉ ex → (t ∈ σ.st f s ↔ (f, s, t) ∈ σ.g)
  sing : ∀ f s v, K f = .single → v ∈ σ.st f s → (f, s, v) ∈ σ.g
  nonempty : ∀ f s t, K f = .single → (f, s, t) ∈ σ.g → σ.st f s ≠ []

theorem FieldsAgree.congr {K : Nat → Kind} {ex : List Fact} {σ τ : State} (h : FieldsAgree K ex σ)
    (hg : τ.g = σ.g) (hs : ∀ f s, τ.st f s = σ.st f s) : FieldsAgree K ex τ := by
  refine ⟨?_, ?_, ?_⟩
  · intro f s t a b
    rw [hs, hg]
    exact h.cont f s t a b
  · intro f s v a b
    rw [hs] at b
    rw [hg]
    exact h.sing f s v a b
  · intro f s t a b
    rw [hg] at b
    rw [hs]
    exact h.nonempty f s t a b

/-- every element of a backing field, and every entry of `_inferred_items`, has its relation in the symbol graph;
holds whether or not an assignment has dropped asserted elements -/
def FieldsSound (σ : State) : Prop :=
  (∀ f s t, t ∈ σ.st f s → (f, s, t) ∈ σ.g) ∧ ∀ r ∈ σ.inf, r ∈ σ.g

/-- contents `c` of field `f` account for a relation to `t`: a container holds `t`, a single-valued field holds
some value (a later relation overwrites it) -/
def Shows (K : Nat → Kind) (c : List Nat) (f t : Nat) : Prop := if K f = .single then c ≠ [] else t ∈ c

/-- every relation of the symbol graph shows in the backing field of its source, except possibly those in `ex`: an
asserted relation whose element is stored only after its inference has run (`_on_add` comes before `super().append`),
and the elements `__set__` has cleared and not yet put back -/
def FieldsComplete (K : Nat → Kind) (ex : List Fact) (σ : State) : Prop :=
  ∀ f s t, (f, s, t) ∈ σ.g → (f, s, t) ∉ ex → Shows K (σ.st f s) f t

theorem fieldsAgree_of {K : Nat → Kind} {σ : State} (hs : FieldsSound σ) (hc : FieldsComplete K [] σ) :
    FieldsAgree K [] σ :=
  ⟨fun f s t hk _ => ⟨hs.1 f s t, fun hg => (if_neg hk).mp (hc f s t hg List.not_mem_nil)⟩,
   fun f s v _ hv => hs.1 f s v hv,
   fun f s t hk hg => (if_pos hk).mp (hc f s t hg List.not_mem_nil)⟩

theorem FieldsSound.set {σ : State} (h : FieldsSound σ) {f s : Nat} {v : List Nat}
    (hv : ∀ t ∈ v, (f, s, t) ∈ σ.g) : FieldsSound { σ with st := σ.st.set f s v } := by
  refine ⟨fun f' s' t ht => ?_, h.2⟩
  change t ∈ σ.st.set f s v f' s' at ht
  rw [Store.get_set] at ht
  split at ht
  · next e =>
    obtain ⟨rfl, rfl⟩ := e
    exact hv t ht
  · exact h.1 f' s' t ht

theorem mem_updateValue (K : Nat → Kind) (st : Store) (r : Fact) (f s t : Nat) (h : t ∈ updateValue K st r f s) :
    t ∈ st f s ∨ (f, s, t) = r := by
  by_cases hfs : f = r.1 ∧ s = r.2.1
  · obtain ⟨rfl, rfl⟩ := hfs
    by_cases hk : K r.1 = .single
    · rw [updateValue_single hk] at h
      exact Or.inr (List.mem_singleton.mp h ▸ rfl)
    · exact ((mem_updateValue_cont hk st t).mp h).imp_right fun (e : t = r.2.2) => e ▸ rfl
  · rw [updateValue_other K st r hfs] at h
    exact Or.inl h

theorem FieldsSound.ins {K : Nat → Kind} {σ : State} (h : FieldsSound σ) (r : Fact) (b : Bool) :
    FieldsSound { σ with g := r :: σ.g, st := if b then updateValue K σ.st r else σ.st,
                         inf := if b then markInf K σ r else σ.inf } := by
  cases b
  · exact ⟨fun f s t ht => List.mem_cons_of_mem _ (h.1 f s t ht), fun x hx => List.mem_cons_of_mem _ (h.2 x hx)⟩
  · refine ⟨fun f s t ht => ?_, fun x hx => ?_⟩
    · rcases mem_updateValue K σ.st r f s t ht with ht | rfl
      · exact List.mem_cons_of_mem _ (h.1 f s t ht)
      · exact List.mem_cons_self
    · rcases mem_markInf K σ r x hx with hx | ⟨rfl, _⟩
      · exact List.mem_cons_of_mem _ (h.2 x hx)
      · exact List.mem_cons_self

theorem addCore_fieldsSound (R : Rules) (K : Nat → Kind) :
    ∀ n σ r b, FieldsSound σ → FieldsSound (addCore R K n σ r b) :=
  addCore_preserves R K FieldsSound fun _ r b h => h.ins r b

theorem addItem_fieldsSound (R : Rules) (K : Nat → Kind) (n : Nat) (σ : State) (f s t : Nat) (h : FieldsSound σ) :
    FieldsSound (addItem R K (n + 1) σ f s t) := by
  have h' := addCore_fieldsSound R K (n + 1) σ (f, s, t) false h
  have hr := addCore_self_mem R K n σ (f, s, t) false
  unfold addItem
  generalize addCore R K (n + 1) σ (f, s, t) false = τ at h' hr ⊢
  apply h'.set
  intro t' ht'
  rcases (mem_storeAdd _ _ _ _).mp ht' with ht' | rfl
  · exact h'.1 f s t' ht'
  · exact hr

theorem step_fieldsSound (R : Rules) (K : Nat → Kind) (n : Nat) (σ : State) (op : Op) (hwk : op.wellKinded K = true)
    (h : FieldsSound σ) : FieldsSound (step R K (n + 1) σ op) := by
  cases op with
  | churn => exact h
  | storeOnly f s t => cases hwk
  | assignQ f s xs muted => cases hwk
  | set1 f s t =>
    -- `setattr` comes first: the field is sound again once the relation is in the graph
    apply addCore_succ_preserves R K n FieldsSound (fun σ q => addCore_fieldsSound R K n σ q true)
    · intro hm
      exact h.set (List.forall_mem_singleton.mpr hm)
    · intro _
      exact (h.ins (K := K) (f, s, t) false).set (List.forall_mem_singleton.mpr List.mem_cons_self)
  | add f s t => exact addItem_fieldsSound R K n σ f s t h
  | assign f s xs =>
    have h1 := List.foldlRecOn (motive := FieldsSound) xs _
      (b := { σ with st := σ.st.set f s [], clob := σ.clob || (σ.st f s).any (fun t => !σ.inf.contains (f, s, t)) })
      (h.set nofun) fun a ha t _ => addItem_fieldsSound R K n a f s t ha
    apply h1.set
    intro t ht
    exact ((mem_reAdd _ f s t).mp ht).elim (h1.1 f s t) (h1.2 _)

theorem FieldsComplete.cons {K : Nat → Kind} {ex : List Fact} {σ : State} (h : FieldsComplete K ex σ) {f s t : Nat}
    (hr : (f, s, t) ∉ ex → Shows K (σ.st f s) f t) : FieldsComplete K ex { σ with g := (f, s, t) :: σ.g } := by
  intro f' s' t' hm hne
  rcases List.mem_cons.mp hm with e | hm
  · cases e
    exact hr hne
  · exact h f' s' t' hm hne

/-- overwriting the cell `(f, s)`: the exclusion list may lose entries (`ex` to `ex'`) only at that cell, where `hv`
accounts for the new contents -/
theorem FieldsComplete.set {K : Nat → Kind} {ex ex' : List Fact} {σ : State} (h : FieldsComplete K ex σ) {f s : Nat}
    {v : List Nat} (hex : ∀ x ∈ ex, x ∈ ex' ∨ (x.1 = f ∧ x.2.1 = s))
    (hv : ∀ t, (f, s, t) ∈ σ.g → (f, s, t) ∉ ex' → Shows K v f t) :
    FieldsComplete K ex' { σ with st := σ.st.set f s v } := by
  intro f' s' t' hm hne
  show Shows K (σ.st.set f s v f' s') f' t'
  by_cases hfs : f' = f ∧ s' = s
  · obtain ⟨rfl, rfl⟩ := hfs
    rw [Store.set_same]
    exact hv t' hm hne
  · rw [Store.set_other _ _ _ _ _ _ hfs]
    exact h f' s' t' hm fun hh => (hex _ hh).elim hne hfs

theorem FieldsComplete.weaken {K : Nat → Kind} {ex ex' : List Fact} {σ : State} (h : FieldsComplete K ex σ)
    (hex : ∀ x ∈ ex, x ∈ ex') : FieldsComplete K ex' σ :=
  fun f s t hm hne => h f s t hm fun hh => hne (hex _ hh)

theorem shows_updateValue {K : Nat → Kind} {st : Store} {r : Fact} {f s t : Nat}
    (h : Shows K (st f s) f t ∨ (f, s, t) = r) : Shows K (updateValue K st r f s) f t := by
  by_cases hfs : f = r.1 ∧ s = r.2.1
  · obtain ⟨rfl, rfl⟩ := hfs
    unfold Shows at h ⊢
    by_cases hk : K r.1 = .single
    · rw [if_pos hk, updateValue_single hk]
      exact List.cons_ne_nil _ _
    · rw [if_neg hk] at h ⊢
      exact (mem_updateValue_cont hk st t).mpr (h.imp_right fun e => congrArg (·.2.2) e)
  · rw [updateValue_other K st r hfs]
    exact h.resolve_right fun e => hfs ⟨congrArg (·.1) e, congrArg (·.2.1) e⟩

theorem FieldsComplete.insInferred {K : Nat → Kind} {ex : List Fact} {σ : State} (h : FieldsComplete K ex σ)
    (r : Fact) (inf' : List Fact) :
    FieldsComplete K ex { σ with g := r :: σ.g, st := updateValue K σ.st r, inf := inf' } :=
  fun f s t hm hne => shows_updateValue ((List.mem_cons.mp hm).symm.imp_left fun hm => h f s t hm hne)

theorem addCore_fieldsComplete (R : Rules) (K : Nat → Kind) (ex : List Fact) :
    ∀ n σ r, FieldsComplete K ex σ → FieldsComplete K ex (addCore R K n σ r true) := by
  intro n
  induction n with
  | zero => exact fun _ _ h => h
  | succ n ih =>
    intro σ r h
    exact addCore_succ_preserves R K n (FieldsComplete K ex) ih σ r true (fun _ => h) fun _ => h.insInferred r _

theorem addItem_fieldsComplete (R : Rules) (K : Nat → Kind) (n : Nat) (σ : State) (f s t : Nat) (ex : List Fact)
    (hk : K f ≠ .single) (h : FieldsComplete K ex σ) : FieldsComplete K ex (addItem R K (n + 1) σ f s t) := by
  -- while the relation is asserted and inference runs, the element itself is not in the field yet
  have h0 : FieldsComplete K ((f, s, t) :: ex) σ := h.weaken fun _ => List.mem_cons_of_mem _
  have h' : FieldsComplete K ((f, s, t) :: ex) (addCore R K (n + 1) σ (f, s, t) false) :=
    addCore_succ_preserves R K n _ (addCore_fieldsComplete R K _ n) σ (f, s, t) false (fun _ => h0)
      fun _ => h0.cons fun hne => absurd List.mem_cons_self hne
  unfold addItem
  generalize addCore R K (n + 1) σ (f, s, t) false = τ at h' ⊢
  apply h'.set
  · intro x hx
    rcases List.mem_cons.mp hx with rfl | hx
    · exact Or.inr ⟨rfl, rfl⟩
    · exact Or.inl hx
  · intro t' hm hne
    refine (if_neg hk).mpr ((mem_storeAdd _ _ _ _).mpr ?_)
    by_cases ht : t' = t
    · exact Or.inr ht
    · have hne' : (f, s, t') ∉ (f, s, t) :: ex := fun hh =>
        (List.mem_cons.mp hh).elim (fun e => ht (congrArg (·.2.2) e)) hne
      exact Or.inl ((if_neg hk).mp (h' f s t' hm hne'))

theorem mem_map_cell {f s t' : Nat} {l : List Nat} : (f, s, t') ∈ l.map (fun t => (f, s, t)) ↔ t' ∈ l := by
  simp only [List.mem_map, Prod.mk.injEq, true_and, exists_eq_right]

theorem assign_fieldsComplete (R : Rules) (K : Nat → Kind) (n : Nat) (σ : State) (f s : Nat) (xs : List Nat)
    (hk : K f ≠ .single) (hc : (step R K (n + 1) σ (.assign f s xs)).clob = false)
    (h : FieldsComplete K [] σ) : FieldsComplete K [] (step R K (n + 1) σ (.assign f s xs)) := by
  -- every element the field held was put there by inference
  have hold : ∀ t ∈ σ.st f s, (f, s, t) ∈ σ.inf := by
    rw [step_assign_clob] at hc
    simp only [Bool.or_eq_false_iff, List.any_eq_false, Bool.not_eq_true, Bool.not_eq_false',
      List.contains_iff_mem] at hc
    intro t ht
    simpa using hc.2 t ht
  simp only [step]
  -- after the clear only the elements that were cleared are missing; the adds keep that, and what inference
  -- remembers only grows
  have h1 := List.foldlRecOn (motive := FieldsComplete K ((σ.st f s).map fun t => (f, s, t))) xs _
    (b := { σ with st := σ.st.set f s [], clob := σ.clob || (σ.st f s).any (fun t => !σ.inf.contains (f, s, t)) })
    (h.set nofun fun t hm hne => absurd (mem_map_cell.mpr ((if_neg hk).mp (h f s t hm List.not_mem_nil))) hne)
    fun a ha t _ => addItem_fieldsComplete R K n a f s t _ hk ha
  -- the inferred elements come back: the exclusion list is empty again
  unfold reAdd
  apply h1.set
  · intro x hx
    obtain ⟨t0, _, rfl⟩ := List.mem_map.mp hx
    exact Or.inr ⟨rfl, rfl⟩
  · intro t' hm _
    refine (if_neg hk).mpr ((mem_reAdd _ f s t').mpr ?_)
    by_cases hM : t' ∈ σ.st f s
    · exact Or.inr (foldl_addItem_inf_mono R K (n + 1) f s xs _ _ (hold t' hM))
    · exact Or.inl ((if_neg hk).mp (h1 f s t' hm fun hh => hM (mem_map_cell.mp hh)))

theorem step_fieldsComplete (R : Rules) (K : Nat → Kind) (n : Nat) (σ : State) (op : Op)
    (hwk : op.wellKinded K = true) (hc : (step R K (n + 1) σ op).clob = false)
    (h : FieldsComplete K [] σ) : FieldsComplete K [] (step R K (n + 1) σ op) := by
  cases op with
  | churn => exact h
  | storeOnly f s t => cases hwk
  | assignQ f s xs muted => cases hwk
  | set1 f s t =>
    -- `setattr` comes first, and a single-valued field that holds a value shows every relation of its cell
    have hk : K f = .single := beq_iff_eq.mp hwk
    have h' : FieldsComplete K [] { σ with st := σ.st.set f s [t] } :=
      h.set nofun fun _ _ _ => (if_pos hk).mpr (List.cons_ne_nil _ _)
    exact addCore_succ_preserves R K n _ (addCore_fieldsComplete R K _ n) _ _ false (fun _ => h')
      fun _ => h'.cons fun _ => (if_pos hk).mpr (Store.set_same .. ▸ List.cons_ne_nil _ _)
  | add f s t => exact addItem_fieldsComplete R K n σ f s t [] (bne_iff_ne.mp hwk) h
  | assign f s xs => exact assign_fieldsComplete R K n σ f s xs (bne_iff_ne.mp hwk) hc h

/-! ## The property theorems -/

/-- the history asserts relations only on fields of the schema, between objects of the world -/
def InWorld (S : Schema) (W : World) (ops : List Op) : Prop :=
  ∀ r ∈ asserted ops, r ∈ allFacts S.fields.length W.size

theorem mem_asserted {ops : List Op} {r : Fact} : r ∈ asserted ops ↔ ∃ op ∈ ops, r ∈ op.facts := by
  simp [asserted, List.mem_flatMap]

theorem runModel_g (S : Schema) (W : World) (ops : List Op) :
    (runModel S W ops).g = run (schemaRules S W) (fuelFor S W) (asserted ops) :=
  runOps_g _ _ _ ops

/-- Every relation in the graph after any history is derivable from the asserted facts by the
declared rules (super-property, role taker, inverse, transitivity). -/
theorem C15_sound (S : Schema) (W : World) (hW : W.WF) (ops : List Op) (hin : InWorld S W ops) (x : Fact) :
    x ∈ (runModel S W ops).g → Derivable (schemaRules S W) (fun y => y ∈ asserted ops) x := by
  rw [runModel_g]
  exact (run_eq_closure (schemaRules S W) _ (schema_UClosed S W hW) (asserted ops) hin x).mp

/-- Every derivable relation is in the graph: the incremental update rule reaches the full
closure (the insertion-time argument; fuel = number of possible facts + 1). -/
theorem C15_closed (S : Schema) (W : World) (hW : W.WF) (ops : List Op) (hin : InWorld S W ops) (x : Fact) :
    Derivable (schemaRules S W) (fun y => y ∈ asserted ops) x → x ∈ (runModel S W ops).g := by
  rw [runModel_g]
  exact (run_eq_closure (schemaRules S W) _ (schema_UClosed S W hW) (asserted ops) hin x).mpr

/-- Two histories that assert the same facts — in particular every permutation of a
history, and every repetition — end with the same relations. -/
theorem C15_order_independent (S : Schema) (W : World) (hW : W.WF) (ops1 ops2 : List Op)
    (hin : InWorld S W ops1) (hsame : ∀ r, r ∈ asserted ops1 ↔ r ∈ asserted ops2) (x : Fact) :
    x ∈ (runModel S W ops1).g ↔ x ∈ (runModel S W ops2).g := by
  rw [runModel_g, runModel_g]
  exact run_order_independent (schemaRules S W) _ (schema_UClosed S W hW) _ _ hin hsame x

theorem C15_order_independent_perm (S : Schema) (W : World) (hW : W.WF) (ops1 ops2 : List Op)
    (hin : InWorld S W ops1) (hperm : ops1.Perm ops2) (x : Fact) :
    x ∈ (runModel S W ops1).g ↔ x ∈ (runModel S W ops2).g :=
  C15_order_independent S W hW ops1 ops2 hin (fun _ => (hperm.flatMap_right Op.facts).mem_iff) x

/-- The executable specification the correspondence prints (`closure`, naive saturation that
stopped because a round added nothing) is exactly `Derivable`. -/
theorem C15_spec_exec (R : Rules) (n : Nat) (A : List Fact) (hconv : (closure R n A).2 = true) (x : Fact) :
    x ∈ (closure R n A).1 ↔ Derivable R (fun y => y ∈ A) x := by
  have h := saturate_spec R (fun y => y ∈ A) n (addNew [] A)
    (fun x hx => Derivable.base ((mem_addNew_nil A x).mp hx)) (fun x hx => (mem_addNew_nil A x).mpr hx)
  exact ⟨h.1 x, h.2 hconv x⟩

/-- the executable specification never runs out of fuel on histories over the schema and world -/
theorem C15_spec_total (S : Schema) (W : World) (hW : W.WF) (A : List Fact)
    (hA : ∀ r ∈ A, r ∈ allFacts S.fields.length W.size) :
    (closure (schemaRules S W) (fuelFor S W) A).2 = true := by
  unfold closure fuelFor
  exact saturate_converges (schemaRules S W) _ (schema_UClosed S W hW).ruleClosed _ _
    (fun x hx => hA x ((mem_addNew_nil A x).mp hx)) (Nat.lt_succ_of_le (missing_le _ _))

/-- After every well-kinded history in which no collection assignment replaced an earlier
ASSERTED element (the trigger of F-C15-3; elements put into a field by inference survive an assignment), the backing
fields agree with the graph: a container field holds exactly the targets of its relations; a single-valued field
holds one of its targets, and holds a value whenever it has a relation. -/
theorem C15_fields_agree (S : Schema) (W : World) (ops : List Op)
    (hwk : ∀ op ∈ ops, op.wellKinded S.kindOf = true) (hc : (runModel S W ops).clob = false) :
    FieldsAgree S.kindOf [] (runModel S W ops) := by
  -- `FieldsSound` holds throughout, `FieldsComplete` as long as no assignment has dropped an asserted element
  have hinit : FieldsSound State.init ∧ (State.init.clob = false → FieldsComplete S.kindOf [] State.init) :=
    ⟨⟨nofun, nofun⟩, nofun⟩
  have h := List.foldlRecOn (motive := fun σ => FieldsSound σ ∧ (σ.clob = false → FieldsComplete S.kindOf [] σ))
    ops (step (schemaRules S W) S.kindOf (fuelFor S W)) hinit fun σ h op hop =>
      ⟨step_fieldsSound _ _ _ σ op (hwk op hop) h.1,
        fun hc => step_fieldsComplete _ _ _ σ op (hwk op hop) hc (h.2 (step_clob_false _ _ _ σ op hc))⟩
  exact fieldsAgree_of h.1 (h.2 hc)

/-- Fields and closure directly: under the hypotheses of the theorems above, a container
field of an object holds exactly the derivable targets; a single-valued field holds a derivable target, and holds
one whenever there is any. -/
theorem C15_fields_closure (S : Schema) (W : World) (hW : W.WF) (ops : List Op) (hin : InWorld S W ops)
    (hwk : ∀ op ∈ ops, op.wellKinded S.kindOf = true) (hc : (runModel S W ops).clob = false) :
    (∀ f s t, S.kindOf f ≠ .single →
      (t ∈ (runModel S W ops).st f s ↔ Derivable (schemaRules S W) (fun y => y ∈ asserted ops) (f, s, t))) ∧
    (∀ f s v, S.kindOf f = .single → v ∈ (runModel S W ops).st f s →
      Derivable (schemaRules S W) (fun y => y ∈ asserted ops) (f, s, v)) ∧
    (∀ f s t, S.kindOf f = .single → Derivable (schemaRules S W) (fun y => y ∈ asserted ops) (f, s, t) →
      (runModel S W ops).st f s ≠ []) := by
  have fa := C15_fields_agree S W ops hwk hc
  refine ⟨?_, ?_, ?_⟩
  · intro f s t hk
    rw [fa.cont f s t hk List.not_mem_nil]
    exact ⟨C15_sound S W hW ops hin _, C15_closed S W hW ops hin _⟩
  · intro f s v hk hv
    exact C15_sound S W hW ops hin _ (fa.sing f s v hk hv)
  · intro f s t hk hd
    exact fa.nonempty f s t hk (C15_closed S W hW ops hin _ hd)

/-! A university-like schema on which the hypotheses hold and the model is run: fields 0 `works_for` (Person,
WorksFor, single), 1 `member_of` (Person, MemberOf, list), 2 `members` (Company, Member, set),
3 `sub_organization_of` (Company, transitive, list); WorksFor ⊂ MemberOf, Member ↔ MemberOf; objects 0 Person,
1 2 3 Company. -/
def exSchema : Schema :=
  { fields := [⟨0, 2, .single, []⟩, ⟨0, 1, .list, []⟩, ⟨1, 0, .set, []⟩, ⟨1, 3, .list, []⟩],
    supers := [(2, [1])], inverse := [(0, 1), (1, 0), (2, 0)], transProps := [3] }
def exWorld : World := { cls := [0, 1, 1, 1], rt := [none, none, none, none] }
def exOps : List Op := [.set1 0 0 1, .add 3 2 3, .add 3 1 2]

example : exWorld.WF := by intro o r h; rcases o with _ | _ | _ | _ | _ <;> cases h
example : ∀ op ∈ exOps, op.wellKinded exSchema.kindOf = true := by decide +kernel
example : ∀ r ∈ asserted exOps, r.1 < 4 ∧ r.2.1 < 4 ∧ r.2.2 < 4 := by decide +kernel
example : (runModel exSchema exWorld exOps).clob = false := by decide +kernel
/-- the inferred target is written into the field before the asserted element is stored -/
example : (runModel exSchema exWorld exOps).st 3 1 = [3, 2] ∧ (runModel exSchema exWorld exOps).st 2 1 = [0] ∧
    (runModel exSchema exWorld exOps).g.length = 6 := by decide +kernel
example : (closure (schemaRules exSchema exWorld) (fuelFor exSchema exWorld) (asserted exOps)).2 = true := by decide +kernel
/-- F-C15-2: `p.member_of.append(c)` while `c` is falsy — stored, not asserted: field and graph disagree and the
inverse is never inferred -/
theorem C15_cex_falsy_not_recorded :
    let σ := runModel exSchema exWorld [.storeOnly 1 0 1]
    σ.st 1 0 = [1] ∧ σ.g = [] ∧
    (runModel exSchema exWorld [.add 1 0 1]).g.length = 2 := by decide +kernel

/-- with the fix of F-C15-1 (`_inferred_items` re-added after a collection assignment): `c.members = {p}` then
`p.member_of = [d]` — the element inference had put into the field survives the assignment, field and graph agree -/
theorem C15_assign_keeps_inferred :
    let σ := runModel exSchema exWorld [.assign 2 1 [0], .assign 1 0 [2]]
    σ.clob = false ∧ (1, 0, 1) ∈ σ.g ∧ σ.st 1 0 = [2, 1] := by decide +kernel

/-- F-C15-3: re-assignment replaces an earlier ASSERTED element; its relation (and the inverse) stay in the
graph — there is no retraction — so field and graph disagree -/
theorem C15_cex_reassign_asserted :
    let σ := runModel exSchema exWorld [.assign 1 0 [1], .assign 1 0 [2]]
    σ.clob = true ∧ (1, 0, 1) ∈ σ.g ∧ (2, 1, 0) ∈ σ.g ∧ σ.st 1 0 = [2] := by decide +kernel

end KrroodVerif.PD
