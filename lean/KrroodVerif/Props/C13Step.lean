import KrroodVerif.Model.SymbolGraphStep
import KrroodVerif.Props.C13
/-!
# C13 — lazily consumed (stepwise) evaluations of a domain-less variable

`Model/SymbolGraphStep.lean` is the walk the driver runs (`Iter.begin`, `Iter.pull`, `advance`, `SRun.between/start/next`).
Here the interleaving itself is the subject: EVERY history of model operations interleaved with `next()` calls of any
number of evaluations (`runSOps`), every valid allocator and every quirk setting that cannot raise. What an evaluation
yields is measured against the census taken at ITS first `next()` (`Iter.expected`: the live instances of its class and
subclasses the registry knew then) and its ghost `late` (instances that became known to the registry while it was
suspended, in a class its walk had not reached yet: the trigger of F-C13-3). The converse direction is
`Props/C13StepComplete.lean`.
Not proved: `it.yielded.Nodup` (no instance is yielded twice by one evaluation). It needs that the class of a label never
changes over a history, a ghost fact about `Heap.used` that `Inv` does not carry; left to the correspondence (`dup=` in the
observation).
-/

namespace KrroodVerif.SG

variable {σ : Type}

/-! ### the generator: `Iter.pull`, `Iter.begin`, `advance` -/

/-- what the generator of `get_instances_of_type` has yet to go through: the rest of the copy of the class list it is
walking (`list(self._class_to_wrapped_instances[cls])`), then the registry's lists `bc`, as they are when one asks, of the
classes still ahead of its walk -/
def Iter.rest (bc : List W) (it : Iter) : List Obj :=
  it.cur ++ it.walk.flatMap fun c => (bc.filter (fun x => x.cls == c)).map (·.obj)

theorem Iter.mem_rest {bc : List W} {it : Iter} {o : Obj} :
    o ∈ it.rest bc ↔ o ∈ it.cur ∨ ∃ w ∈ bc, w.obj = o ∧ w.cls ∈ it.walk := by
  simp only [Iter.rest, List.mem_append, List.mem_flatMap, List.mem_map, List.mem_filter, beq_iff_eq]
  refine or_congr Iff.rfl ⟨?_, ?_⟩
  · rintro ⟨c, hc, w, ⟨hw, rfl⟩, rfl⟩
    exact ⟨w, hw, rfl, hc⟩
  · rintro ⟨w, hw, rfl, hc⟩
    exact ⟨_, hc, w, ⟨hw, rfl⟩, rfl⟩

/-- one `next()` of the generator took `it` to `it'`: instances moved from what it had yet to go through into `yielded`,
dead ones (weak references that no longer resolve) were dropped on the way, nothing came in; the walk only shortened and
a stop is at the end of everything -/
structure Pulled (bc : List W) (isLive : Obj → Bool) (it it' : Iter) : Prop where
  sub : ∀ o ∈ it'.yielded ++ it'.rest bc, o ∈ it.yielded ++ it.rest bc
  sup : ∀ o ∈ it.yielded ++ it.rest bc, o ∈ it'.yielded ++ it'.rest bc ∨ isLive o = false
  same : it'.started = it.started ∧ it'.expected = it.expected ∧ it'.late = it.late
  walk : it.walk = [] → it'.walk = []
  stopped : it'.status = 1 → it'.cur = [] ∧ it'.walk = []

theorem Pulled.refl {bc : List W} {isLive : Obj → Bool} {it : Iter} (h0 : it.status = 0) : Pulled bc isLive it it :=
  ⟨fun _ h => h, fun _ h => Or.inl h, ⟨rfl, rfl, rfl⟩, id, fun e => by simp [h0] at e⟩

theorem Pulled.pull (skipDead : Bool) {bc : List W} {isLive : Obj → Bool} {it : Iter} :
    ∀ (fuel : Nat) (it' : Iter), it'.status = 0 → Pulled bc isLive it it' →
      Pulled bc isLive it (Iter.pull skipDead bc isLive fuel it').1
  | 0, _, _, h => h
  | fuel + 1, it', h0, h => by
    unfold Iter.pull
    split
    · rename_i o rest hcur
      split
      · have e' : ∀ x, x ∈ (it'.yielded ++ [o]) ++ Iter.rest bc { it' with cur := rest } ↔
            x ∈ it'.yielded ++ it'.rest bc := by
          simp only [Iter.rest, List.append_assoc, List.cons_append, List.nil_append, List.mem_append, List.mem_cons, hcur,
            implies_true]
        exact ⟨fun x hx => h.sub x ((e' x).1 hx), fun x hx => (h.sup x hx).imp_left (e' x).2, h.same, h.walk,
          fun e => by simp [h0] at e⟩
      · rename_i hd
        have hd : isLive o = false := by simpa using hd
        -- a dead head of the copy is dropped: skipped, or the evaluation raises (`status := 2`)
        have e : ∀ x, x ∈ it'.yielded ++ it'.rest bc ↔
            x = o ∨ x ∈ it'.yielded ++ Iter.rest bc { it' with cur := rest } := by
          simp only [Iter.rest, hcur, List.cons_append, List.mem_append, List.mem_cons, or_left_comm, implies_true]
        have dropped : ∀ s, s ≠ 1 → Pulled bc isLive it { it' with cur := rest, status := s } := fun s hs =>
          ⟨fun x hx => h.sub x ((e x).2 (Or.inr hx)),
            fun x hx => (h.sup x hx).elim (fun hx => ((e x).1 hx).elim (fun e => Or.inr (e ▸ hd)) Or.inl) Or.inr,
            h.same, h.walk, fun e => absurd e hs⟩
        split
        · exact Pulled.pull skipDead fuel _ h0 (dropped it'.status (by simp [h0]))
        · exact dropped 2 (by decide)
    · rename_i hcur
      split
      · rename_i c w hwalk
        -- the copy is used up: the list of the next class is copied, and was ahead before
        have e : ∀ x, x ∈ it'.yielded ++
            Iter.rest bc { it' with walk := w, cur := (bc.filter (fun x => x.cls == c)).map (·.obj) } ↔
            x ∈ it'.yielded ++ it'.rest bc := by
          simp only [Iter.rest, List.mem_append, hcur, hwalk, List.flatMap_cons, List.nil_append, implies_true]
        exact Pulled.pull skipDead fuel _ h0 ⟨fun x hx => h.sub x ((e x).1 hx), fun x hx => (h.sup x hx).imp_left (e x).2,
          h.same, (fun e0 => nomatch (h.walk e0).symm.trans hwalk), fun e => by simp [h0] at e⟩
      · rename_i hwalk
        exact ⟨h.sub, h.sup, h.same, h.walk, fun _ => ⟨hcur, hwalk⟩⟩

theorem Iter.pull_pulled (skipDead : Bool) (bc : List W) (isLive : Obj → Bool) (fuel : Nat) (it : Iter)
    (h0 : it.status = 0) : Pulled bc isLive it (Iter.pull skipDead bc isLive fuel it).1 :=
  Pulled.pull skipDead fuel it h0 (.refl h0)

theorem begin_expected (q : Quirks) (snap : Bool) (S : Schema) (a : Alloc σ) (st : St σ) (it : Iter) :
    (it.begin q snap S a st).2.expected = st.h.expected S it.cls := by
  unfold Iter.begin
  split
  · exact congrArg (Heap.expected S · it.cls) (step_sweep_heap q S a st)
  · exact congrArg (Heap.expected S · it.cls) (step_sweep_heap q S a st)

theorem begin_state (q : Quirks) (snap : Bool) (S : Schema) (a : Alloc σ) {st : St σ} (he : st.err = false) (it : Iter) :
    (it.begin q snap S a st).1 = { st with g := sweep q a st.g st.h.isLive } := by
  unfold Iter.begin
  rw [step_sweep q S a st he]
  split
  · rfl
  · rfl

theorem begin_iter (q : Quirks) (snap : Bool) (S : Schema) (a : Alloc σ) (st : St σ) (it : Iter) :
    (it.begin q snap S a st).2.started = true ∧ (it.begin q snap S a st).2.status = it.status ∧
      (it.begin q snap S a st).2.yielded = it.yielded := by
  unfold Iter.begin
  split
  · exact ⟨rfl, rfl, rfl⟩
  · exact ⟨rfl, rfl, rfl⟩

theorem advance_ended (q : Quirks) (snap skipDead : Bool) (S : Schema) (a : Alloc σ) (st : St σ) {it : Iter}
    (h0 : it.status ≠ 0) : advance q snap skipDead S a st it = (st, it) := by
  simp [advance, h0]

theorem advance_started (q : Quirks) (snap skipDead : Bool) (S : Schema) (a : Alloc σ) (st : St σ) {it : Iter}
    (hs : it.started = true) (h0 : it.status = 0) :
    ∃ fuel qv, advance q snap skipDead S a st it =
      ({ st with h := { st.h with qvars := qv } }, (Iter.pull skipDead st.g.byClass st.h.isLive fuel it).1) := by
  unfold advance
  simp only [h0, hs, bne_self_eq_false, Bool.false_eq_true, ↓reduceIte]
  split
  · exact ⟨_, _, rfl⟩
  · exact ⟨_, _, rfl⟩

theorem advance_first (q : Quirks) (snap skipDead : Bool) (S : Schema) (a : Alloc σ) (st : St σ) {it : Iter}
    (hs : it.started = false) (h0 : it.status = 0) :
    advance q snap skipDead S a st it =
      advance q snap skipDead S a (it.begin q snap S a st).1 (it.begin q snap S a st).2 := by
  have hb := begin_iter q snap S a st it
  unfold advance
  simp [hs, h0, hb.1, hb.2.1]

/-- the three cases of one `next()`: a closed evaluation is left alone; a started one pulls, and the state changes in
`qvars` only; the first `next()` is `Iter.begin` followed by the `next()` of a started evaluation -/
theorem advance_induct (q : Quirks) (snap skipDead : Bool) (S : Schema) (a : Alloc σ)
    {C : St σ → Iter → St σ × Iter → Prop} (ended : ∀ st it, it.status ≠ 0 → C st it (st, it))
    (pull : ∀ st it fuel qv, it.started = true → it.status = 0 →
      C st it ({ st with h := { st.h with qvars := qv } }, (Iter.pull skipDead st.g.byClass st.h.isLive fuel it).1))
    (first : ∀ st it p, it.started = false → it.status = 0 →
      C (it.begin q snap S a st).1 (it.begin q snap S a st).2 p → C st it p) :
    ∀ st it, C st it (advance q snap skipDead S a st it) := by
  have started : ∀ st it, it.started = true → it.status = 0 → C st it (advance q snap skipDead S a st it) := by
    intro st it hs h0
    obtain ⟨fuel, qv, e⟩ := advance_started q snap skipDead S a st hs h0
    exact e ▸ pull st it fuel qv hs h0
  intro st it
  by_cases h0 : it.status = 0
  · cases hs : it.started with
    | true => exact started st it hs h0
    | false =>
      have hb := begin_iter q snap S a st it
      rw [advance_first q snap skipDead S a st hs h0]
      exact first st it _ hs h0 (started _ _ hb.1 (hb.2.1.trans h0))
  · exact advance_ended q snap skipDead S a st h0 ▸ ended st it h0

/-! ### what is yielded is of the census, or late -/

/-- what a run keeps true of each evaluation `it`, relative to the registry's class lists `bc`: what it has seen and what
is ahead of its walk is of the census or late -/
structure IterOK (bc : List W) (it : Iter) : Prop where
  seen : ∀ o ∈ it.yielded ++ it.cur, o ∈ it.expected ∨ o ∈ it.late
  ahead : it.status = 0 → ∀ w ∈ bc, w.cls ∈ it.walk → w.obj ∈ it.expected ∨ w.obj ∈ it.late
  idle : it.started = false → it.walk = [] ∧ it.cur = [] ∧ it.yielded = []

theorem IterOK.mono {bc bc' : List W} {it : Iter} (h : IterOK bc it) (hs : ∀ w ∈ bc', w ∈ bc) : IterOK bc' it :=
  ⟨h.seen, fun h0 w hw => h.ahead h0 w (hs w hw), h.idle⟩

theorem IterOK.noteLate {before after : List W} {it : Iter} (h : IterOK before it) :
    IterOK after (it.noteLate before after) := by
  refine ⟨fun o ho => (h.seen o ho).imp_right (List.mem_append_left _), fun h0 w hw hc => ?_, h.idle⟩
  by_cases hb : w ∈ before
  · exact (h.ahead h0 w hb hc).imp_right (List.mem_append_left _)
  · -- a wrapper the class lists did not hold before, in a class ahead of the walk, is what `noteLate` records
    refine Or.inr (List.mem_append_right _ ?_)
    have hst : it.started = true := by
      cases hs : it.started with
      | true => rfl
      | false =>
        have := (h.idle hs).1
        simp [Iter.noteLate, this] at hc
    simp only [Iter.noteLate] at h0 hc
    simp only [List.mem_map, List.mem_filter, newlyKnown, Iter.awaits]
    exact ⟨w, ⟨⟨hw, by simpa using hb⟩, by simp [hst, h0, hc]⟩, rfl⟩

theorem IterOK.rest {bc : List W} {it : Iter} (h : IterOK bc it) (h0 : it.status = 0) :
    ∀ o ∈ it.yielded ++ it.rest bc, o ∈ it.expected ∨ o ∈ it.late := by
  intro o ho
  rcases List.mem_append.1 ho with hy | hr
  · exact h.seen o (List.mem_append_left _ hy)
  · rcases Iter.mem_rest.1 hr with hc | ⟨w, hw, rfl, hc⟩
    · exact h.seen o (List.mem_append_right _ hc)
    · exact h.ahead h0 w hw hc

theorem IterOK.of_rest {bc : List W} {it : Iter} (hs : it.started = true)
    (h : ∀ o ∈ it.yielded ++ it.rest bc, o ∈ it.expected ∨ o ∈ it.late) : IterOK bc it :=
  ⟨fun o ho => h o (List.append_assoc .. ▸ List.mem_append_left _ ho),
    fun _ w hw hc => h _ (List.mem_append_right _ (Iter.mem_rest.2 (Or.inr ⟨w, hw, rfl, hc⟩))),
    fun hf => by simp [hs] at hf⟩

theorem IterOK.pull (skipDead : Bool) (bc : List W) (isLive : Obj → Bool) (fuel : Nat) (it : Iter)
    (hs : it.started = true) (h0 : it.status = 0) (h : IterOK bc it) :
    IterOK bc (Iter.pull skipDead bc isLive fuel it).1 := by
  have p := Iter.pull_pulled skipDead bc isLive fuel it h0
  refine .of_rest (p.same.1.trans hs) fun o ho => ?_
  rw [p.same.2.1, p.same.2.2]
  exact h.rest h0 o (p.sub o ho)

theorem begin_rest {q : Quirks} (snap : Bool) (S : Schema) (a : Alloc σ) {st : St σ} (hI : Inv q st)
    (he : st.err = false) (it : Iter) (o : Obj) :
    (o ∈ (it.begin q snap S a st).2.expected →
      o ∈ (it.begin q snap S a st).2.rest (it.begin q snap S a st).1.g.byClass) ∧
    (it.cur = [] → o ∈ (it.begin q snap S a st).2.rest (it.begin q snap S a st).1.g.byClass →
      o ∈ (it.begin q snap S a st).2.expected) := by
  rw [begin_expected, ← census_mem (a := a) hI]
  unfold Iter.begin
  rw [step_sweep q S a st he]
  -- the snapshot copies the census; the per-class copy has it ahead, behind what the copy holds (nothing, from idle)
  split
  · simp only [Iter.rest, instancesOf, classesOf, List.flatMap_nil, List.append_nil, imp_self, implies_true, and_self]
  · exact ⟨List.mem_append_right _, fun hc h => (List.mem_append.1 h).resolve_left (by simp [hc])⟩

theorem IterOK.begin {q : Quirks} (snap : Bool) (S : Schema) (a : Alloc σ) {st : St σ} (hI : Inv q st)
    (he : st.err = false) (it : Iter) (hid : it.yielded = []) (hic : it.cur = []) :
    IterOK (it.begin q snap S a st).1.g.byClass (it.begin q snap S a st).2 := by
  refine .of_rest (begin_iter q snap S a st it).1 fun o ho => ?_
  rw [(begin_iter q snap S a st it).2.2, hid] at ho
  exact Or.inl ((begin_rest snap S a hI he it o).2 hic ho)

theorem sweep_byClass_subset {q : Quirks} {a : Alloc σ} {st : St σ} (hI : Inv q st) :
    ∀ w ∈ (sweep q a st.g st.h.isLive).byClass, w ∈ st.g.byClass := by
  intro w hw
  rw [(hI.sweep (a := a)).byClassEq, mem_sweep_nodes hI] at hw
  rw [hI.byClassEq]
  exact hw.1

theorem Inv.setCache {q : Quirks} {st : St σ} (hI : Inv q st) (k : Nat) (ys : List Obj) : Inv q (setCache st k ys) :=
  hI.heap_irrelevant _ rfl rfl rfl

theorem advance_ok {q : Quirks} (hq : q.deadEndpointRaises = false) (snap skipDead : Bool) (S : Schema) (a : Alloc σ)
    {st : St σ} (hI : Inv q st) (it : Iter) (h : IterOK st.g.byClass it) :
    let p := advance q snap skipDead S a st it
    Inv q p.1 ∧ (∀ w ∈ p.1.g.byClass, w ∈ st.g.byClass) ∧ IterOK p.1.g.byClass p.2 := by
  refine advance_induct q snap skipDead S a (C := fun st it p => Inv q st → IterOK st.g.byClass it →
    Inv q p.1 ∧ (∀ w ∈ p.1.g.byClass, w ∈ st.g.byClass) ∧ IterOK p.1.g.byClass p.2) ?_ ?_ ?_ st it hI h
  · exact fun st it _ hI h => ⟨hI, fun _ hw => hw, h⟩
  · exact fun st it fuel qv hs h0 hI h =>
      ⟨hI.heap_irrelevant _ rfl rfl rfl, fun _ hw => hw, IterOK.pull skipDead _ _ fuel it hs h0 h⟩
  · intro st it p hs h0 ih hI h
    have he := hI.err_false hq
    have hg := begin_state q snap S a he it
    obtain ⟨h1, h2, h3⟩ := ih (hg ▸ hI.sweep) (IterOK.begin snap S a hI he it (h.idle hs).2.2 (h.idle hs).2.1)
    exact ⟨h1, fun w hw => sweep_byClass_subset hI w (hg ▸ h2 w hw), h3⟩

/-- the invariant of a run: the registry is consistent and every evaluation is within census + late, relative to the
registry's class lists as they are now -/
def RunOK (q : Quirks) (r : SRun σ) : Prop := Inv q r.st ∧ ∀ it ∈ r.iters, IterOK r.st.g.byClass it

theorem RunOK.inv {q : Quirks} {r : SRun σ} (h : RunOK q r) : Inv q r.st := h.1
theorem RunOK.iter {q : Quirks} {r : SRun σ} (h : RunOK q r) : ∀ it ∈ r.iters, IterOK r.st.g.byClass it := h.2

/-- ANY transition between two `next()` calls that keeps the registry consistent will do (every operation of the model,
`C13_inv_step`, and every composition of them) -/
theorem RunOK.between {q : Quirks} {r : SRun σ} (h : RunOK q r) {st' : St σ} (hI : Inv q st') : RunOK q (r.between st') :=
  ⟨hI, List.forall_mem_map.2 fun it hit => (h.iter it hit).noteLate⟩

theorem RunOK.start {q : Quirks} (S : Schema) (a : Alloc σ) (ha : a.Valid) {r : SRun σ} (h : RunOK q r) (k : Nat)
    (c : Cls) : RunOK q (r.start q S a k c) := by
  unfold SRun.start
  split
  · exact h
  · refine ⟨C13_inv_step q S a ha r.st (.mkq (iterKey k) c none) h.inv, List.forall_mem_append.2 ⟨fun it hit => ?_,
      List.forall_mem_singleton.2 ⟨fun o ho => by simp at ho, fun _ w _ hc => by simp at hc, fun _ => ⟨rfl, rfl, rfl⟩⟩⟩⟩
    rw [step_mkq_graph q S a r.st (iterKey k) c none]
    exact h.iter it hit

theorem RunOK.next {q : Quirks} (hq : q.deadEndpointRaises = false) (snap skipDead : Bool) (S : Schema) (a : Alloc σ)
    {r : SRun σ} (h : RunOK q r) (k : Nat) : RunOK q (r.next q snap skipDead S a k) := by
  unfold SRun.next
  split
  · exact h
  · rename_i it hfind
    have hit : it ∈ r.iters := List.mem_of_find?_eq_some hfind
    obtain ⟨h1, h2, h3⟩ := advance_ok hq snap skipDead S a h.inv it (h.iter it hit)
    refine ⟨h1, List.forall_mem_map.2 fun y hy => ?_⟩
    split
    · exact h3
    · exact (h.iter y hy).mono h2

theorem runOK_init (q : Quirks) (a : Alloc σ) : RunOK q ({ st := St.init a } : SRun σ) :=
  ⟨C13_inv_init q a, fun it hit => by simp at hit⟩

theorem runOK_run (q : Quirks) (hq : q.deadEndpointRaises = false) (snap skipDead : Bool) (S : Schema) (a : Alloc σ)
    (ha : a.Valid) (ops : List SOp) : RunOK q (runSOps q snap skipDead S a ops) := by
  refine List.foldlRecOn (motive := RunOK q) ops _ (runOK_init q a) fun r h op _ => ?_
  cases op with
  | op o => exact h.between (C13_inv_step q S a ha _ _ h.inv)
  | start k c => exact h.start S a ha k c
  | next k => exact h.next hq snap skipDead S a k

/-- For every history of operations interleaved with the `next()` calls of any number of
lazily consumed evaluations, every valid allocator, every `id()` recycling, with the per-class copy of the code as it is
(`snap = false`) or the snapshot (`snap = true`), skipping dead instances or raising on them: an instance an evaluation
has yielded belongs to the census taken at that evaluation's first `next()` — or it became known to the registry while
the evaluation was suspended, in a class its walk had not reached yet (`late`, what F-C13-3 describes). -/
theorem C13_stepwise_census (q : Quirks) (hq : q.deadEndpointRaises = false) (snap skipDead : Bool) (S : Schema)
    (a : Alloc σ) (ha : a.Valid) (ops : List SOp) :
    ∀ it ∈ (runSOps q snap skipDead S a ops).iters, ∀ o ∈ it.yielded, o ∈ it.expected ∨ o ∈ it.late :=
  fun it hit o ho => ((runOK_run q hq snap skipDead S a ha ops).iter it hit).seen o (List.mem_append_left _ ho)

/-- With the per-class copy (`snap = false`, the code at /repo HEAD): outside the trigger of F-C13-3 every evaluation
ranges within the census of its first `next()`. -/
theorem C13_stepwise_partial (q : Quirks) (hq : q.deadEndpointRaises = false) (skipDead : Bool) (S : Schema)
    (a : Alloc σ) (ha : a.Valid) (ops : List SOp) (hno : (runSOps q false skipDead S a ops).lateKnown = false) :
    ∀ it ∈ (runSOps q false skipDead S a ops).iters, ∀ o ∈ it.yielded, o ∈ it.expected := by
  intro it hit o ho
  rcases C13_stepwise_census q hq false skipDead S a ha ops it hit o ho with h | h
  · exact h
  · simp only [SRun.lateKnown, List.any_eq_false] at hno
    have := hno it hit
    cases hl : it.late with
    | nil => simp [hl] at h
    | cons x xs => simp [hl] at this

/-! ### the snapshot: nothing is ever late -/

/-- with the snapshot the walk is empty from the first `next()` on, so nothing is ever awaited -/
structure SnapOK (it : Iter) : Prop where
  walk : it.walk = []
  late : it.late = []

theorem pull_snapOK (skipDead : Bool) (bc : List W) (isLive : Obj → Bool) (fuel : Nat) (it : Iter)
    (h0 : it.status = 0) (h : SnapOK it) : SnapOK (Iter.pull skipDead bc isLive fuel it).1 :=
  have p := Iter.pull_pulled skipDead bc isLive fuel it h0
  ⟨p.walk h.walk, p.same.2.2.trans h.late⟩

theorem advance_snapOK (q : Quirks) (skipDead : Bool) (S : Schema) (a : Alloc σ) (st : St σ) (it : Iter)
    (h : SnapOK it) : SnapOK (advance q true skipDead S a st it).2 := by
  refine advance_induct q true skipDead S a (C := fun _ it p => SnapOK it → SnapOK p.2) ?_ ?_ ?_ st it h
  · exact fun _ _ _ h => h
  · exact fun st it fuel _ _ h0 h => pull_snapOK skipDead _ _ fuel it h0 h
  · exact fun st it p _ _ ih h => ih ⟨rfl, h.late⟩

theorem snapOK_run (q : Quirks) (skipDead : Bool) (S : Schema) (a : Alloc σ) (ops : List SOp) :
    ∀ it ∈ (runSOps q true skipDead S a ops).iters, SnapOK it := by
  refine List.foldlRecOn (motive := fun r : SRun σ => ∀ it ∈ r.iters, SnapOK it) ops _ (fun it hit => by simp at hit)
    fun r h op _ => ?_
  cases op with
  | op o =>
    refine List.forall_mem_map.2 fun y hy => ⟨(h y hy).walk, ?_⟩
    -- nothing is awaited by an evaluation whose walk is empty
    simp [Iter.noteLate, Iter.awaits, (h y hy).walk, (h y hy).late]
  | start k c =>
    simp only [stepSOp, SRun.start]
    split
    · exact h
    · exact List.forall_mem_append.2 ⟨h, List.forall_mem_singleton.2 ⟨rfl, rfl⟩⟩
  | next k =>
    simp only [stepSOp, SRun.next]
    split
    · exact h
    · rename_i it0 hfind
      refine List.forall_mem_map.2 fun y hy => ?_
      split
      · exact advance_snapOK q skipDead S a r.st it0 (h it0 (List.mem_of_find?_eq_some hfind))
      · exact h y hy

/-- With the class lists copied at the first `next()` (the repair F-C13-3 asks for) a lazily
consumed evaluation yields only instances of the census taken at its first `next()`, whatever is interleaved. -/
theorem C13_stepwise_snapshot (q : Quirks) (hq : q.deadEndpointRaises = false) (skipDead : Bool) (S : Schema)
    (a : Alloc σ) (ha : a.Valid) (ops : List SOp) :
    ∀ it ∈ (runSOps q true skipDead S a ops).iters, it.late = [] ∧ ∀ o ∈ it.yielded, o ∈ it.expected := by
  intro it hit
  have hl := (snapOK_run q skipDead S a ops it hit).late
  refine ⟨hl, fun o ho => ?_⟩
  rcases C13_stepwise_census q hq true skipDead S a ha ops it hit o ho with h | h
  · exact h
  · simp [hl] at h

/-! ### witnesses -/

/-- the witness of F-C13-3: instance 0 of class 0; an evaluation over class 0 started and advanced once; instance 1 of the
subclass 1 created; advanced twice -/
def cexStepOps : List SOp :=
  [.op (.new 0 0 0), .start 1 0, .next 1, .op (.new 1 1 1), .next 1, .next 1]

/-- The witness of finding F-C13-3: with the per-class copy the suspended evaluation yields the
instance of the subclass created after its first `next()`, which is not of its census; with the snapshot it does not. -/
theorem C13_cex_stepwise :
    ((runSOps Quirks.asIs false true cexSchema lifo cexStepOps).iters.map
      (fun it => (it.yielded, it.expected, it.late, it.status))) = [([0, 1], [0], [1], 1)] ∧
    ((runSOps Quirks.asIs true true cexSchema lifo cexStepOps).iters.map
      (fun it => (it.yielded, it.expected, it.late, it.status))) = [([0], [0], [], 1)] := by
  decide +kernel

/-- non-vacuity of `C13_stepwise_partial`: a history with interleaved creations of the class being walked (not late) -/
example :
    let r := runSOps Quirks.asIs false true cexSchema lifo
      [.op (.new 0 0 0), .op (.new 1 1 1), .start 1 0, .next 1, .op (.new 2 0 2), .next 1, .next 1]
    r.lateKnown = false ∧ r.iters.map (fun it => (it.yielded, it.expected, it.status)) = [([0, 1], [0, 1], 1)] := by
  decide +kernel

end KrroodVerif.SG
