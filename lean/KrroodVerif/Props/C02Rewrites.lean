import KrroodVerif.Lemmas.EqlRewritesLemmas
import KrroodVerif.Props.C02
/-!
# C01 / C02 — the construction-time rewrites, tied to the source by translation

`harness/translate/c02_translate.py` regenerates the `RewriteTable` of `Model/EqlRewrites.lean` from the current Python AST
on every run, prints it as `KrroodVerif.Eql.Translated.rewrites` in a module of its own (generated at check time, not part
of this tree) and has the kernel check `Translated.rewrites = Eql.rewrites` and `RewritesOk Translated.rewrites = true`
there (both by `decide`). Two theorems of `Lemmas/EqlRewritesLemmas.lean` make these obligations a tie:
`buildWith_rewrites_eq_build` (every C01/C02/C03/C10/C11 theorem about `build` is a theorem about the regenerated table as
long as the first obligation holds) and `satE_buildWith` (EVERY admissible table preserves the first-order meaning of every
surface expression). Here: what else an admissible table keeps — `or_` over equal variable sets is `ElseIf`, otherwise
`Union`, and on expressions that negate atoms only (⊇ `F2`) it builds exactly what `build` builds —, an admissible table
that is not the code's, the tables of the seeded changes, which `RewritesOk` rejects, and the `==` / `!=` rule of a
`Comparator` on flatten-free operands.
-/
namespace KrroodVerif.Eql

/-- `satE_build` (Lemmas/EqlRewritesLemmas.lean) is the instance `t = rewrites` of `satE_buildWith` -/
theorem satE_build_of_table (w : World) (s : SExpr) (σ : Asg) : sat w s σ = satE w (build s) σ :=
  satE_build w s σ

/-! ### admissible tables and the fragments of the evaluation theorems -/

/-- Under every admissible table the operator of `or_` chains builds `ElseIf` exactly when its operands have the same
non-literal variables and `Union` otherwise (what `C02_multiplicity` — `ElseIf` only between equal variable sets — and
the C01 theorems — no `ElseIf` over different sets — need). -/
theorem rewritesOk_or_equal_vars {t : RewriteTable} (h : RewritesOk t = true) (l r : Expr) :
    (sameSet l.vars r.vars = true → mkBin t.orRule t.orOp l r = .elseIf l r) ∧
    (sameSet l.vars r.vars = false → mkBin t.orRule t.orOp l r = .union l r) := by
  have hp := RewritesOk.unpack h
  rw [hp.orOp, mkBin_optOr hp.orRule]
  constructor
  · intro hs
    simp [mkOr, hs]
  · intro hs
    simp [mkOr, hs]

theorem foldWith_pair {m : FoldMode} (hm : m ≠ .reversedNested) (f : Expr → Expr → Expr) (a b : Expr) :
    foldWith m f a [b] = f a b := by
  cases m with
  | leftNested => rfl
  | rightNested => rfl
  | reversedNested => exact absurd rfl hm

/-- the same at the surface: `or_(a, b)` -/
theorem buildWith_or_pair {t : RewriteTable} (h : RewritesOk t = true) (a b : Surface) :
    buildWith t (.orN a (.cons b .nil)) =
      (if sameSet (buildWith t a).vars (buildWith t b).vars then .elseIf (buildWith t a) (buildWith t b)
       else .union (buildWith t a) (buildWith t b)) := by
  have hp := RewritesOk.unpack h
  simp only [buildWith, buildListWith, foldWith_pair hp.fold, hp.orOp, mkBin_optOr hp.orRule, mkOr]

/-- `not_` is applied to atoms only (comparisons, membership, attribute chains as conditions, `HasType`); `F2 ⊆` this -/
def SExpr.notOnAtoms : SExpr → Bool
  | .and l r | .or l r => l.notOnAtoms && r.notOnAtoms
  | .not (.cmp _ _ _) | .not (.contains _ _) | .not (.truth _) | .not (.hasType _ _) => true
  | .not _ => false
  | .exists_ _ e | .forAll _ e => e.notOnAtoms
  | _ => true

theorem SExpr.notOnAtoms_of_F2 : ∀ {s : SExpr}, s.F2 = true → s.notOnAtoms = true
  | .cmp _ _ _, _ | .contains _ _, _ | .truth _, _ | .hasType _ _, _ => rfl
  | .and l r, h => by
    simp only [SExpr.F2, Bool.and_eq_true] at h
    simp only [SExpr.notOnAtoms, Bool.and_eq_true]
    exact ⟨notOnAtoms_of_F2 h.1, notOnAtoms_of_F2 h.2⟩
  | .or l r, h => by
    simp only [SExpr.F2, Bool.and_eq_true] at h
    simp only [SExpr.notOnAtoms, Bool.and_eq_true]
    exact ⟨notOnAtoms_of_F2 h.1.1, notOnAtoms_of_F2 h.1.2⟩
  | .not e, h => by
    simp only [SExpr.F2] at h
    cases e <;> simp_all [SExpr.isAtom, SExpr.notOnAtoms]
  | .exists_ _ _, h | .forAll _ _, h => by simp [SExpr.F2] at h

/-- On expressions that negate atoms only (`F2` and every negation-normal expression, quantifiers included) EVERY
admissible table builds exactly the expression `build` builds: the freedom `RewritesOk` leaves (nesting of chains, De
Morgan / double-negation forms of `_invert_`, `not_contains`) does not reach this fragment, so every evaluation theorem
stated for `build` on it holds for the regenerated table. -/
theorem buildWith_eq_build_of_notOnAtoms {t : RewriteTable} (h : RewritesOk t = true) :
    ∀ (s : SExpr), s.notOnAtoms = true → buildWith t (Surface.ofS s) = build s := by
  have hp := RewritesOk.unpack h
  intro s
  induction s with
  | cmp op l r | truth x | hasType x c =>
    intro _
    rfl
  | contains c i =>
    intro _
    simp only [Surface.ofS, buildWith, hp.containsSwapped, Bool.false_eq_true, if_false, build]
  | and l r ihl ihr =>
    intro hs
    simp only [SExpr.notOnAtoms, Bool.and_eq_true] at hs
    simp only [Surface.ofS, buildWith, buildListWith, foldWith_pair hp.fold, ihl hs.1, ihr hs.2, build]
    rw [hp.andOp]
    rfl
  | or l r ihl ihr =>
    intro hs
    simp only [SExpr.notOnAtoms, Bool.and_eq_true] at hs
    simp only [Surface.ofS, buildWith, buildListWith, foldWith_pair hp.fold, ihl hs.1, ihr hs.2, build, hp.orOp,
      mkBin_optOr hp.orRule]
  | not e _ =>
    intro hs
    -- `not_` calls `_invert_` or wraps in `Not` (`t.notInverts`, which `split` decides); on an atom either way gives `Not` of
    -- the atom, an admissible `_invert_` of a `Comparator` by `invComparatorWith_of_ok`
    cases e with
    | cmp op l r =>
      simp only [Surface.ofS, buildWith, notWith, invertWith, build, invert]
      split
      · exact invComparatorWith_of_ok hp.invComparator (.cmp op) (by simp) l r
      · rfl
    | contains c i =>
      simp only [Surface.ofS, buildWith, hp.containsSwapped, Bool.false_eq_true, if_false, notWith, invertWith, build,
        invert]
      split
      · exact invComparatorWith_of_ok hp.invComparator .contains (by simp) c i
      · rfl
    | truth x | hasType x c =>
      simp only [Surface.ofS, buildWith, notWith, invertWith, build, invert]
      split <;> rfl
    | and _ _ | or _ _ | not _ | exists_ _ _ | forAll _ _ => simp [SExpr.notOnAtoms] at hs
  | exists_ v e ih | forAll v e ih =>
    intro hs
    simp only [SExpr.notOnAtoms] at hs
    simp only [Surface.ofS, buildWith, ih hs, build, hp.existsCtor, hp.forAllCtor, QCtor.mk]

/-- `C02_multiplicity` for the query built with ANY admissible table: on `F2` evaluation of the expression `buildWith t`
builds yields exactly one row per satisfying assignment. -/
theorem C02_multiplicity_okTable {t : RewriteTable} (ht : RewritesOk t = true) (w : World) (q : SQuery) (c : SExpr)
    (hc : q.cond = some c) (hF : c.F2 = true) (hsel : selOK q.sel c = true)
    (hnd : ∀ v, (w.dom v).Nodup) (hlit : LitNodup (build c))
    {rows rows' : List (List Val)}
    (h1 : evalQuery w { sel := q.sel, cond := some (buildWith t (Surface.ofS c)) } = .ok rows)
    (h2 : solutions w q = .ok rows') :
    rows.Perm rows' := by
  rw [buildWith_eq_build_of_notOnAtoms ht c (SExpr.notOnAtoms_of_F2 hF)] at h1
  have : q.toQuery = { sel := q.sel, cond := some (build c) } := by simp only [SQuery.toQuery, hc, Option.map]
  exact C02_multiplicity w q c hc hF hsel hnd hlit (this ▸ h1) h2

/-! ### tables: the code's, an admissible variant, those of seeded changes -/

example : RewritesOk rewrites = true := rewrites_ok

/-- an admissible table that is NOT the code's: right-nested chains, De Morgan `_invert_` on `AND` / `ElseIf` / `Union`,
double negation removed, `not_contains` for negated membership -/
def deMorganTable : RewriteTable :=
  { rewrites with
    fold := .rightNested
    invComparator := .opTable [(.contains, .notContains)]
    invAnd := .bin .optOr .leftInv .rightInv
    invElseIf := .bin .and .leftInv .rightInv
    invUnion := .bin .and .leftInv .rightInv
    invNot := .operand false }

theorem deMorganTable_ok : RewritesOk deMorganTable = true ∧ deMorganTable ≠ rewrites := by
  decide +kernel

/-- non-vacuity of `satE_buildWith` beyond `rewrites`: `not_(and_(x == 1, not_(y == 2), x < y))`, from which the two
tables build different expressions (first example) with the same meaning (second) -/
def nvSurface : Surface :=
  .not (.andN (.cmp .eq (.var 0) (.lit 101 (.int 1)))
    (.cons (.not (.cmp .eq (.var 1) (.lit 102 (.int 2)))) (.cons (.cmp .lt (.var 0) (.var 1)) .nil)))

example :
    buildWith rewrites nvSurface =
      .not (.and (.and (.cmp .eq (.var 0) (.lit 101 (.int 1))) (.not (.cmp .eq (.var 1) (.lit 102 (.int 2)))))
        (.cmp .lt (.var 0) (.var 1))) ∧
    buildWith deMorganTable nvSurface =
      .union (.not (.cmp .eq (.var 0) (.lit 101 (.int 1))))
        (.union (.cmp .eq (.var 1) (.lit 102 (.int 2))) (.not (.cmp .lt (.var 0) (.var 1)))) := by
  decide +kernel

example (w : World) (σ : Asg) :
    satE w (buildWith rewrites nvSurface) σ = satE w (buildWith deMorganTable nvSurface) σ := by
  rw [satE_buildWith w rewrites_ok, satE_buildWith w deMorganTable_ok.1]

/-- the table of the seeded changes C01-r4m1 / C02-r3m1 (`Comparator._invert_` takes the "inverse" operation from a
map: `<` ↦ `>=`, `==` ↦ `!=`, `contains` ↦ `not_contains`, …) -/
def complementTable : RewriteTable :=
  { rewrites with
    invComparator := .opTable [(.cmp .eq, .cmp .ne), (.cmp .ne, .cmp .eq), (.cmp .lt, .cmp .ge), (.cmp .ge, .cmp .lt),
      (.cmp .gt, .cmp .le), (.cmp .le, .cmp .gt), (.contains, .notContains), (.notContains, .contains)] }

/-- `RewritesOk` rejects the complementary-operator table, and rightly: over partially ordered values (`frozenset`s
`{0}`, `{1}`) `not_(x < y)` is true and the `x >= y` it builds is false; over a flattened operand `not_(flatten(x) ==
1)` ("no element is 1") becomes "some element is not 1". -/
theorem complementTable_rejected :
    RewritesOk complementTable = false ∧
    (let w : World := { objs := [], doms := [] }
     let σ : Asg := [(0, .set [0]), (1, .set [1])]
     let e : Surface := .not (.cmp .lt (.var 0) (.var 1))
     satS w e σ = .ok true ∧ satE w (buildWith complementTable e) σ = .ok false) ∧
    (let w : World := { objs := [], doms := [] }
     let σ : Asg := [(0, .list [1, 2])]
     let e : Surface := .not (.cmp .eq (.flatten (.var 0)) (.lit 101 (.int 1)))
     satS w e σ = .ok false ∧ satE w (buildWith complementTable e) σ = .ok true) := by
  decide +kernel

/-- the tables of the seeded changes C01-r2m1 (`ElseIf` when the right variables are a SUBSET of the left ones) and
C02-m1 (variable LISTS compared) -/
def subsetTable : RewriteTable := { rewrites with orRule := { rewrites.orRule with test := .subsetRL } }
def listEqTable : RewriteTable := { rewrites with orRule := { rewrites.orRule with test := .listEq } }

/-- `RewritesOk` rejects both tables, and each builds the wrong node on a two-variable disjunction: `or_(x < y, x > 1)`
becomes an `ElseIf` (answers with `y` unbound are lost), `or_(x < y, y > x)` a `Union` (duplicates). -/
theorem orTables_rejected :
    RewritesOk subsetTable = false ∧ RewritesOk listEqTable = false ∧
    buildWith subsetTable (.orN (.cmp .lt (.var 0) (.var 1)) (.cons (.cmp .gt (.var 0) (.lit 101 (.int 1))) .nil)) =
      .elseIf (.cmp .lt (.var 0) (.var 1)) (.cmp .gt (.var 0) (.lit 101 (.int 1))) ∧
    buildWith listEqTable (.orN (.cmp .lt (.var 0) (.var 1)) (.cons (.cmp .gt (.var 1) (.var 0)) .nil)) =
      .union (.cmp .lt (.var 0) (.var 1)) (.cmp .gt (.var 1) (.var 0)) := by
  decide +kernel

/-! ### `== ↔ !=` on flatten-free operands: the `Comparator` rule alone -/

theorem applyCmp_ne_eq (w : World) (a b : Val) :
    applyCmp w .ne a b = (do pure (!(← applyCmp w .eq a b))) := by
  cases a <;> cases b <;> rfl

theorem applyCmp_eq_ne (w : World) (a b : Val) :
    applyCmp w .eq a b = (do pure (!(← applyCmp w .ne a b))) := by
  rw [applyCmp_ne_eq]
  exact (not_not_pure _).symm

theorem satE_cmp_noFlat (w : World) (σ : Asg) (op : CmpOp) (l r : Term)
    (hl : l.noFlat = true) (hr : r.noFlat = true) :
    satE w (.cmp op l r) σ = (do let a ← tval w σ l; let b ← tval w σ r; applyCmp w op a b) := by
  simp only [satE, tvals_noFlat w σ l hl, tvals_noFlat w σ r hr]
  cases tval w σ l with
  | error e => rfl
  | ok a =>
    cases tval w σ r with
    | error e => rfl
    | ok b =>
      show anyM [a] (fun a => anyM [b] fun b => applyCmp w op a b) = applyCmp w op a b
      rw [anyM_singleton, anyM_singleton]

/-- the Comparator rule that also accepts `== ↦ !=` and `!= ↦ ==` -/
def okComparatorNF : InvRule → Bool
  | .wrapNot => true
  | .opTable tbl => tbl.all fun p =>
      p.1 == .notContains || p == (.contains, .notContains) || p == (.cmp .eq, .cmp .ne) || p == (.cmp .ne, .cmp .eq)
  | _ => false

/-- On flatten-free operands a `Comparator._invert_` that replaces `==` by `!=` and `!=` by `==` (and nothing else)
negates. This is a statement about the rule `invComparatorWith`, not about `buildWith`: `RewritesOk` (through
`okComparator`) rejects such a table, and `satE_buildWith` says nothing of it. -/
theorem satE_invComparatorWith_noFlat_partial (w : World) {rule : InvRule} (h : okComparatorNF rule = true)
    (op : CmpOp) (l r : Term) (hl : l.noFlat = true) (hr : r.noFlat = true) (σ : Asg) :
    satE w (invComparatorWith rule (.cmp op) l r) σ = (do pure (!(← satE w (.cmp op l r) σ))) := by
  rcases invComparatorWith_cases rule (.cmp op) l r with he | ⟨tbl, k', rfl, hm, he⟩
  · rw [he]
    rfl
  · simp only [okComparatorNF, List.all_eq_true] at h
    have := h _ hm
    simp only [Bool.or_eq_true, beq_iff_eq, Prod.mk.injEq, OpK.cmp.injEq, reduceCtorEq, false_and, false_or] at this
    rw [he]
    rcases this with ⟨h1, h2⟩ | ⟨h1, h2⟩
    · subst h1 h2
      simp only [OpK.mk, satE_cmp_noFlat w σ _ l r hl hr, applyCmp_ne_eq]
      cases tval w σ l with
      | error e => rfl
      | ok a => cases tval w σ r <;> rfl
    · subst h1 h2
      simp only [OpK.mk, satE_cmp_noFlat w σ _ l r hl hr]
      cases tval w σ l with
      | error e => rfl
      | ok a =>
        cases tval w σ r with
        | error e => rfl
        | ok b => exact applyCmp_eq_ne w a b

/-- non-vacuity: the `==`/`!=` part of the seeded complementary-operator table passes, and the hypothesis is needed
(`complementTable_rejected`: with a flattened operand the meaning changes) -/
example : okComparatorNF (.opTable [(.cmp .eq, .cmp .ne), (.cmp .ne, .cmp .eq), (.contains, .notContains)]) = true := by
  decide +kernel

end KrroodVerif.Eql
