import KrroodVerif.Model.Json
/-!
# C19 — Unresolvable JSON type tags fail with the documented serialisation errors only

`resolve q env tag` (Model/Json.lean) transcribes `SubclassJSONSerializer.from_json` from
`data.get(JSON_TYPE_NAME)` up to the dispatch, over an import environment given as data; `Quirks.all` is the code
as it was found (six escaping exceptions), `Quirks.none` the repaired resolver (fixes/C19_tag_resolution.diff,
fixes/C19_abstract_base.diff: commits cc9618e, c6168f3), `Quirks.current` the code at /repo HEAD, which is
`Quirks.none`. `spec` is the property. Every theorem quantifies over **every** environment and **every** JSON value.
-/
namespace KrroodVerif.Json

theorem truthy_str {s : String} (hs : s ≠ "") : (Json.str s).truthy = true := by
  simp [Json.truthy, hs]

theorem rsplitDot_none_of_not_mem : ∀ (n : List Char), '.' ∉ n → rsplitDot n = none
  | [], _ => rfl
  | c :: cs, h => by
    have hc : c ≠ '.' := fun e => h (by simp [e])
    have hcs : '.' ∉ cs := fun e => h (by simp [e])
    simp [rsplitDot, rsplitDot_none_of_not_mem cs hcs, hc]

theorem rsplitDot_append (n : List Char) (hn : '.' ∉ n) :
    ∀ (m : List Char), rsplitDot (m ++ '.' :: n) = some (m, n)
  | [] => by simp [rsplitDot, rsplitDot_none_of_not_mem n hn]
  | c :: m => by simp [rsplitDot, rsplitDot_append n hn m]

theorem rsplit_fullName (c : Cls) (h : c.name.toList.contains '.' = false) :
    rsplit c.fullName = some (c.module, c.name) := by
  have hn : '.' ∉ c.name.toList := by simpa using h
  simp [rsplit, Cls.fullName, rsplitDot_append _ hn]

theorem ne_empty_of_rsplit {s m c : String} (h : rsplit s = some (m, c)) : s ≠ "" := by
  intro e
  subst e
  simp [rsplit, rsplitDot] at h

/-- The tags by how far `from_json` gets with them: no tag, a falsy tag, a truthy tag that is not a string, a string
without a dot, a string split into module and class name. A statement about every tag is checked on these five. -/
theorem tag_cases {motive : Option Json → Prop}
    (absent : motive none)
    (falsy : ∀ t, t.truthy = false → motive (some t))
    (nonStr : ∀ t, t.truthy = true → isStr t = false → motive (some t))
    (noDot : ∀ s, s ≠ "" → rsplit s = none → motive (some (.str s)))
    (split : ∀ s m c, s ≠ "" → rsplit s = some (m, c) → motive (some (.str s)))
    (tag : Option Json) : motive tag := by
  cases tag with
  | none => exact absent
  | some t =>
    cases ht : t.truthy with
    | false => exact falsy t ht
    | true =>
      cases t with
      | str s =>
        have hs : s ≠ "" := by simpa [Json.truthy] using ht
        cases hr : rsplit s with
        | none => exact noDot s hs hr
        | some p => exact split s p.1 p.2 hs hr
      | _ => exact nonStr _ ht rfl

theorem resolve_falsy (q : Quirks) (env : Env) {t : Json} (ht : t.truthy = false) :
    resolve q env (some t) = .err .missingType := by
  simp [resolve, ht]

theorem resolve_nonStr (q : Quirks) (env : Env) {t : Json} (ht : t.truthy = true) (hs : isStr t = false) :
    resolve q env (some t) = if q.nonStringTag then .escape .attributeError else .err .invalidFormat := by
  cases t <;> simp_all [resolve, isStr]

theorem resolve_noDot (q : Quirks) (env : Env) {s : String} (hs : s ≠ "") (hr : rsplit s = none) :
    resolve q env (some (.str s)) = .err .invalidFormat := by
  simp [resolve, truthy_str hs, hr]

/-- What `from_json` does once the tag is split into module and class name: a function of what the import and the
attribute lookup give. The quirks only turn documented errors into escaping exceptions; no dispatch depends on them. -/
def afterSplit (q : Quirks) : ImportOutcome → AttrKind → Outcome
  | .notFound, _ => .err .unknownModule
  | .importErr, _ => if q.importErr then .escape .importError else .err .unknownModule
  | .valueErr, _ => if q.importValueErr then .escape .valueError else .err .unknownModule
  | .typeErr, _ => if q.importTypeErr then .escape .typeError else .err .unknownModule
  | .ok, .missing => .err .classNotFound
  | .ok, .nonClass _ => if q.nonClassAttr then .escape .typeError else .err .classNotFound
  | .ok, .cls k ser reg impl =>
    if ser then
      if impl then .dispatch k .fromJson
      else if q.abstractSerializer then .escape .notImplementedError
      else .err .notDeserializable
    else if reg then .dispatch k .registry
    else .err .notDeserializable

theorem resolve_split (q : Quirks) (env : Env) {s m c : String} (hr : rsplit s = some (m, c)) :
    resolve q env (some (.str s)) = afterSplit q (env.importModule m) (env.getattr m c) := by
  simp only [resolve, truthy_str (ne_empty_of_rsplit hr), hr, Bool.not_true, Bool.false_eq_true, ↓reduceIte]
  cases env.importModule m <;> try rfl
  cases env.getattr m c <;> rfl

theorem quirk_ne_dispatch (b : Bool) (x : Exc) (e : DocErr) (k : Cls) (via : Via) :
    (if b then Outcome.escape x else .err e) ≠ .dispatch k via := by
  cases b <;> exact nofun

theorem afterSplit_dispatch_iff (q : Quirks) (io : ImportOutcome) (ak : AttrKind) (k : Cls) (via : Via) :
    afterSplit q io ak = .dispatch k via ↔
      io = .ok ∧ ∃ ser reg impl, ak = .cls k ser reg impl ∧ (if ser then impl = true else reg = true) ∧
        via = (if ser then .fromJson else .registry) := by
  cases io with
  | ok =>
    cases ak with
    | cls k' ser reg impl =>
      cases ser <;> cases reg <;> cases impl <;> simp [afterSplit, quirk_ne_dispatch, eq_comm (a := via)]
    | _ => simp [afterSplit, quirk_ne_dispatch]
  | _ => simp [afterSplit, quirk_ne_dispatch]

theorem resolve_dispatch_iff (q : Quirks) (env : Env) (tag : Option Json) (k : Cls) (via : Via) :
    resolve q env tag = .dispatch k via ↔
      ∃ s m c ser reg impl, tag = some (.str s) ∧ rsplit s = some (m, c) ∧ env.importModule m = .ok ∧
        env.getattr m c = .cls k ser reg impl ∧ (if ser then impl = true else reg = true) ∧
        via = (if ser then .fromJson else .registry) := by
  constructor
  · induction tag using tag_cases with
    | absent => exact nofun
    | falsy t ht =>
      rw [resolve_falsy _ _ ht]
      exact nofun
    | nonStr t ht hs =>
      rw [resolve_nonStr _ _ ht hs]
      split <;> exact nofun
    | noDot s hs hr =>
      rw [resolve_noDot _ _ hs hr]
      exact nofun
    | split s m c hs hr =>
      rw [resolve_split _ _ hr, afterSplit_dispatch_iff]
      rintro ⟨hi, ser, reg, impl, ha, h⟩
      exact ⟨s, m, c, ser, reg, impl, rfl, hr, hi, ha, h⟩
  · rintro ⟨s, m, c, ser, reg, impl, rfl, hr, hi, ha, h⟩
    rw [resolve_split _ _ hr, afterSplit_dispatch_iff]
    exact ⟨hi, ser, reg, impl, ha, h⟩

theorem resolve_none_meets (env : Env) (tag : Option Json) :
    (∀ x, resolve .none env tag ≠ .escape x) ∧ (spec env tag).accepts (resolve .none env tag) = true := by
  induction tag using tag_cases with
  | absent => exact ⟨nofun, rfl⟩
  | falsy t ht =>
    rw [resolve_falsy _ _ ht]
    refine ⟨nofun, ?_⟩
    cases t <;> simp_all [spec, Expect.accepts, Json.truthy]
  | nonStr t ht hs =>
    rw [resolve_nonStr _ _ ht hs]
    refine ⟨nofun, ?_⟩
    cases t <;> simp_all [spec, Expect.accepts, Json.truthy, Quirks.none, isStr]
  | noDot s hs hr => simp [resolve_noDot _ _ hs hr, spec, hs, hr, Expect.accepts]
  | split s m c hs hr =>
    simp only [spec, resolve_split _ _ hr, hs, hr, ↓reduceIte]
    cases env.importModule m with
    | ok =>
      cases env.getattr m c with
      | cls k ser reg impl => cases ser <;> cases reg <;> cases impl <;> simp [afterSplit, Expect.accepts, Quirks.none]
      | _ => simp [afterSplit, Expect.accepts, Quirks.none]
    | _ => simp [afterSplit, Expect.accepts, Quirks.none]

/-- Repaired resolver, every environment, every JSON value under the tag key (or none): the
outcome is a documented error or a dispatch — never an escaping exception — and a dispatch goes to exactly the
class the tag names (the class `getattr(import_module(m), c)` finds for `m.c = tag`), which is deserialisable,
through `_from_json` iff it is a `SubclassJSONSerializer`. -/
theorem C19_total (env : Env) (tag : Option Json) :
    (∀ x, resolve .none env tag ≠ .escape x) ∧
    (∀ k via, resolve .none env tag = .dispatch k via →
      ∃ s m c ser reg impl, tag = some (.str s) ∧ rsplit s = some (m, c) ∧ env.importModule m = .ok ∧
        env.getattr m c = .cls k ser reg impl ∧ (if ser then impl = true else reg = true) ∧
        (via = .fromJson ↔ ser = true)) := by
  refine ⟨(resolve_none_meets env tag).1, fun k via h => ?_⟩
  obtain ⟨s, m, c, ser, reg, impl, ht, hr, hi, ha, hx, rfl⟩ := (resolve_dispatch_iff ..).1 h
  exact ⟨s, m, c, ser, reg, impl, ht, hr, hi, ha, hx, by cases ser <;> simp⟩

/-- The repaired resolver does what the property demands on every input: the specific documented
error in the five canonical situations, the named class when it is deserialisable, some documented error
otherwise. -/
theorem C19_spec (env : Env) (tag : Option Json) : (spec env tag).accepts (resolve .none env tag) = true :=
  (resolve_none_meets env tag).2

/-- The five canonical situations get their specific error under *every* quirk setting — in particular from the
code as it was found (`Quirks.all`). -/
theorem C19_canonical (q : Quirks) (env : Env) :
    resolve q env none = .err .missingType ∧
    resolve q env (some .null) = .err .missingType ∧
    (∀ s, s ≠ "" → rsplit s = none → resolve q env (some (.str s)) = .err .invalidFormat) ∧
    (∀ s m c, rsplit s = some (m, c) → env.importModule m = .notFound →
      resolve q env (some (.str s)) = .err .unknownModule) ∧
    (∀ s m c, rsplit s = some (m, c) → env.importModule m = .ok → env.getattr m c = .missing →
      resolve q env (some (.str s)) = .err .classNotFound) ∧
    (∀ s m c k impl, rsplit s = some (m, c) → env.importModule m = .ok → env.getattr m c = .cls k false false impl →
      resolve q env (some (.str s)) = .err .notDeserializable) := by
  refine ⟨rfl, rfl, fun s hs h => resolve_noDot q env hs h, ?_, ?_, ?_⟩
  · intro s m c h hi
    rw [resolve_split q env h, hi]
    rfl
  · intro s m c h hi ha
    rw [resolve_split q env h, hi, ha]
    rfl
  · intro s m c k impl h hi ha
    rw [resolve_split q env h, hi, ha]
    rfl

/-- Under any quirk setting `q` (in particular `Quirks.all`, the code as it was found) the resolver behaves exactly
like the repaired one on every input outside the decidable trigger of the switched-on quirks; hence (with
`C19_total`, `C19_spec`) the property holds of that code on all those inputs. -/
theorem C19_partial (q : Quirks) (env : Env) (tag : Option Json) (h : trigger q env tag = false) :
    resolve q env tag = resolve .none env tag := by
  obtain ⟨q1, q2, q3, q4, q5, q6⟩ := q
  simp only [trigger, trigNonString, trigImportValueErr, trigImportTypeErr, trigImportErr, trigNonClass,
    trigAbstract, importOf] at h
  -- `h`: on this tag the condition of every switched-on quirk fails, so each `if q.…` of `resolve` takes the branch
  -- the repaired resolver takes
  induction tag using tag_cases with
  | absent => rfl
  | falsy t ht => rw [resolve_falsy _ _ ht, resolve_falsy _ _ ht]
  | nonStr t ht hs =>
    rw [resolve_nonStr _ _ ht hs, resolve_nonStr _ _ ht hs]
    simp_all [Quirks.none]
  | noDot s hs hr => rw [resolve_noDot _ _ hs hr, resolve_noDot _ _ hs hr]
  | split s m c hs hr =>
    simp only [hs, hr, ↓reduceIte] at h
    rw [resolve_split _ _ hr, resolve_split _ _ hr]
    cases hi : env.importModule m with
    | ok =>
      simp only [hi] at h ⊢
      cases ha : env.getattr m c with
      | nonClass k => simp_all [afterSplit, Quirks.none]
      | cls k ser reg impl => cases ser <;> cases impl <;> simp_all [afterSplit, Quirks.none]
      | missing => rfl
    | _ => simp_all [afterSplit, Quirks.none]

theorem C19_partial_total (q : Quirks) (env : Env) (tag : Option Json) (h : trigger q env tag = false) :
    (∀ x, resolve q env tag ≠ .escape x) ∧ (spec env tag).accepts (resolve q env tag) = true := by
  rw [C19_partial q env tag h]
  exact resolve_none_meets env tag

mutual
/-- Repaired resolver, every environment, every JSON document (lists and objects nested to any
depth, a tag — of any JSON type — or none in every object): `from_json` never fails with an exception outside the
documented hierarchy because of a type tag. -/
theorem C19_document (env : Env) (j : Json) (x : Exc) : fromJson .none env j ≠ .error (.escape x) :=
  match j, x with
  | .null, _ => by simp [fromJson]
  | .bool _, _ => by simp [fromJson]
  | .int _, _ => by simp [fromJson]
  | .float _, _ => by simp [fromJson]
  | .str _, _ => by simp [fromJson]
  | .arr xs, x => by
    have := noescape_list env xs x
    simp only [fromJson]
    split <;> simp_all
  | .obj kvs, x => by
    have h1 := (C19_total env (lookup tagKey kvs)).1
    have h2 := noescape_fields env kvs x
    simp only [fromJson]
    split
    · simp
    · -- the resolver would have to escape
      rename_i y hy
      exact absurd hy (h1 y)
    · split <;> simp_all
    · split <;> simp
theorem noescape_list (env : Env) : ∀ (js : List Json) (x : Exc), fromJsonList .none env js ≠ .error (.escape x)
  | [], _ => by simp [fromJsonList]
  | j :: js, x => by
    have h1 := C19_document env j x
    have h2 := noescape_list env js x
    simp only [fromJsonList]
    split
    · simp_all
    · split <;> simp_all
theorem noescape_fields (env : Env) :
    ∀ (kvs : List (String × Json)) (x : Exc), fromJsonFields .none env kvs ≠ .error (.escape x)
  | [], _ => by simp [fromJsonFields]
  | (k, v) :: r, x => by
    have h1 := C19_document env v x
    have h2 := noescape_fields env r x
    simp only [fromJsonFields]
    split
    · exact h2
    · split
      · simp_all
      · split <;> simp_all
end

/-- the abstract base class `SubclassJSONSerializer` itself -/
def cexBase : Cls :=
  ⟨"krrood.adapters.json_serializer:SubclassJSONSerializer", "krrood.adapters.json_serializer", "SubclassJSONSerializer"⟩

/-- the interpreter facts the witnesses need (as probed): `import_module("")` → ValueError,
`import_module(".")` → TypeError, `json` imports and `json.dumps` is a function,
`asyncio.windows_events` raises ImportError("win32 only"), `SubclassJSONSerializer` is a serializer class that does
not implement `_from_json` -/
def cexEnv : Env where
  importModule := fun m =>
    if m = "" then .valueErr else if m = "." then .typeErr else if m = "json" then .ok
    else if m = "krrood.adapters.json_serializer" then .ok
    else if m = "asyncio.windows_events" then .importErr else .notFound
  getattr := fun m n =>
    if m = "json" ∧ n = "dumps" then .nonClass .function
    else if m = "krrood.adapters.json_serializer" ∧ n = "SubclassJSONSerializer" then .cls cexBase true false false
    else .missing

/-- witness `{"__json_type__": 5}`: AttributeError escapes -/
theorem C19_cex_nonstring :
    trigger .all cexEnv (some (.int 5)) = true ∧ resolve .all cexEnv (some (.int 5)) = .escape .attributeError ∧
    (spec cexEnv (some (.int 5))).accepts (resolve .all cexEnv (some (.int 5))) = false := by decide

/-- witness `{"__json_type__": ".x"}`: ValueError("Empty module name") escapes -/
theorem C19_cex_empty_module :
    trigger .all cexEnv (some (.str ".x")) = true ∧
    resolve .all cexEnv (some (.str ".x")) = .escape .valueError ∧
    (spec cexEnv (some (.str ".x"))).accepts (resolve .all cexEnv (some (.str ".x"))) = false := by decide

/-- witness `{"__json_type__": "..x"}`: TypeError (relative import without package) escapes -/
theorem C19_cex_relative :
    trigger .all cexEnv (some (.str "..x")) = true ∧
    resolve .all cexEnv (some (.str "..x")) = .escape .typeError ∧
    (spec cexEnv (some (.str "..x"))).accepts (resolve .all cexEnv (some (.str "..x"))) = false := by decide

/-- witness `{"__json_type__": "json.dumps"}`: TypeError from `issubclass(function, …)` escapes -/
theorem C19_cex_nonclass :
    trigger .all cexEnv (some (.str "json.dumps")) = true ∧
    resolve .all cexEnv (some (.str "json.dumps")) = .escape .typeError ∧
    (spec cexEnv (some (.str "json.dumps"))).accepts (resolve .all cexEnv (some (.str "json.dumps"))) = false := by
  decide

/-- witness `{"__json_type__": "asyncio.windows_events.X"}`: the module's own ImportError escapes -/
theorem C19_cex_import_error :
    trigger .all cexEnv (some (.str "asyncio.windows_events.X")) = true ∧
    resolve .all cexEnv (some (.str "asyncio.windows_events.X")) = .escape .importError ∧
    (spec cexEnv (some (.str "asyncio.windows_events.X"))).accepts
      (resolve .all cexEnv (some (.str "asyncio.windows_events.X"))) = false := by decide

/-- witness `{"__json_type__": "krrood.adapters.json_serializer.SubclassJSONSerializer"}` — the abstract base is a
subclass of itself, is dispatched to, and the NotImplementedError of its `_from_json` escapes (F-C19-6) -/
theorem C19_cex_abstract :
    let tag := some (Json.str "krrood.adapters.json_serializer.SubclassJSONSerializer")
    trigger .all cexEnv tag = true ∧ resolve .all cexEnv tag = .escape .notImplementedError ∧
    (spec cexEnv tag).accepts (resolve .all cexEnv tag) = false ∧
    resolve .none cexEnv tag = .err .notDeserializable := by decide

/-! Non-vacuity of `C19_partial`: inputs outside every trigger, with non-trivial outcomes, and the repaired
resolver on the five witnesses. -/
example : trigger .all cexEnv (some (.str "json.nope")) = false ∧
    resolve .all cexEnv (some (.str "json.nope")) = .err .classNotFound := by decide
example : trigger .all cexEnv (some (.str "nodot")) = false ∧
    resolve .all cexEnv (some (.str "nodot")) = .err .invalidFormat := by decide
example : trigger .all cexEnv (some (.arr [])) = false ∧ resolve .all cexEnv (some (.arr [])) = .err .missingType := by
  decide
example : resolve .none cexEnv (some (.int 5)) = .err .invalidFormat ∧
    resolve .none cexEnv (some (.str ".x")) = .err .unknownModule ∧
    resolve .none cexEnv (some (.str "..x")) = .err .unknownModule ∧
    resolve .none cexEnv (some (.str "json.dumps")) = .err .classNotFound ∧
    resolve .none cexEnv (some (.str "asyncio.windows_events.X")) = .err .unknownModule := by decide

/-! `interp stageTable` — the table-driven reading of `from_json`, whose table the translator regenerates from the
source on every run — equals `resolve Quirks.current`, the function every theorem above is about. So the theorems
speak about `interp stageTable`, and a source change that alters the table breaks the regenerated obligation
`Translated.C19_stages_translated_eq_model`. -/
section Stages

attribute [local simp] interp interpFrom step tagTruthy isStrTag catches

/-- The table interpreter is the hand-written resolver, on the table of /repo HEAD with every quirk off and on the table
of commit 03a79e4 with every quirk on: one walk over the tags serves both. -/
theorem interp_eq_resolve (t : StageTable) (q : Quirks)
    (h : t = stageTable ∧ q = .none ∨ t = stageTableAsFound ∧ q = .all) (env : Env) (tag : Option Json) :
    interp t env tag = some (resolve q env tag) := by
  induction tag using tag_cases with
  | absent => rcases h with ⟨rfl, rfl⟩ | ⟨rfl, rfl⟩ <;> simp [stageTable, stageTableAsFound, resolve]
  | falsy t ht =>
    rw [resolve_falsy _ _ ht]
    rcases h with ⟨rfl, rfl⟩ | ⟨rfl, rfl⟩ <;> simp [stageTable, stageTableAsFound, ht]
  | nonStr t ht hs =>
    rw [resolve_nonStr _ _ ht hs]
    rcases h with ⟨rfl, rfl⟩ | ⟨rfl, rfl⟩ <;> cases t <;>
      simp_all [stageTable, stageTableAsFound, Quirks.none, Quirks.all, isStr]
  | noDot s hs hr =>
    rw [resolve_noDot _ _ hs hr]
    rcases h with ⟨rfl, rfl⟩ | ⟨rfl, rfl⟩ <;> simp [stageTable, stageTableAsFound, truthy_str hs, hr]
  | split s m c hs hr =>
    have ht := truthy_str hs
    rw [resolve_split _ _ hr]
    cases hi : env.importModule m with
    | ok =>
      cases ha : env.getattr m c with
      | cls k ser reg impl =>
        rcases h with ⟨rfl, rfl⟩ | ⟨rfl, rfl⟩ <;> cases ser <;> cases reg <;> cases impl <;>
          simp [stageTable, stageTableAsFound, afterSplit, Quirks.none, Quirks.all, ht, hr, hi, ha]
      | _ =>
        rcases h with ⟨rfl, rfl⟩ | ⟨rfl, rfl⟩ <;>
          simp [stageTable, stageTableAsFound, afterSplit, Quirks.none, Quirks.all, ht, hr, hi, ha]
    | _ =>
      rcases h with ⟨rfl, rfl⟩ | ⟨rfl, rfl⟩ <;>
        simp [stageTable, stageTableAsFound, afterSplit, Quirks.none, Quirks.all, ht, hr, hi]

/-- For every environment and every JSON value under the tag key: interpreting the stage table of /repo HEAD gives
exactly the outcome of the hand-written model. -/
theorem resolve_eq_interp (env : Env) (tag : Option Json) :
    interp stageTable env tag = some (resolve .current env tag) :=
  interp_eq_resolve _ _ (.inl ⟨rfl, rfl⟩) env tag

/-- The same interpreter on the table of the code as it was found (commit 03a79e4) reproduces all six recorded defects:
the escaping exceptions are consequences of the missing stages / narrower `except` clauses, not separate modelling
decisions. -/
theorem asFound_eq_interp (env : Env) (tag : Option Json) :
    interp stageTableAsFound env tag = some (resolve .all env tag) :=
  interp_eq_resolve _ _ (.inr ⟨rfl, rfl⟩) env tag

/-- what `fromJson` does with an object once the tag is resolved (the part after the dispatch) -/
def afterResolve (q : Quirks) (env : Env) (kvs : List (String × Json)) : Option Outcome → Except Err PyVal
  | some (.err e) => .error (.doc e)
  | some (.escape x) => .error (.escape x)
  | some (.dispatch c .fromJson) =>
    (match fromJsonFields q env kvs with
     | .ok fs => .ok (.obj c fs)
     | .error e => .error e)
  | some (.dispatch c .registry) =>
    (match lookup (env.payloadKey c) kvs with
     | some (.str p) => .ok (.ext c p)
     | _ => .error .payload)
  | none => .error .payload

theorem fromJson_eq_interp (env : Env) (kvs : List (String × Json)) :
    fromJson .current env (.obj kvs) = afterResolve .current env kvs (interp stageTable env (lookup tagKey kvs)) := by
  rw [resolve_eq_interp]
  simp only [fromJson]
  cases resolve .current env (lookup tagKey kvs) with
  | err e => rfl
  | escape x => rfl
  | dispatch c v => cases v <;> rfl

/-- `C19_total` and `C19_spec` restated about the table interpreter; uses `Quirks.current = Quirks.none` (by `rfl`),
i.e. that no finding of C19 is open at /repo HEAD. -/
theorem C19_total_stages (env : Env) (tag : Option Json) :
    ∃ o, interp stageTable env tag = some o ∧ (∀ x, o ≠ .escape x) ∧ (spec env tag).accepts o = true := by
  refine ⟨resolve .none env tag, ?_, resolve_none_meets env tag⟩
  rw [resolve_eq_interp]
  rfl

/-- whatever table is *equal* to the model's table inherits the property (used by the generated obligation) -/
theorem C19_of_table_eq (t : StageTable) (h : t = stageTable) (env : Env) (tag : Option Json) :
    ∃ o, interp t env tag = some o ∧ (∀ x, o ≠ .escape x) ∧ (spec env tag).accepts o = true := by
  subst h
  exact C19_total_stages env tag

/-- the interpreter on the two tables at the witnesses of F-C19-1, -4, -6 -/
example : interp stageTable cexEnv (some (.int 5)) = some (.err .invalidFormat) ∧
    interp stageTableAsFound cexEnv (some (.int 5)) = some (.escape .attributeError) ∧
    interp stageTable cexEnv (some (.str "json.dumps")) = some (.err .classNotFound) ∧
    interp stageTableAsFound cexEnv (some (.str "json.dumps")) = some (.escape .typeError) ∧
    interp stageTableAsFound cexEnv (some (.str "krrood.adapters.json_serializer.SubclassJSONSerializer"))
      = some (.escape .notImplementedError) := by
  simp only [resolve_eq_interp, asFound_eq_interp]
  exact ⟨by decide, congrArg some C19_cex_nonstring.2.1, by decide, congrArg some C19_cex_nonclass.2.1,
    congrArg some C19_cex_abstract.2.1⟩
/-- a table that uses a variable before it is bound, or falls off the end, is not the table of a program -/
example : interp [⟨.checkTruthy, [], some .missingType⟩] cexEnv none = none ∧
    interp [⟨.getTag, [], none⟩] cexEnv none = none := by decide
end Stages

end KrroodVerif.Json
