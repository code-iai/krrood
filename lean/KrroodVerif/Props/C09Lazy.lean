import KrroodVerif.Props.C09
/-! C09 — how many child results the quantifier takes, and interleaved evaluations of one query object. -/
namespace KrroodVerif.Quant

theorem consumedFrom_le {α} (c : Option Constraint) (n : Nat) (sols : List α) : consumedFrom c n sols ≤ sols.length := by
  induction sols generalizing n with
  | nil => simp [consumedFrom]
  | cons x xs ih =>
    simp only [consumedFrom, List.length_cons]
    split
    · omega
    · have := ih (n + 1)
      omega

theorem consumedFrom_eq {α} (c : Option Constraint) (n : Nat) (sols : List α) (h : CountOK c n) :
    consumedFrom c n sols = (loop c n sols).1.length + (if (loop c n sols).2 = .err .greater then 1 else 0) := by
  induction sols generalizing n with
  | nil =>
    cases c with
    | none => rfl
    | some c =>
      rw [loop_of_ok c [] n h]
      split <;> rfl
  | cons x xs ih =>
    simp only [consumedFrom, loop]
    by_cases h1 : CountOK c (n + 1)
    · simp only [assertOpt_false_ok h1, List.length_cons, ih (n + 1) h1]
      omega
    · simp only [assertOpt_false_of_not_ok h1]
      rfl

/-- The quantifier takes from its child exactly the results it yields, plus — when an upper bound is
exceeded — the one result that revealed it; never more than there are. -/
theorem C09_consumed {α} (c : Option Constraint) (sols : List α) :
    consumed c sols ≤ sols.length ∧
    consumed c sols = (run c sols).1.length + (if (run c sols).2 = .err .greater then 1 else 0) := by
  refine ⟨consumedFrom_le c 0 sols, consumedFrom_eq c 0 sols ?_⟩
  cases c with
  | none => trivial
  | some c => exact fun u _ => Nat.zero_le u

/-- With an upper bound `u` and more than `u` solutions exactly `u + 1` child results are taken, however many solutions
follow (for a lazily produced child: however long, even unbounded, the rest of the stream is). -/
theorem C09_consumed_upper {α} (c : Constraint) (hwf : c.WF) (sols : List α) (u : Nat) (hu : upper c = some u)
    (hn : u < sols.length) : consumed (some c) sols = u + 1 := by
  rw [(C09_consumed (some c) sols).2, run_eq_spec]
  simp only [spec, hu, hn, List.length_take, Nat.min_eq_left (Nat.le_of_lt hn), if_true]

/-- Interleaved evaluations of one query object do not share a counter: what an
evaluation's `next()` returns depends only on how often THAT evaluation has been advanced. -/
theorem C09_interleaving_independent {α} (c : Option Constraint) (sols : List α) (js : List Nat) (pos : List (Nat × Nat)) :
    ∀ e ∈ interleaved c sols js pos, ∃ p, e.2 = nextObs (run c sols) p := by
  induction js generalizing pos with
  | nil => simp [interleaved]
  | cons j rest ih =>
    intro e he
    simp only [interleaved, List.mem_cons] at he
    rcases he with rfl | he
    · exact ⟨_, rfl⟩
    · exact ih _ e he

/-- an exceeded upper bound stops the loop one result later; a lower bound that is not reached takes everything -/
example : consumed (some (.atMost 2)) [10, 20, 30, 40, 50] = 3 ∧ consumed (some (.atLeast 9)) [1, 2] = 2 := by decide

end KrroodVerif.Quant
