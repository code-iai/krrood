import KrroodVerif.Model.Dao
import KrroodVerif.Props.C04
/-!
# C05 — persisting to SQL and reloading in a fresh session restores the object graph

Property theorems about the relational store of M-DAO (`Dao.flush`, `Dao.load`, `Dao.persistReload` in
`Model/Dao.lean`): rows, foreign keys, association rows, discriminator, with SQLAlchemy's direction inference as the
parameter `dir`. What the theorems are about is ORMatic's row/FK logic under the stated assumptions on SQLAlchemy; the
unit of work, SQL emission and SQLite themselves are runtime the model cannot exhibit (validated by the correspondence).
-/
namespace KrroodVerif.Dao

/-- every non-null single reference lies in a field whose relationship is MANYTOONE -/
def NoO2M (dir : FieldMeta → Dir) (dh : Heap) : Prop :=
  ∀ n ∈ dh, ∀ (k t : Nat), n.refs[k]? = some (Ref.one t) → dir (fieldOf n k) = .manyToOne

/-- no collection holds the same object twice -/
def NoDup (dh : Heap) : Prop :=
  ∀ n ∈ dh, ∀ (k : Nat) (ts : List Nat), n.refs[k]? = some (Ref.many ts) → dedupNat ts = ts

/-- the hypothesis `NoDup` is what the trigger of F-C05-3 tests -/
theorem NoDup.of_trigDup {dh : Heap} (h : trigDup dh = false) : NoDup dh := by
  intro n hn k ts hk
  have hn' : n.refs.any _ = false := Bool.eq_false_iff.2 (List.any_eq_false.1 h n hn)
  simpa using List.any_eq_false.1 hn' (Ref.many ts) (List.mem_of_getElem? hk)

theorem NoO2M.of_all {dir : FieldMeta → Dir} {dh : Heap}
    (h : (dh.all fun n => (List.range n.refs.length).all fun k =>
      match n.refs[k]? with
      | some (.one _) => decide (dir (fieldOf n k) = .manyToOne)
      | _ => true) = true) : NoO2M dir dh := by
  intro n hn k t hk
  have := List.all_eq_true.1 (List.all_eq_true.1 h n hn) k (List.mem_range.2 (List.getElem?_eq_some_iff.1 hk).1)
  simpa [hk] using this

theorem o2mWrites_nil {dir : FieldMeta → Dir} {dh : Heap} (hno : NoO2M dir dh) (s : Nat) :
    o2mWrites dir dh s = [] := by
  unfold o2mWrites
  cases hs : dh[s]? with
  | none => rfl
  | some n =>
    simp only
    rw [List.flatten_eq_nil_iff]
    intro l hl
    obtain ⟨k, hk, rfl⟩ := List.mem_mapIdx.1 hl
    have hn : n ∈ dh := List.mem_of_getElem? hs
    cases hr : n.refs[k] with
    | none => rfl
    | many ts => rfl
    | one t =>
      have : n.refs[k]? = some (.one t) := by rw [List.getElem?_eq_getElem hk, hr]
      simp [hno n hn k t this]

theorem flush_rows {dir : FieldMeta → Dir} {dh : Heap} (hno : NoO2M dir dh) (order : List Nat) :
    (flush dir order dh).rows = dh.mapIdx (rowOf dir) := by
  have : order.flatMap (o2mWrites dir dh) = [] := by
    rw [List.flatMap_eq_nil_iff]
    intro s _
    exact o2mWrites_nil hno s
  simp [flush, this]

theorem posOf_rows (dir : FieldMeta → Dir) (dh : Heap) (d : Nat) :
    posOf (dh.mapIdx (rowOf dir)) (rowId d) = if d < dh.length then some d else none := by
  unfold posOf
  have hlen : (dh.mapIdx (rowOf dir)).length = dh.length := List.length_mapIdx
  have hid : ∀ (j : Nat) (hj : j < (dh.mapIdx (rowOf dir)).length),
      ((dh.mapIdx (rowOf dir))[j].id == rowId d) = (j == d) := by
    intro j hj
    simp [rowOf, rowId]
  by_cases hd : d < dh.length
  · have hidx : (dh.mapIdx (rowOf dir)).findIdx (fun r => r.id == rowId d) = d := by
      rw [List.findIdx_eq (by omega)]
      constructor
      · rw [hid]
        simp
      · intro j hj
        rw [hid]
        simp
        omega
    simp only [hidx, hlen, hd, if_true]
  · have hidx : (dh.mapIdx (rowOf dir)).findIdx (fun r => r.id == rowId d) = (dh.mapIdx (rowOf dir)).length := by
      apply List.findIdx_eq_length_of_false
      intro x hx
      obtain ⟨j, hj, rfl⟩ := List.mem_iff_getElem.1 hx
      rw [hid]
      simp
      omega
    simp only [hidx, hd, Nat.lt_irrefl, if_false]

theorem cells_rowOf (dir : FieldMeta → Dir) (j : Nat) (n : Node) (k : Nat) :
    (rowOf dir j n).cells[k]? = (n.refs[k]?).map (cellOf dir (fieldOf n k)) := by
  simp [rowOf, List.getElem?_mapIdx]

theorem flatten_single {α : Type} : ∀ (L : List (List α)) (i : Nat) (x : List α), L[i]? = some x →
    (∀ j y, j ≠ i → L[j]? = some y → y = []) → L.flatten = x
  | [], i, x, h, _ => by simp at h
  | a :: L, 0, x, h, hz => by
    simp only [List.getElem?_cons_zero, Option.some.injEq] at h
    subst h
    have : L.flatten = [] := by
      rw [List.flatten_eq_nil_iff]
      intro l hl
      obtain ⟨j, hj⟩ := List.mem_iff_getElem?.1 hl
      exact hz (j + 1) l (by omega) (by simpa using hj)
    simp [this]
  | a :: L, i + 1, x, h, hz => by
    have ha : a = [] := hz 0 a (by omega) (by simp)
    subst ha
    simp only [List.flatten_cons, List.nil_append]
    apply flatten_single L i x (by simpa using h)
    intro j y hj hy
    exact hz (j + 1) y (by omega) (by simpa using hy)

theorem flatten_map_mapIdx_single {α β γ : Type} (g : List β → List γ) (f : Nat → α → List β) {l : List α} {i : Nat}
    {a : α} (hi : l[i]? = some a) (hz : ∀ j b, j ≠ i → l[j]? = some b → g (f j b) = []) :
    ((l.mapIdx f).map g).flatten = g (f i a) := by
  apply flatten_single _ i
  · rw [List.getElem?_map, List.getElem?_mapIdx, hi]
    rfl
  · intro j y hj hy
    rw [List.getElem?_map, List.getElem?_mapIdx] at hy
    cases hb : l[j]? with
    | none =>
      rw [hb] at hy
      cases hy
    | some b =>
      rw [hb] at hy
      cases hy
      exact hz j b hj hb

theorem assocOf_left {j : Nat} {n : Node} {a : Assoc} (ha : a ∈ assocOf j n) : a.left = rowId j := by
  unfold assocOf at ha
  obtain ⟨l, hl, hal⟩ := List.mem_flatten.1 ha
  obtain ⟨k', _, rfl⟩ := List.mem_mapIdx.1 hl
  split at hal
  · obtain ⟨t, _, rfl⟩ := List.mem_map.1 hal
    rfl
  · cases hal

/-- the association rows of source `i`, field `k`, in insertion order, resolve to exactly the list that was stored -/
theorem assoc_lookup (dir : FieldMeta → Dir) (dh : Heap) (hwf : dh.WF) (i : Nat) (n : Node) (hn : dh[i]? = some n)
    (k : Nat) (ts : List Nat) (hk : n.refs[k]? = some (.many ts)) :
    (((dh.mapIdx assocOf).flatten.filter fun a => a.left == rowId i && a.fld == k).filterMap
        fun a => posOf (dh.mapIdx (rowOf dir)) a.right) = ts := by
  have hts : ∀ t ∈ ts, t < dh.length := fun t ht =>
    hwf n (List.mem_of_getElem? hn) t (List.mem_flatMap.2 ⟨.many ts, List.mem_of_getElem? hk, ht⟩)
  -- of the blocks `assocOf j n'` only that of source `i` passes the test on `left` (`assocOf_left`), and within it only the
  -- block of field `k` the test on `fld`: one row per element of `ts`, in order, each resolving to the element's position
  rw [List.filter_flatten, List.filterMap_flatten, List.map_map, flatten_map_mapIdx_single _ _ hn]
  · simp only [Function.comp, assocOf]
    rw [List.filter_flatten, List.filterMap_flatten, List.map_map, flatten_map_mapIdx_single _ _ hk]
    · simp only [Function.comp]
      rw [List.filter_eq_self.2 (by simp)]
      rw [List.filterMap_map]
      exact (filterMap_congr_mem fun t ht => (posOf_rows dir dh t).trans (if_pos (hts t ht))).trans
        List.filterMap_some
    · intro k' r hk' _
      cases r with
      | none => rfl
      | one t => rfl
      | many ts' =>
        simp only [Function.comp]
        rw [List.filter_eq_nil_iff.2 (by simp [hk'])]
        rfl
  · intro j n' hj _
    simp only [Function.comp]
    rw [List.filter_eq_nil_iff.2 fun a ha => by simp [assocOf_left ha, rowId, hj]]
    rfl

theorem rowOf_cell_o2m {dir : FieldMeta → Dir} {n : Node} {k : Nat} (hd : dir (fieldOf n k) = .oneToMany) (j v : Nat) :
    (rowOf dir j n).cells[k]? ≠ some (.fk (some v)) := by
  rw [cells_rowOf]
  cases n.refs[k]? with
  | none => simp
  | some r =>
    cases r with
    | none => simp [cellOf]
    | many _ => simp [cellOf]
    | one t => simp [cellOf, hd]

theorem loadRef_cellOf (dir : FieldMeta → Dir) (dedup : Bool) (order : List Nat) (dh : Heap) (hwf : dh.WF)
    (hno : NoO2M dir dh) (hdup : dedup = true → NoDup dh) (i : Nat) (n : Node) (hn : dh[i]? = some n)
    (k : Nat) (r : Ref) (hr : n.refs[k]? = some r) :
    loadRef dir dedup (flush dir order dh) (rowOf dir i n) k (cellOf dir (fieldOf n k) r) = r := by
  have hrows := flush_rows hno order
  have hassoc : (flush dir order dh).assoc = (dh.mapIdx assocOf).flatten := rfl
  have hnm : n ∈ dh := List.mem_of_getElem? hn
  cases r with
  | none =>
    simp only [cellOf, loadRef]
    split
    · rfl
    -- direction ONETOMANY: the loader looks for a row whose cell `k` holds this row's id; `rowOf` puts no key into such a
    -- cell (`rowOf_cell_o2m`) and under `NoO2M` the flush writes none (`hrows`)
    · have : (flush dir order dh).rows.findIdx? (fun t => decide (dir (fieldOf t.node k) = .oneToMany)
            && (fieldOf t.node k).name == (fieldOf (rowOf dir i n).node k).name
            && t.cells[k]? == some (.fk (some (rowOf dir i n).id))) = none := by
        rw [List.findIdx?_eq_none_iff, hrows]
        intro x hx
        obtain ⟨j, hj, rfl⟩ := List.mem_mapIdx.1 hx
        by_cases hd : dir (fieldOf dh[j] k) = .oneToMany
        · simp [rowOf_cell_o2m hd]
        · have hd' : ¬ dir (fieldOf (rowOf dir j dh[j]).node k) = .oneToMany := hd
          simp [hd']
      rw [this]
  | one t =>
    have hd : dir (fieldOf n k) = .manyToOne := hno n hnm k t hr
    have ht : t < dh.length :=
      hwf n hnm t (List.mem_flatMap.2 ⟨.one t, List.mem_of_getElem? hr, List.mem_singleton.2 rfl⟩)
    have hd' : dir (fieldOf (rowOf dir i n).node k) = .manyToOne := hd
    simp only [cellOf, hd, if_true, loadRef, hd', hrows, posOf_rows dir dh t, ht]
  | many ts =>
    have hX := assoc_lookup dir dh hwf i n hn k ts hr
    have hid : (rowOf dir i n).id = rowId i := rfl
    simp only [cellOf, loadRef, hrows, hassoc, hid, hX]
    cases dedup with
    | false => rfl
    | true => simp [hdup rfl n hnm k ts hr]

theorem load_flush (dir : FieldMeta → Dir) (dedup : Bool) (order : List Nat) (dh : Heap) (hwf : dh.WF)
    (hno : NoO2M dir dh) (hdup : dedup = true → NoDup dh) :
    load dir dedup (flush dir order dh) = dh := by
  apply List.ext_getElem?
  intro i
  unfold load
  rw [List.getElem?_map, flush_rows hno order, List.getElem?_mapIdx]
  cases hi : dh[i]? with
  | none => rfl
  | some n =>
    simp only [Option.map_some, Option.some.injEq]
    have hrefs : (rowOf dir i n).cells.mapIdx (loadRef dir dedup (flush dir order dh) (rowOf dir i n)) = n.refs := by
      apply List.ext_getElem?
      intro k
      rw [List.getElem?_mapIdx, cells_rowOf]
      cases hk : n.refs[k]? with
      | none => rfl
      | some r =>
        simp only [Option.map_some, Option.some.injEq]
        exact loadRef_cellOf dir dedup order dh hwf hno hdup i n hi k r hk
    rw [hrefs]
    rfl

theorem applyWrite_ids (rows : List Row) (w : Nat × Nat × Nat) :
    (applyWrite rows w).map (·.id) = rows.map (·.id) := by
  apply List.ext_getElem?
  intro j
  simp only [applyWrite, List.getElem?_map, List.getElem?_modify]
  cases rows[j]? with
  | none => rfl
  | some r => by_cases hw : w.1 = j <;> simp [hw]

theorem rows0_ids (dir : FieldMeta → Dir) (dh : Heap) :
    (dh.mapIdx (rowOf dir)).map (·.id) = (List.range dh.length).map rowId := by
  apply List.ext_getElem?
  intro j
  simp only [List.getElem?_map, List.getElem?_mapIdx]
  by_cases hj : j < dh.length
  · simp [hj, rowOf]
  · simp [hj]

theorem flush_ids (dir : FieldMeta → Dir) (order : List Nat) (dh : Heap) :
    (flush dir order dh).rows.map (·.id) = (List.range dh.length).map rowId :=
  List.foldlRecOn (motive := fun r => r.map (·.id) = (List.range dh.length).map rowId) _ applyWrite (rows0_ids dir dh)
    fun r hr w _ => (applyWrite_ids r w).trans hr

/-- After `to_dao` (any roots, one shared state) and a flush — for every direction inference and every processing
order — the memo is a one-to-one correspondence between the distinct converted objects and the rows: one memo entry per
object identity, as many rows as entries, pairwise distinct primary keys, object `o` stored in row `d` (primary key
`rowId d`) and in no other, however often it is referenced. -/
theorem C05_one_row_per_object (h : Heap) (roots droots : List Nat) (st : St) (dir : FieldMeta → Dir)
    (order : List Nat) (hrun : toDao h roots = some (droots, st)) :
    (st.memo.map Prod.fst).Nodup ∧
    (flush dir order st.out).rows.length = st.memo.length ∧
    ((flush dir order st.out).rows.map (·.id)).Nodup ∧
    (∀ o d, (o, d) ∈ st.memo → ((flush dir order st.out).rows.map (·.id))[d]? = some (rowId d)) ∧
    (∀ o o' d, (o, d) ∈ st.memo → (o', d) ∈ st.memo → o = o') ∧
    (∀ o d d', (o, d) ∈ st.memo → (o, d') ∈ st.memo → d = d') := by
  have w := (copyRoots_spec (P := toDaoParams) hrun nofun).1
  have inv := w.inv
  have hids := flush_ids dir order st.out
  have hlen := w.count fun _ => rfl
  refine ⟨inv.keys, ?_, ?_, ?_, inv.oneOne.inj, inv.oneOne.fn⟩
  · have := congrArg List.length hids
    simp only [List.length_map, List.length_range] at this
    omega
  · rw [hids]
    exact Nodup.map_inj (fun _ _ e => Nat.add_right_cancel e) List.nodup_range
  · intro o d hod
    have hd : d < st.out.length := inv.lt _ hod
    rw [hids]
    simp [hd]

/-- The layer before fix `492980c` (direction inferred by SQLAlchemy: `dirToday`; related rows returned once): for
every well-formed DAO graph with no non-null one-to-one reference into the source's own table hierarchy and no
collection holding an object twice, and for every processing order of the unit of work, `load ∘ flush` gives back
the DAO graph itself (row ids are position + 1, so "up to row ids" is equality here). -/
theorem C05_store_load_partial (order : List Nat) (dh : Heap) (hwf : dh.WF) (hno : NoO2M dirToday dh)
    (hdup : NoDup dh) : load dirToday true (flush dirToday order dh) = dh :=
  load_flush dirToday true order dh hwf hno (fun _ => hdup)

/-- With `remote_side` generated (every single reference MANYTOONE) and collections reloaded with multiplicity,
`load ∘ flush` is the identity on EVERY well-formed DAO graph. -/
theorem C05_store_load_fixed (order : List Nat) (dh : Heap) (hwf : dh.WF) :
    load dirFixed false (flush dirFixed order dh) = dh :=
  load_flush dirFixed false order dh hwf (fun _ _ _ _ _ => rfl) (fun hf => by cases hf)

theorem filterMap_self {f : Nat → Option Nat} : ∀ (l : List Nat), (∀ d ∈ l, f d = some d ∨ f d = none) →
    (l.filterMap f).length = l.length → l.filterMap f = l
  | [], _, _ => rfl
  | d :: l, h, hl => by
    rcases h d List.mem_cons_self with hd | hd
    · simp only [List.filterMap_cons, hd, List.length_cons, Nat.add_right_cancel_iff] at hl ⊢
      rw [filterMap_self l (fun x hx => h x (List.mem_cons_of_mem _ hx)) hl]
    · simp only [List.filterMap_cons, hd, List.length_cons] at hl
      have := List.length_filterMap_le f l
      omega

/-- When `load ∘ flush` gives back the DAO graph, every root is found again under its own row id, so persisting and
reloading is the in-memory round trip `from_dao(to_dao(g))` with the database as a by-product. -/
theorem persistReload_roundTrip (q : StoreQuirks) (order : List Nat) (unmap : Label → Option Label) (via : Nat)
    (h : Heap) (roots rs' : List Nat) (h' : Heap) (db : DB)
    (hno : ∀ droots st, toDao h roots = some (droots, st) → NoO2M q.dir st.out)
    (hdup : q.dedup = true → ∀ droots st, toDao h roots = some (droots, st) → NoDup st.out)
    (hrun : persistReload q order unmap via h roots = some (rs', h', db)) :
    ∃ st', roundTrip q.stale unmap h roots = some (rs', st') ∧ st'.out = h' := by
  unfold persistReload at hrun
  split at hrun
  · cases hrun
  · rename_i droots st hto
    have hwf := (copyRoots_spec (P := toDaoParams) hto nofun).1.wf
    have hno' := hno droots st hto
    have hlf : load q.dir q.dedup (flush q.dir order st.out) = st.out :=
      load_flush q.dir q.dedup order st.out hwf hno' (fun hd => hdup hd droots st hto)
    simp only [hlf] at hrun
    split at hrun
    · cases hrun
    · rename_i hlen
      have hlen' : (loadRoots (flush q.dir order st.out) st.out via droots).length = droots.length := by
        simpa using hlen
      -- a root is found at its own position or not at all (row `d` has id `rowId d`); the length test excludes a loss
      have hroots : loadRoots (flush q.dir order st.out) st.out via droots = droots := by
        unfold loadRoots at hlen' ⊢
        apply filterMap_self droots _ hlen'
        intro d _
        cases hd : st.out[d]? with
        | none =>
          right
          rfl
        | some n =>
          simp only
          unfold loadRoot
          rw [flush_rows hno' order, posOf_rows, if_pos (List.getElem?_eq_some_iff.1 hd).1]
          simp only
          split
          · split
            · left
              rfl
            · right
              rfl
          · right
            rfl
      rw [hroots] at hrun
      split at hrun
      · cases hrun
      · rename_i oroots st2 hfrom
        simp only [Option.some.injEq, Prod.mk.injEq] at hrun
        obtain ⟨rfl, rfl, _⟩ := hrun
        refine ⟨st2, ?_, rfl⟩
        unfold roundTrip
        simp only [hto]
        exact hfrom

/-- `to_dao` → add/commit → fresh session, load each root through any DAO class of its chain → `from_dao` yields a
graph isomorphic to the original, for every finite object graph, every list of roots and every processing order,
provided the mapping pairs round-trip and none of the three recorded deviations is triggered (each condition is only
needed while the corresponding quirk is on). -/
theorem C05_persist_reload_partial (q : StoreQuirks) (order : List Nat) (unmap : Label → Option Label) (via : Nat)
    (h : Heap) (roots rs' : List Nat) (h' : Heap) (db : DB) (hrt : RoundTrips unmap h)
    (hno : ∀ droots st, toDao h roots = some (droots, st) → NoO2M q.dir st.out)
    (hdup : q.dedup = true → ∀ droots st, toDao h roots = some (droots, st) → NoDup st.out)
    (hstale : q.stale = true → trigStale unmap h roots = false)
    (hrun : persistReload q order unmap via h roots = some (rs', h', db)) : Iso h roots h' rs' := by
  obtain ⟨st', hrt', rfl⟩ := persistReload_roundTrip q order unmap via h roots rs' h' db hno hdup hrun
  exact roundTrip_iso hrt hrt' fun hq => hits_of_trigStale (hq ▸ hrt') (hstale hq)

/-- What the driver prints: outside the three triggers the canonical form of the reloaded graph (`model=`, graph part)
IS the canonical form of the input (`spec=`). -/
theorem C05_canon_partial (q : StoreQuirks) (order : List Nat) (unmap : Label → Option Label) (via : Nat)
    (h : Heap) (roots rs' : List Nat) (h' : Heap) (db : DB) (hrt : RoundTrips unmap h)
    (hno : ∀ droots st, toDao h roots = some (droots, st) → NoO2M q.dir st.out)
    (hdup : q.dedup = true → ∀ droots st, toDao h roots = some (droots, st) → NoDup st.out)
    (hstale : q.stale = true → trigStale unmap h roots = false)
    (hrun : persistReload q order unmap via h roots = some (rs', h', db)) : canon h' rs' = canon h roots :=
  (Iso_canon_eq (C05_persist_reload_partial q order unmap via h roots rs' h' db hrt hno hdup hstale hrun)).symm

/-! ### Counter-examples (the witnesses of findings F-C05-1 and F-C05-3) -/

def nodeDao (parent : Ref) : Node :=
  { lab := ⟨"Node", ""⟩, kind := .plain, view := noView, tabs := ["NodeDAO", "SymbolDAO"],
    fields := [⟨true, "NodeDAO.parent_id"⟩], refs := [parent] }

/-- `root = Node(); a = Node(parent=root); b = Node(parent=root)` -/
def cexTree : Heap := [nodeDao .none, nodeDao (.one 0), nodeDao (.one 0)]

/-- `NodeDAO.parent` references the own table hierarchy, SQLAlchemy infers ONETOMANY, the single foreign key cell of the
parent row is written by both children: whichever the unit of work processes last keeps its link, the other child comes
back without a parent. With `remote_side` (MANYTOONE) the same graph is restored. -/
theorem C05_cex_selfref :
    trigSelfRef cexTree = true ∧ ¬ NoO2M dirToday cexTree ∧
    load dirToday true (flush dirToday [1, 2] cexTree) = [nodeDao .none, nodeDao .none, nodeDao (.one 0)] ∧
    load dirToday true (flush dirToday [2, 1] cexTree) = [nodeDao .none, nodeDao (.one 0), nodeDao .none] ∧
    load dirFixed true (flush dirFixed [1, 2] cexTree) = cexTree := by
  refine ⟨by decide +kernel, ?_, by decide +kernel, by decide +kernel, by decide +kernel⟩
  intro hno
  have := hno (nodeDao (.one 0)) (by simp [cexTree]) 0 0 rfl
  simp [fieldOf, nodeDao, dirToday] at this

def posDao : Node :=
  { lab := ⟨"Position", "x=f1.0,y=f2.0,z=f3.0"⟩, kind := .plain, view := noView, tabs := ["PositionDAO", "SymbolDAO"],
    fields := [], refs := [] }

/-- `Positions([p, p], [])` -/
def cexDup : Heap := [
  { lab := ⟨"Positions", "some_strings=[]"⟩, kind := .plain, view := noView, tabs := ["PositionsDAO", "SymbolDAO"],
    fields := [⟨false, "positionsdao_positions_association"⟩], refs := [.many [1, 1]] }, posDao]

/-- Both association rows are written (row counts are right), but the relationship loader returns the related row
once: the list comes back with one element. -/
theorem C05_cex_duplicates :
    trigDup cexDup = true ∧ ¬ NoDup cexDup ∧
    (flush dirToday [] cexDup).assoc.length = 2 ∧
    (load dirToday true (flush dirToday [] cexDup))[0]?.map (·.refs) = some [.many [1]] ∧
    load dirToday false (flush dirToday [] cexDup) = cexDup := by
  refine ⟨by decide +kernel, ?_, by decide +kernel, by decide +kernel, by decide +kernel⟩
  intro hno
  have := hno cexDup[0] (by decide +kernel) 0 [1, 1] rfl
  revert this
  decide +kernel

/-! Non-vacuity: the hypotheses of the theorems are met by non-trivial DAO graphs. -/

/-- a Pose-like graph: a single reference, collections sharing an element, a field into the own hierarchy left `None` -/
def exDaoHeap : Heap := [
  { lab := ⟨"Pose", ""⟩, kind := .plain, view := noView, tabs := ["PoseDAO", "SymbolDAO"],
    fields := [⟨false, ""⟩, ⟨false, "a"⟩], refs := [.one 1, .many [1, 2]] },
  posDao,
  { lab := ⟨"Torso", "name=st"⟩, kind := .plain, view := noView, tabs := ["TorsoDAO"],
    fields := [⟨false, "b"⟩, ⟨true, "c"⟩], refs := [.many [2, 0], .none] }]

example : exDaoHeap.WF ∧ NoO2M dirToday exDaoHeap ∧ NoDup exDaoHeap :=
  ⟨Heap.WF_of_wf (by decide +kernel), NoO2M.of_all (by decide +kernel), NoDup.of_trigDup (by decide +kernel)⟩

/-- a mapped root whose mapped descendants are reached through classes that are not mapped: three tables in the
chain, the discriminator restores the class through every one of them -/
def chainHeap : Heap := [
  { lab := ⟨"AuxWorkbench", "label=sw"⟩, kind := .plain, view := noView, tabs := ["AuxWorkbenchDAO"],
    fields := [⟨false, "d"⟩, ⟨false, ""⟩], refs := [.many [1, 2], .one 2] },
  { lab := ⟨"AuxDevice", "name=sa"⟩, kind := .plain, view := noView, tabs := ["AuxDeviceDAO"], fields := [], refs := [] },
  { lab := ⟨"AuxTurboScanner", "name=sb"⟩, kind := .plain, view := noView,
    tabs := ["AuxTurboScannerDAO", "AuxScannerDAO", "AuxDeviceDAO"], fields := [], refs := [] }]

example :
    load dirToday true (flush dirToday [] chainHeap) = chainHeap ∧
    loadRoot (flush dirToday [] chainHeap) "AuxDeviceDAO" (rowId 2) = some 2 ∧
    loadRoot (flush dirToday [] chainHeap) "AuxScannerDAO" (rowId 2) = some 2 ∧
    loadRoot (flush dirToday [] chainHeap) "AuxTurboScannerDAO" (rowId 2) = some 2 ∧
    loadRoot (flush dirToday [] chainHeap) "AuxScannerDAO" (rowId 1) = none ∧
    ((load dirToday true (flush dirToday [] chainHeap))[2]?).map (·.lab.cls) = some "AuxTurboScanner" := by decide +kernel

/-! ## `from_dao` from `9a6f576` (F-C05-2) and `453154d` (F-C05-4) on: `stale := false` -/

/-- With `stale := false` no hypothesis about alternatively mapped objects on cycles is needed: `to_dao` → flush →
load through any DAO class of the chain → `from_dao` is isomorphic to the input for every finite object graph outside
the triggers F-C05-1 (self-hierarchy references) and F-C05-3 (duplicates in a collection), each only needed while its
quirk is on. -/
theorem C05_persist_reload (q : StoreQuirks) (hq : q.stale = false) (order : List Nat)
    (unmap : Label → Option Label) (via : Nat) (h : Heap) (roots rs' : List Nat) (h' : Heap) (db : DB)
    (hrt : RoundTrips unmap h)
    (hno : ∀ droots st, toDao h roots = some (droots, st) → NoO2M q.dir st.out)
    (hdup : q.dedup = true → ∀ droots st, toDao h roots = some (droots, st) → NoDup st.out)
    (hrun : persistReload q order unmap via h roots = some (rs', h', db)) : Iso h roots h' rs' :=
  C05_persist_reload_partial q order unmap via h roots rs' h' db hrt hno hdup
    (fun hs => by rw [hq] at hs; cases hs) hrun

/-- What the driver prints (graph part) under the same conditions. -/
theorem C05_canon (q : StoreQuirks) (hq : q.stale = false) (order : List Nat)
    (unmap : Label → Option Label) (via : Nat) (h : Heap) (roots rs' : List Nat) (h' : Heap) (db : DB)
    (hrt : RoundTrips unmap h)
    (hno : ∀ droots st, toDao h roots = some (droots, st) → NoO2M q.dir st.out)
    (hdup : q.dedup = true → ∀ droots st, toDao h roots = some (droots, st) → NoDup st.out)
    (hrun : persistReload q order unmap via h roots = some (rs', h', db)) : canon h' rs' = canon h roots :=
  (Iso_canon_eq (C05_persist_reload q hq order unmap via h roots rs' h' db hrt hno hdup hrun)).symm

/-! ## The code from `492980c` (F-C05-1) on: `StoreQuirks.asIs` -/

/-- `StoreQuirks.asIs` (`remote_side` generated, `stale := false`): `to_dao` → flush in ANY processing order of the unit
of work → load through any DAO class of the chain → `from_dao` is isomorphic to the input for every finite object graph
in which no collection holds an object twice (F-C05-3, the only trigger) — references into the own table hierarchy
included, without any hypothesis about them. -/
theorem C05_persist_reload_current (order : List Nat)
    (unmap : Label → Option Label) (via : Nat) (h : Heap) (roots rs' : List Nat) (h' : Heap) (db : DB)
    (hrt : RoundTrips unmap h)
    (hdup : ∀ droots st, toDao h roots = some (droots, st) → NoDup st.out)
    (hrun : persistReload StoreQuirks.asIs order unmap via h roots = some (rs', h', db)) : Iso h roots h' rs' :=
  C05_persist_reload StoreQuirks.asIs rfl order unmap via h roots rs' h' db hrt
    (fun _ _ _ => fun _ _ _ _ _ => rfl) (fun _ => hdup) hrun

/-- What the driver prints (graph part) for `StoreQuirks.asIs`. -/
theorem C05_canon_current (order : List Nat)
    (unmap : Label → Option Label) (via : Nat) (h : Heap) (roots rs' : List Nat) (h' : Heap) (db : DB)
    (hrt : RoundTrips unmap h)
    (hdup : ∀ droots st, toDao h roots = some (droots, st) → NoDup st.out)
    (hrun : persistReload StoreQuirks.asIs order unmap via h roots = some (rs', h', db)) : canon h' rs' = canon h roots :=
  (Iso_canon_eq (C05_persist_reload_current order unmap via h roots rs' h' db hrt hdup hrun)).symm

end KrroodVerif.Dao
