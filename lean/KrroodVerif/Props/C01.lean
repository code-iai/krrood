import KrroodVerif.Lemmas.EqlQuant
import KrroodVerif.Props.C02
/-!
# C01 — EQL answers are exactly the satisfying assignments

The lemmas are in `Lemmas/EqlCover.lean` (the central invariant `C01_cover`), `Lemmas/EqlCount.lean`,
`Lemmas/EqlF1.lean`, `Lemmas/EqlUnion.lean`, `Lemmas/EqlQuant.lean`.

Proved (unbounded): `C01_cover` on the cover fragment `Expr.Fc`; `C01_sound_complete_partial` on the fragment
`SExpr.F2` with plain selected variables (same hypotheses as `C02_multiplicity`); `C01_sound_complete_F1_partial`
on the larger fragment `SExpr.F1`. `Union` in positive positions is in `Props/C01Union.lean`, quantifiers in
`Props/C01Quant.lean`. Outside these (`flatten`, one variable feeding two selected expressions, empty domains, `Union`
below `not_`, …) the engine deviates: the recorded findings have their witnesses below, except F-C01-11
(`C01_quant_need_A1`, `Props/C01Quant.lean`) and F-C01-4 (one node with two parents: outside the tree-shaped queries of the
model, `Drive/C01.lean`).
-/
namespace KrroodVerif.Eql

/-- On `F2` (see `Props/C02.lean` for the side conditions) the rows evaluation
returns are exactly the rows of the satisfying assignments: soundness (→) and completeness (←). -/
theorem C01_sound_complete_partial (w : World) (q : SQuery) (c : SExpr)
    (hc : q.cond = some c) (hF : c.F2 = true) (hsel : selOK q.sel c = true)
    (hnd : ∀ v, (w.dom v).Nodup) (hlit : LitNodup (build c))
    {rows rows' : List (List Val)}
    (h1 : evalQuery w q.toQuery = .ok rows) (h2 : solutions w q = .ok rows') :
    ∀ r, r ∈ rows ↔ r ∈ rows' :=
  fun _ => (C02_multiplicity w q c hc hF hsel hnd hlit h1 h2).mem_iff

/-- non-vacuity: the 3-object world and `F2` query of `Props/C02.lean` meet every hypothesis; the answer
is non-empty (3 rows) and non-total (9 assignments) -/
example : ∀ r, r ∈ [[Val.obj 0, .obj 0], [.obj 0, .obj 1], [.obj 1, .obj 1]] ↔
    r ∈ [[Val.obj 0, .obj 0], [.obj 0, .obj 1], [.obj 1, .obj 1]] :=
  C01_sound_complete_partial c02nvW c02nvQ c02nvC rfl
    (by decide +kernel)
    (by decide +kernel)
    (domsNodup_of_B (by decide +kernel))
    (by decide +kernel)
    (by decide +kernel)
    (by decide +kernel)

/-- the theorem applies to the witness of F-C01-3 (`and_(x >= 0, x < 2)` over `[0,1,2,3]`; `0` is falsy) -/
example : ∀ r, r ∈ [[Val.int 0], [.int 1]] ↔ r ∈ [[Val.int 0], [.int 1]] :=
  C01_sound_complete_partial cexFalsyW cexFalsyQ _ rfl
    (by decide +kernel)
    (by decide +kernel)
    (domsNodup_of_B (by decide +kernel))
    (by decide +kernel)
    (by decide +kernel)
    (by decide +kernel)

/-- Soundness and completeness as sets of rows on the larger fragment F1:
conditions over `and_`, `or_` between conditions with the same variables and arbitrarily nested `not_`
(`SExpr.F1`); selected expressions are `flatten`-free attribute/index chains over variables (`selF1`) — the
variables may or may not occur in the condition (those that do not range over their whole domain) — and no
variable feeds two selected expressions (`trigMultiSel q = false`: the negation of the trigger of F-C01-2).
Side conditions: duplicate-free and — for the query's variables — non-empty domains (the negation of the
trigger of F-C01-9), distinct literal ids. Conditional on both sides returning `.ok`. About the engine at fix commit
`78cb732` (for the engine before it, F-C01-3, the domains must be truthy as well). -/
theorem C01_sound_complete_F1_partial (w : World) (q : SQuery) (c : SExpr)
    (hc : q.cond = some c) (hF : c.F1 = true) (hsel : selF1 q.sel = true) (hms : trigMultiSel q = false)
    (hnd : ∀ v, (w.dom v).Nodup) (hne : ∀ v ∈ q.vars, w.dom v ≠ [])
    (hlit : LitNodup (build c))
    {rows rows' : List (List Val)}
    (h1 : evalQuery w q.toQuery = .ok rows) (h2 : solutions w q = .ok rows') :
    ∀ r, r ∈ rows ↔ r ∈ rows' := by
  obtain ⟨sel, cond⟩ := q
  simp only at hc
  subst hc
  exact sound_complete_Fp w sel c (SExpr.F1_Fp1 hF) hsel (hasDup_false_iff.mp hms) hnd hne hlit h1 h2

/-! non-vacuity for F1: `set_of([x.a, y], not_(and_(x.a > 0, x.a < 2)))` over the 3-object world — a
negated conjunction, a selected attribute, a selected variable that does not occur in the condition; 6 of the 9
assignments satisfy it. -/
def c01nvC : SExpr :=
  .not (.and (.cmp .gt (.attr (.var 0) "a") (.lit 101 (.int 0))) (.cmp .lt (.attr (.var 0) "a") (.lit 102 (.int 2))))
def c01nvQ : SQuery := ⟨[.attr (.var 0) "a", .var 1], some c01nvC⟩

example :
    c01nvQ.cond = some c01nvC ∧ c01nvC.F1 = true ∧ c01nvC.F2 = false ∧ selF1 c01nvQ.sel = true ∧
    trigMultiSel c01nvQ = false ∧ (∀ v, (c02nvW.dom v).Nodup) ∧
    (∀ v ∈ c01nvQ.vars, c02nvW.dom v ≠ []) ∧ LitNodup (build c01nvC) ∧
    evalQuery c02nvW c01nvQ.toQuery = .ok [[.int 0, .obj 0], [.int 0, .obj 1], [.int 0, .obj 2],
      [.int 2, .obj 0], [.int 2, .obj 1], [.int 2, .obj 2]] ∧
    sameAnswers (evalQuery c02nvW c01nvQ.toQuery) (solutions c02nvW c01nvQ) = true ∧
    (assignments c02nvW c01nvQ.vars).length = 9 :=
  ⟨rfl,
    by decide +kernel,
    by decide +kernel,
    by decide +kernel,
    by decide +kernel,
    domsNodup_of_B (by decide +kernel),
    by decide +kernel,
    by decide +kernel,
    by decide +kernel,
    by decide +kernel,
    by decide +kernel⟩

/-! ## The witnesses of the findings (`findings.d/C01.json`)

Each counter-example states the outcome of the model of the engine, the outcome of the specification, and that the two
differ as sets of rows (`sameAnswers … = false`); on the witness of the repaired F-C01-3 they agree. -/

def cexObjs012 : List Obj := [cexObj false 0 true [] 0, cexObj false 1 true [] 2, cexObj false 2 true [] 4]
def cexObjs12 : List Obj := [cexObj false 1 true [] 2, cexObj false 2 true [] 4]
/-- `x.a` -/
def cexAttrA (v : VarId) : Term := .attr (.var v) "a"

def cex1W : World := { objs := cexObjs012, doms := [(0, [.obj 0, .obj 1, .obj 2]), (1, [.obj 0, .obj 1, .obj 2])] }
def cex1Q : SQuery :=
  ⟨[.var 0, .var 1], some (.not (.or (.cmp .eq (cexAttrA 0) (.lit 101 (.int 0))) (.cmp .eq (cexAttrA 1) (.lit 102 (.int 0)))))⟩

/-- F-C01-1. `not_(or_(x.a == 0, y.a == 0))` over `a ∈ {0,1,2}` also returns the
pairs with `x.a == 0` (unsound rows `(P0,P1)`, `(P0,P2)`), with duplicates. -/
theorem C01_cex_negUnion :
    evalQuery cex1W cex1Q.toQuery = .ok [[.obj 1, .obj 1], [.obj 1, .obj 2], [.obj 2, .obj 1], [.obj 2, .obj 2],
      [.obj 0, .obj 1], [.obj 1, .obj 1], [.obj 2, .obj 1], [.obj 0, .obj 2], [.obj 1, .obj 2], [.obj 2, .obj 2]] ∧
    solutions cex1W cex1Q = .ok [[.obj 1, .obj 1], [.obj 1, .obj 2], [.obj 2, .obj 1], [.obj 2, .obj 2]] ∧
    sameAnswers (evalQuery cex1W cex1Q.toQuery) (solutions cex1W cex1Q) = false := by
  decide +kernel

def cex2W : World := { objs := cexObjs012, doms := [(0, [.obj 0, .obj 1, .obj 2])] }
def cex2Q : SQuery := ⟨[.var 0, cexAttrA 0], none⟩

/-- F-C01-2. `set_of([x, x.a])` without a condition returns the cross
product of the values of `x` and of `x.a`. -/
theorem C01_cex_selectIndependent :
    evalQuery cex2W cex2Q.toQuery = .ok [[.obj 0, .int 0], [.obj 0, .int 1], [.obj 0, .int 2],
      [.obj 1, .int 0], [.obj 1, .int 1], [.obj 1, .int 2], [.obj 2, .int 0], [.obj 2, .int 1], [.obj 2, .int 2]] ∧
    solutions cex2W cex2Q = .ok [[.obj 0, .int 0], [.obj 1, .int 1], [.obj 2, .int 2]] ∧
    sameAnswers (evalQuery cex2W cex2Q.toQuery) (solutions cex2W cex2Q) = false := by
  decide +kernel

/-- The witness of F-C01-3 (= `C02_cex_falsyBound`) at fix commit `78cb732`: `and_(x >= 0, x < 2)` over `[0,1,2,3]` returns
`[0, 1]`, as the specification does. The engine before that commit returned `[1]`: an already bound variable with a falsy
value was reported false even as an operand of a comparison. -/
theorem C01_cex_falsyBound :
    evalQuery cexFalsyW cexFalsyQ.toQuery = .ok [[.int 0], [.int 1]] ∧
    solutions cexFalsyW cexFalsyQ = .ok [[.int 0], [.int 1]] ∧
    sameAnswers (evalQuery cexFalsyW cexFalsyQ.toQuery) (solutions cexFalsyW cexFalsyQ) = true := by
  decide +kernel

/-- Where truthiness matters at fix commit `78cb732` and where it does not. A variable already bound to `x` yields one
result: flagged `truthy x` when the variable itself is the condition (`.truth (.var v)`: its parent is a logical operator
or it is the condition's root), flagged TRUE, whatever `x` is, when it is an operand (the repair of F-C01-3). -/
theorem C01_boundVar_flag (w : World) (v : VarId) (env : Env) (x : Val) (h : env.lookup (.var v) = some x) :
    eval w (.truth (.var v)) env = .ok [(env, truthy x)] ∧
    evalTerm w false (.var v) env = .ok [(env, x, true)] := by
  constructor
  · simp only [eval, evalTerm, evalVarAt, h, boundFlag]
    rfl
  · simp only [evalTerm, evalVarAt, h, boundFlag]
    rfl

/-- `and_(x >= 0, x)` over `[0,1,2,3]`: the second conjunct IS the bound variable,
so its falsy value `0` makes the conjunction false — `[1,2,3]`, which is also the first-order answer (the specification
reads `.truth t` as "the value of `t` is truthy"). -/
theorem C01_boundVar_asCondition :
    evalQuery cexFalsyW ⟨[.var 0], some (.and (.cmp .ge (.var 0) (.lit 101 (.int 0))) (.truth (.var 0)))⟩ =
      .ok [[.int 1], [.int 2], [.int 3]] ∧
    solutions cexFalsyW ⟨[.var 0], some (.and (.cmp .ge (.var 0) (.lit 101 (.int 0))) (.truth (.var 0)))⟩ =
      .ok [[.int 1], [.int 2], [.int 3]] := by
  decide +kernel

def cex5W : World :=
  { objs := [cexObj false 1 true [] 2, cexObj false 2 true [] 4, cexObj false 3 true [] 6,
             cexObj true 1 true [] 2, cexObj true 1 true [] 2, cexObj true 3 true [] 6],
    doms := [(0, [.obj 0, .obj 1, .obj 2]), (3, [.obj 3, .obj 4, .obj 5])] }
def cex5Q : SQuery := ⟨[.var 0], some (.exists_ 3 (.cmp .ge (cexAttrA 0) (cexAttrA 3)))⟩

/-- F-C01-5. `exists(y, x.a >= y.a)` over `x ∈ {1,2,3}`, `y ∈ {1,1′,3}` misses
`x = 2`: its witnesses were already "seen" for `x = 1`. -/
theorem C01_cex_existsDedup :
    evalQuery cex5W cex5Q.toQuery = .ok [[.obj 0], [.obj 2]] ∧
    solutions cex5W cex5Q = .ok [[.obj 0], [.obj 1], [.obj 2]] ∧
    sameAnswers (evalQuery cex5W cex5Q.toQuery) (solutions cex5W cex5Q) = false := by
  decide +kernel

def cex6W : World := { objs := [cexObj false 1 true [] 2], doms := [(0, [.obj 0]), (3, [])] }
def cex6Q : SQuery := ⟨[.var 0], some (.forAll 3 (.cmp .ge (cexAttrA 0) (cexAttrA 3)))⟩

/-- F-C01-6. `for_all(y, x.a >= y.a)` with an empty domain for `y` raises
`TypeError` instead of being vacuously true. -/
theorem C01_cex_forAllEmpty :
    evalQuery cex6W cex6Q.toQuery = .error .typeError ∧
    solutions cex6W cex6Q = .ok [[.obj 0]] ∧
    sameAnswers (evalQuery cex6W cex6Q.toQuery) (solutions cex6W cex6Q) = false := by
  decide +kernel

def cex7W : World := { objs := cexObjs12, doms := [(0, [.obj 0, .obj 1]), (3, [.obj 0, .obj 1])] }
def cex7Q : SQuery :=
  ⟨[.var 0], some (.exists_ 3 (.and (.cmp .gt (cexAttrA 0) (.lit 101 (.int 1))) (.cmp .eq (cexAttrA 3) (.lit 102 (.int 1)))))⟩

/-- F-C01-7. `exists(y, and_(x.a > 1, y.a == 1))` raises `KeyError`: the
conjunction passes a false, un-extended result that does not bind `y`. -/
theorem C01_cex_existsKeyError :
    evalQuery cex7W cex7Q.toQuery = .error .keyError ∧
    solutions cex7W cex7Q = .ok [[.obj 1]] ∧
    sameAnswers (evalQuery cex7W cex7Q.toQuery) (solutions cex7W cex7Q) = false := by
  decide +kernel

def cex8Q : SQuery :=
  ⟨[.var 0], some (.or (.exists_ 3 (.cmp .gt (cexAttrA 0) (cexAttrA 3))) (.exists_ 3 (.cmp .lt (cexAttrA 0) (cexAttrA 3))))⟩

/-- F-C01-8. `or_(exists(y, x.a > y.a), exists(y, x.a < y.a))` over `{1,2}`
returns only `x = 2`: a quantifier never yields a false result, so the else-if never reaches its right side. -/
theorem C01_cex_orOfExists :
    evalQuery cex7W cex8Q.toQuery = .ok [[.obj 1]] ∧
    solutions cex7W cex8Q = .ok [[.obj 0], [.obj 1]] ∧
    sameAnswers (evalQuery cex7W cex8Q.toQuery) (solutions cex7W cex8Q) = false := by
  decide +kernel

def cex9W : World := { objs := [cexObj false 1 true [] 2], doms := [(0, [.obj 0]), (1, [])] }
def cex9Q : SQuery :=
  ⟨[.var 0], some (.or (.cmp .gt (cexAttrA 1) (.lit 101 (.int 0))) (.cmp .ge (cexAttrA 0) (.lit 102 (.int 1))))⟩

/-- F-C01-9. `or_(y.a > 0, x.a >= 1)` with an empty domain for `y` returns `x`
although no assignment of the query's variables exists. -/
theorem C01_cex_emptyDomain :
    evalQuery cex9W cex9Q.toQuery = .ok [[.obj 0]] ∧
    solutions cex9W cex9Q = .ok [] ∧
    sameAnswers (evalQuery cex9W cex9Q.toQuery) (solutions cex9W cex9Q) = false := by
  decide +kernel

def cex10W : World :=
  { objs := [cexObj false 1 false [0, 1] 2, cexObj false 0 false [2] 0, cexObj false 1 true [0] 2,
             cexObj false 0 true [2] 0],
    doms := [(0, [.obj 0, .obj 1, .obj 2, .obj 3])] }
def cex10Q : SQuery :=
  ⟨[.var 0], some (.not (.contains (.lit 101 (.list [0])) (.flatten (.attr (.var 0) "items"))))⟩

/-- F-C01-10. `not_(contains([0], flatten(x.items)))` also returns the object with
items `[0, 1]` (some element is not in `[0]`). -/
theorem C01_cex_flattenNot :
    evalQuery cex10W cex10Q.toQuery = .ok [[.obj 0], [.obj 1], [.obj 3]] ∧
    solutions cex10W cex10Q = .ok [[.obj 1], [.obj 3]] ∧
    sameAnswers (evalQuery cex10W cex10Q.toQuery) (solutions cex10W cex10Q) = false := by
  decide +kernel

end KrroodVerif.Eql
