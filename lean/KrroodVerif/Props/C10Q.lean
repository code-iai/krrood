import KrroodVerif.Lemmas.EqlTraceQLemmas
import KrroodVerif.Props.C10
/-!
# C10Q — laziness of a quantifier at the root of a query

`Model/EqlTraceQ.lean` extends the demand-driven trace model of C10 (`traceE`, quantifier-free) to
`an(entity(sel, exists(u, c)))` and `an(entity(sel, for_all(u, c)))` with a quantifier-free body `c`:
`traceExistsRoot`, `traceForAllRoot`, `traceQueryQ`. This file relates them to the list model `Eql.eval` /
`Eql.evalQuery` and states what they say about laziness: the streaming `exists` and `for_all` hand out exactly the list
model's rows; the universal variable is pulled one value at a time and no further once no candidate is left; the
`exists` trace is the condition's stream with rows spliced in, so stopping after `k` results has performed a prefix of it.

All theorems are unbounded in the world, the domains, the body, the selection and `k`. Of the definitions their
statements use, `Expr.QF1` (the conditions `traceQueryQ` covers) is defined here, `forAllStep` in `Lemmas/EqlAdds.lean`, the
others (`NoPull`, `nonRow`, `isPullOf`, `Expr.QF`, `vis`, `Bnd`, `firstVar`) in `Lemmas/EqlTraceLemmas.lean`.
-/
namespace KrroodVerif.Eql

/-! ## 1. `exists` at the root: rows -/

theorem C10Q_exists_vis (w : World) (sel : List Term) (u : VarId) (c : Expr) (hq : c.QF = true)
    (rows : List (List Val)) (h : evalQuery w ⟨sel, some (.exists_ u c)⟩ = .ok rows) :
    vis (traceExistsRoot w sel u c) = rows.map Ev.row := by
  unfold evalQuery at h
  simp only [eval, bind_eq_ok, pure_eq_ok] at h
  obtain ⟨rs', ⟨rs, hrs, hex⟩, _, rfl, h⟩ := h
  unfold traceExistsRoot
  rw [existsWalk_vis _ _ _ _ _ _ (childTrace_vis w c hq [] rs hrs), childTrue_ok w c [] rs hrs,
    existsWalk_markers _ _ _ _ _ _ hex]
  exact flatMap_traceSel_vis w sel _ rows h

/-- Quantifier-free body `c`: when the list model evaluates `an(entity(sel, exists(u, c)))` to
`rows`, the rows handed out by the streaming trace are exactly `rows` (order, multiplicity), and no exception escapes.
(Conditional on the list model succeeding: `eval` looks the quantified variable up in EVERY cell, `existsWalk` only
in the true ones.) -/
theorem C10Q_exists_rows (w : World) (sel : List Term) (u : VarId) (c : Expr) (hq : c.QF = true)
    (rows : List (List Val)) (h : evalQuery w ⟨sel, some (.exists_ u c)⟩ = .ok rows) :
    rowsOf (traceExistsRoot w sel u c) = rows ∧ hasErr (traceExistsRoot w sel u c) = false :=
  rows_of_vis (C10Q_exists_vis w sel u c hq rows h)

/-- the two walk lemmas behind `C10Q_exists_vis` composed, for any marked stream `evs` and any `seen` -/
theorem C10Q_existsWalk_vis (w : World) (sel : List Term) (u : VarId) (evs : List Ev)
    (rs rs' : List (Env × Bool)) (seen : List Val)
    (hevs : vis evs = ((rs.filter (·.2)).map (·.1)).map fun _ => Ev.row [])
    (h : existsFilter w u rs seen = .ok rs') :
    vis (existsWalk w sel u evs ((rs.filter (·.2)).map (·.1)) seen) =
      vis (((rs'.filter (·.2)).map (·.1)).flatMap fun env => traceSel w env sel []) := by
  rw [existsWalk_vis _ _ _ _ _ _ hevs, existsWalk_markers _ _ _ _ _ _ h]

/-! ## 2. `for_all` at the root: rows -/

/-- `forAllLoop` against the list model's `foldlM` over the later values of the universal variable -/
theorem C10Q_forall_filter (w : World) (u : VarId) (c : Expr) (vals : List Val) (s : Nat) (cands final : List Env)
    (h : (vals.map fun x => (((Key.var u, x) :: [] : Env), x, true)).foldlM (forAllStep w c) cands = .ok final) :
    (forAllLoop w u c (enumFrom s vals) cands).2 = final := by
  induction vals generalizing s cands final with
  | nil =>
    simp only [List.map_nil, List.foldlM_nil, pure_eq_ok] at h
    subst h
    rfl
  | cons v vs ih =>
    rw [List.map_cons, List.foldlM_cons] at h
    obtain ⟨cands', h1, h2⟩ := bind_ok h
    obtain ⟨g, hg, rfl⟩ := filterM_ok h1
    simp only [enumFrom, forAllLoop]
    split
    · rename_i hs
      have : cands = [] := by simpa using hs
      subst this
      exact (foldlM_forAllStep_nil w c _ final h2).symm
    · simp only
      -- the two filters agree on every candidate: both read the flag of the first result, and the list model's
      -- evaluation succeeded there (`hg`)
      refine Eq.trans (congrArg (fun l => (forAllLoop w u c (enumFrom (s + 1) vs) l).2) ?_) (ih _ _ _ h2)
      refine List.filter_congr ?_
      intro sol hsol
      have := hg sol hsol
      simp only [bind_eq_ok, pure_eq_ok] at this
      obtain ⟨rs, hrs, hm⟩ := this
      rw [hrs, ← hm]
      cases rs <;> rfl

/-- The trace is: the first pull, the first pass (its cells go nowhere: `traceE_vis` with the silent consumer), the later
pulls (`forAllLoop_fst_vis`: invisible), then the selection of the survivors, which are the list model's
(`C10Q_forall_filter`). -/
theorem C10Q_forall_vis (w : World) (sel : List Term) (u : VarId) (c : Expr) (hq : c.QF = true)
    (rows : List (List Val)) (h : evalQuery w ⟨sel, some (.forAll u c)⟩ = .ok rows) :
    vis (traceForAllRoot w sel u c) = rows.map Ev.row := by
  unfold evalQuery at h
  simp only [bind_eq_ok, pure_eq_ok] at h
  obtain ⟨res, hres, _, rfl, h⟩ := h
  obtain ⟨v1, vs, c0, final, hd, hc0, hfinal, rfl⟩ := eval_forAll_nil_ok w u c res hres
  rw [filter_snd_map_true] at h
  unfold traceForAllRoot
  simp only [hd, enumFrom, Nat.zero_add, childTrue_ok w c _ c0 hc0, List.map_map, Function.comp_def,
    C10Q_forall_filter w u c vs 1 _ final hfinal, vis_cons_pull, vis_append, forAllLoop_fst_vis, List.append_nil]
  rw [traceE_vis w c hq _ c0 hc0, flatMap_traceSel_vis w sel _ rows h]
  simp

/-- `C10Q_exists_rows` for `an(entity(sel, for_all(u, c)))`. -/
theorem C10Q_forall_rows (w : World) (sel : List Term) (u : VarId) (c : Expr) (hq : c.QF = true)
    (rows : List (List Val)) (h : evalQuery w ⟨sel, some (.forAll u c)⟩ = .ok rows) :
    rowsOf (traceForAllRoot w sel u c) = rows ∧ hasErr (traceForAllRoot w sel u c) = false :=
  rows_of_vis (C10Q_forall_vis w sel u c hq rows h)

/-! ## 3. whole queries -/

/-- the conditions covered by `traceQueryQ`: quantifier-free, or one quantifier at the root of a quantifier-free body -/
def Expr.QF1 : Expr → Bool
  | .exists_ _ c | .forAll _ c => c.QF
  | c => c.QF

theorem C10Q_query_vis (w : World) (q : Query) (hq : ∀ c, q.cond = some c → c.QF1 = true)
    (rows : List (List Val)) (h : evalQuery w q = .ok rows) :
    vis (traceQueryQ w q) = rows.map Ev.row := by
  obtain ⟨sel, cond⟩ := q
  cases cond with
  | none => exact C10_query_vis w ⟨sel, none⟩ (fun c hc => by cases hc) rows h
  | some c =>
    have hc := hq c rfl
    cases c with
    | exists_ u b => exact C10Q_exists_vis w sel u b hc rows h
    | forAll u b => exact C10Q_forall_vis w sel u b hc rows h
    | _ => exact C10_query_vis w _ (fun c' hc' => by cases hc'; exact hc) rows h

/-- `traceQueryQ` (quantifier-free condition, or a root-level `exists`/`for_all` over a
quantifier-free body): rows of the trace = rows of the list model, no exception. -/
theorem C10Q_query_rows (w : World) (q : Query) (hq : ∀ c, q.cond = some c → c.QF1 = true)
    (rows : List (List Val)) (h : evalQuery w q = .ok rows) :
    rowsOf (traceQueryQ w q) = rows ∧ hasErr (traceQueryQ w q) = false :=
  rows_of_vis (C10Q_query_vis w q hq rows h)

theorem C10Q_prefix_query (w : World) (q : Query) (hq : ∀ c, q.cond = some c → c.QF1 = true)
    (rows : List (List Val)) (h : evalQuery w q = .ok rows) (k : Nat) :
    rowsOf (uptoRow k (traceQueryQ w q)) = rows.take k := by
  rw [rowsOf_uptoRow, (C10Q_query_rows w q hq rows h).1]

/-! ## 4. `for_all`: pulls of the universal variable, only while candidates survive -/

/-- evaluating ANY expression from bindings that contain `u` never pulls an element of `u`'s domain (in
particular the first pass of `for_all`, which runs with the universal variable bound) -/
theorem C10Q_body_never_pulls_bound (w : World) (u : VarId) (c : Expr) (env : Env) (k : Env → Bool → List Ev)
    (hb : Bnd u env) (hk : ∀ e b, Bnd u e → NoPull u (k e b)) : NoPull u (traceE w c env k) :=
  (noPull_iff_allEv u _).2 (traceE_inv (evInv_noPull w u) c env hb k fun e b he => (noPull_iff_allEv u _).1 (hk e b he))

/-- `forAllLoop` emits nothing but pulls of the universal variable, at the positions of
a PREFIX of the remaining values: at most `rest.length` of them, and none when no candidate is left. -/
theorem C10Q_forAllLoop_pulls_le (w : World) (u : VarId) (c : Expr) (rest : List (Nat × Val)) (sols : List Env) :
    (forAllLoop w u c rest sols).1 <+: (rest.map fun p => Ev.pull u p.1) ∧
    (forAllLoop w u c rest sols).1.length ≤ rest.length ∧
    (sols = [] → (forAllLoop w u c rest sols).1 = []) := by
  refine ⟨forAllLoop_fst_prefix w u c rest sols, ?_, ?_⟩
  · have := (forAllLoop_fst_prefix w u c rest sols).length_le
    simpa using this
  · rintro rfl
    rw [forAllLoop_nil_sols]

/-- if `forAllLoop` did not pull every remaining value, it is because no candidate was left -/
theorem C10Q_forAllLoop_early_stop (w : World) (u : VarId) (c : Expr) (rest : List (Nat × Val)) (sols : List Env)
    (h : (forAllLoop w u c rest sols).1.length < rest.length) : (forAllLoop w u c rest sols).2 = [] := by
  induction rest generalizing sols with
  | nil => simp at h
  | cons p rest ih =>
    obtain ⟨i, v⟩ := p
    simp only [forAllLoop] at h ⊢
    split
    · rfl
    · rename_i hs
      simp only [hs, Bool.false_eq_true, if_false, List.length_cons, Nat.add_lt_add_iff_right] at h
      exact ih _ h

/-- If the condition has no true result under the first value of the universal variable,
exactly one element of its domain is pulled, however long the domain. -/
theorem C10Q_forall_early_exit (w : World) (sel : List Term) (u : VarId) (c : Expr) (v1 : Val) (rest : List Val)
    (hd : w.dom u = v1 :: rest) (h : childTrue w c [(.var u, v1)] = []) :
    pulled u (traceForAllRoot w sel u c) = 1 ∧ rowsOf (traceForAllRoot w sel u c) = [] := by
  have hfirst := first_pass_noPull w u c v1
  unfold traceForAllRoot
  simp only [hd, enumFrom, h, List.map_nil, forAllLoop_nil_sols, List.append_nil, List.flatMap_nil]
  constructor
  · rw [pulled_eq_foldl, List.foldl_cons, foldl_pullStep_noPull u _ _ hfirst]
    simp [pullStep]
  · rw [rowsOf_cons_pull, rowsOf_traceE_silent]

/-- When the selection does not mention the universal variable, the number of its
domain elements consumed by the whole query is exactly `1 +` the number of loop iterations performed -/
theorem C10Q_forall_pulled_exact (w : World) (sel : List Term) (u : VarId) (c : Expr) (v1 : Val) (rest : List Val)
    (hd : w.dom u = v1 :: rest) (hsel : ∀ t ∈ sel, u ∉ t.vars) :
    pulled u (traceForAllRoot w sel u c) =
      1 + (forAllLoop w u c (enumFrom 1 rest)
        ((childTrue w c [(.var u, v1)]).map (restrict · (c.nodes.filter (· != .var u))))).1.length := by
  have hfirst := first_pass_noPull w u c v1
  unfold traceForAllRoot
  simp only [hd, enumFrom, Nat.zero_add]
  -- the count along the trace: the first pull takes it to 1, the first pass and the selections hold no pull of `u`,
  -- the loop adds one per pull
  rw [pulled_eq_foldl, List.foldl_append, List.foldl_append, List.foldl_cons,
    foldl_pullStep_noPull u _ _ hfirst]
  have h0 : pullStep u 0 (Ev.pull u 0) = 1 := by simp [pullStep]
  rw [h0, forAllLoop_fst_foldl]
  exact foldl_pullStep_noPull u _ _ (NoPull.flatMap _ _ fun sol _ => traceSel_noPull w u sol sel [] hsel)

/-- a `for_all` query that has not consumed the whole universal domain has no result: pulling stops early only
because no candidate is left -/
theorem C10Q_forall_partial_pull_no_rows (w : World) (sel : List Term) (u : VarId) (c : Expr)
    (hsel : ∀ t ∈ sel, u ∉ t.vars) (h : pulled u (traceForAllRoot w sel u c) < (w.dom u).length) :
    rowsOf (traceForAllRoot w sel u c) = [] := by
  cases hd : w.dom u with
  | nil =>
    rw [hd] at h
    simp at h
  | cons v1 rest =>
    rw [C10Q_forall_pulled_exact w sel u c v1 rest hd hsel, hd, List.length_cons] at h
    have hstop := C10Q_forAllLoop_early_stop w u c (enumFrom 1 rest)
      ((childTrue w c [(.var u, v1)]).map (restrict · (c.nodes.filter (· != .var u))))
      (by rw [enumFrom_length]; omega)
    unfold traceForAllRoot
    simp only [hd, enumFrom, Nat.zero_add]
    rw [hstop]
    simp [rowsOf_traceE_silent, rowsOf_eq_nil_of_noRow _ (forAllLoop_fst_allEv w u c _ _ fun _ _ => rfl)]

/-! ## 5. `exists`: the condition's stream with rows spliced in -/

/-- selected variables that are bound in a row's bindings cost nothing: their selection only hands out rows -/
theorem C10Q_sel_bound_vars (w : World) (env : Env) (sel : List Term) (acc : List (List Val))
    (h : ∀ t ∈ sel, ∃ v, t = .var v ∧ Bnd v env) : ∀ e ∈ traceSel w env sel acc, e.isRow = true := by
  induction sel generalizing acc with
  | nil => exact List.forall_mem_map.2 fun _ _ => rfl
  | cons s rest ih =>
    obtain ⟨v, rfl, hv⟩ := h s (List.mem_cons_self ..)
    obtain ⟨x, hx⟩ := Option.isSome_iff_exists.1 hv
    simp only [traceSel, traceTerm, traceVar, hx, List.nil_append]
    exact ih _ (fun t ht => h t (List.mem_cons_of_mem _ ht))

/-- `existsWalk_filter` for the non-row events (pulls, reads, exceptions): none is reordered, dropped or invented -/
theorem C10Q_existsWalk_nonrow (w : World) (sel : List Term) (u : VarId) (evs : List Ev) (envs : List Env)
    (seen : List Val) (hlen : (rowsOf evs).length ≤ envs.length) (hb : ∀ env ∈ envs, Bnd u env)
    (hsel : ∀ env ∈ envs, ∀ e ∈ traceSel w env sel [], e.isRow = true) :
    nonRow (existsWalk w sel u evs envs seen) = nonRow evs :=
  existsWalk_filter _ (fun _ => rfl) w sel u evs envs seen hlen hb fun env henv e he => by simp [hsel env henv e he]

/-- Quantifier-free `c` on which the list model's `exists` succeeds; every selected term is a
variable bound in every true result of `c`. Then the non-row events of the `exists` trace are exactly the non-row
events of the condition's own stream, in order. -/
theorem C10Q_exists_nonrow (w : World) (sel : List Term) (u : VarId) (c : Expr) (hq : c.QF = true)
    (res : List (Env × Bool)) (h : eval w (.exists_ u c) [] = .ok res)
    (hsel : ∀ env ∈ childTrue w c [], ∀ t ∈ sel, ∃ v, t = .var v ∧ Bnd v env) :
    nonRow (traceExistsRoot w sel u c) = nonRow (childTrace w c []) :=
  traceExistsRoot_filter _ (fun _ => rfl) w sel u c hq res h fun env henv e he => by
    simp [C10Q_sel_bound_vars w env sel [] (hsel env henv) e he]

/-- a syntactic sufficient condition for the selection hypothesis: every selected term is the quantified variable or
the variable the condition enumerates first -/
theorem C10Q_exists_nonrow' (w : World) (sel : List Term) (u : VarId) (c : Expr) (hq : c.QF = true)
    (res : List (Env × Bool)) (h : eval w (.exists_ u c) [] = .ok res)
    (hsel : ∀ t ∈ sel, t = .var u ∨ ∃ v, t = .var v ∧ firstVar c = some v) :
    nonRow (traceExistsRoot w sel u c) = nonRow (childTrace w c []) := by
  refine C10Q_exists_nonrow w sel u c hq res h ?_
  obtain ⟨rs, hrs, hex⟩ := eval_exists_inv h
  intro env henv t ht
  rw [childTrue_ok w c [] rs hrs] at henv
  simp only [List.mem_map, List.mem_filter] at henv
  obtain ⟨p, ⟨hp, _⟩, rfl⟩ := henv
  rcases hsel t ht with rfl | ⟨v, rfl, hv⟩
  · exact ⟨u, rfl, (existsFilter_ok_iff w u rs []).1 ⟨res, hex⟩ p hp⟩
  · exact ⟨v, rfl, eval_firstVar_bnd w v c hv [] rs hrs p hp⟩

/-- Under the hypotheses of `C10Q_exists_nonrow`: the consumer that stops after its `k`-th
result has performed a PREFIX of the condition's stream (nothing beyond it has been pulled or read); in particular it
has consumed at most as much of every domain as the whole condition does, and the whole `exists` consumes exactly as
much as the condition. -/
theorem C10Q_exists_streaming (w : World) (sel : List Term) (u : VarId) (c : Expr) (hq : c.QF = true)
    (res : List (Env × Bool)) (h : eval w (.exists_ u c) [] = .ok res)
    (hsel : ∀ env ∈ childTrue w c [], ∀ t ∈ sel, ∃ v, t = .var v ∧ Bnd v env) (k : Nat) :
    nonRow (uptoRow k (traceExistsRoot w sel u c)) <+: nonRow (childTrace w c []) ∧
    (∀ v, pulled v (uptoRow k (traceExistsRoot w sel u c)) ≤ pulled v (childTrace w c [])) ∧
    (∀ v, pulled v (traceExistsRoot w sel u c) = pulled v (childTrace w c [])) := by
  have hn := C10Q_exists_nonrow w sel u c hq res h hsel
  exact ⟨hn ▸ (uptoRow_prefix k _).filter _,
    fun v => (streaming_of_filter_eq v _ (fun _ => rfl) hn k).1,
    fun v => (streaming_of_filter_eq v _ (fun _ => rfl) hn k).2⟩

/-- ANY selection; `v` a variable that no selected term mentions (e.g. a variable
occurring only in the condition). The pulls of `v` in the `exists` trace are exactly the pulls of `v` in the
condition's stream, in order; the consumer stopping after `k` results has performed a prefix of them; so it has
consumed at most what the whole condition consumes, and exhausting the query consumes exactly that. -/
theorem C10Q_exists_streaming_var (w : World) (sel : List Term) (u : VarId) (c : Expr) (hq : c.QF = true)
    (res : List (Env × Bool)) (h : eval w (.exists_ u c) [] = .ok res)
    (v : VarId) (hv : ∀ t ∈ sel, v ∉ t.vars) (k : Nat) :
    (traceExistsRoot w sel u c).filter (isPullOf v) = (childTrace w c []).filter (isPullOf v) ∧
    (uptoRow k (traceExistsRoot w sel u c)).filter (isPullOf v) <+: (childTrace w c []).filter (isPullOf v) ∧
    pulled v (uptoRow k (traceExistsRoot w sel u c)) ≤ pulled v (childTrace w c []) ∧
    pulled v (traceExistsRoot w sel u c) = pulled v (childTrace w c []) := by
  have hn : (traceExistsRoot w sel u c).filter (isPullOf v) = (childTrace w c []).filter (isPullOf v) :=
    traceExistsRoot_filter _ (fun _ => rfl) w sel u c hq res h fun env _ =>
      isPullOf_false_of_noPull v _ (traceSel_noPull w v env sel [] hv)
  exact ⟨hn, hn ▸ (uptoRow_prefix k _).filter _, streaming_of_filter_eq v _ (fun _ => by simp [isPullOf]) hn k⟩

/-! ## 6. pulls inside the domains -/

theorem C10Q_pull_in_range (w : World) (q : Query) (v : VarId) (i : Nat) (h : Ev.pull v i ∈ traceQueryQ w q) :
    i < (w.dom v).length := by
  have : AllPullOk w (traceQueryQ w q) := by
    unfold traceQueryQ
    split
    · exact traceExistsRoot_pullOk w _ _ _
    · exact traceForAllRoot_pullOk w _ _ _
    · exact traceQuery_pullOk w q
  exact this _ h

theorem C10Q_pulled_le_domain (w : World) (q : Query) (v : VarId) (k : Nat) :
    pulled v (uptoRow k (traceQueryQ w q)) ≤ pulled v (traceQueryQ w q) ∧
    pulled v (traceQueryQ w q) ≤ (w.dom v).length :=
  ⟨pulled_mono_prefix v (uptoRow_prefix k _), (pulled_le_iff v _ _).2 fun _ hi => C10Q_pull_in_range w q v _ hi⟩

/-! ## 7. non-vacuity -/

section Tests

/-- `x.a == 1` over the three objects of `exWorld` (`a = 1, 2, 1`) -/
def exqBody : Expr := .cmp .eq (.attr (.var 0) "a") (.lit 10 (.int 1))

/-- `exists` streams: `an(entity(x), exists(x, x.a == 1))`. The first row is handed out after ONE of the three
objects has been pulled (strictly less than at the end), the second after all three; the hypotheses of
`C10Q_exists_rows` / `C10Q_exists_streaming` hold and the rows are the list model's. -/
example :
    exqBody.QF = true ∧
    (evalQuery exWorld ⟨[.var 0], some (.exists_ 0 exqBody)⟩).toOption = some [[.obj 0], [.obj 2]] ∧
    rowsOf (traceExistsRoot exWorld [.var 0] 0 exqBody) = [[.obj 0], [.obj 2]] ∧
    hasErr (traceExistsRoot exWorld [.var 0] 0 exqBody) = false ∧
    uptoRow 1 (traceExistsRoot exWorld [.var 0] 0 exqBody) = [.pull 0 0, .read 0 "a", .row [.obj 0]] ∧
    pulled 0 (uptoRow 1 (traceExistsRoot exWorld [.var 0] 0 exqBody)) = 1 ∧
    pulled 0 (traceExistsRoot exWorld [.var 0] 0 exqBody) = 3 ∧
    pulled 0 (uptoRow 1 (traceExistsRoot exWorld [.var 0] 0 exqBody)) <
      pulled 0 (traceExistsRoot exWorld [.var 0] 0 exqBody) ∧
    pulled 0 (childTrace exWorld exqBody []) = 3 := by decide

/-- `y.a == x.a` (`y` = variable 1 is enumerated first, then `x` = variable 0) -/
def exqBody2 : Expr := .cmp .eq (.attr (.var 1) "a") (.attr (.var 0) "a")

/-- `exists` over a two-variable body, de-duplication: `an(entity(x), exists(x, y.a == x.a))`.
The witnesses `o0`, `o2` are found under `y = o0`, `o1` under `y = o1`; under `y = o2` the witnesses `o0`, `o2` are
met again and skipped (5 true cells, 3 rows). Consumption of `y`'s domain grows with the number of results: 1, 1, 2
and 3 at exhaustion; the non-row events are those of the condition's own stream. -/
example :
    (evalQuery exWorld ⟨[.var 0], some (.exists_ 0 exqBody2)⟩).toOption = some [[.obj 0], [.obj 2], [.obj 1]] ∧
    rowsOf (traceExistsRoot exWorld [.var 0] 0 exqBody2) = [[.obj 0], [.obj 2], [.obj 1]] ∧
    (childTrue exWorld exqBody2 []).length = 5 ∧
    pulled 1 (uptoRow 1 (traceExistsRoot exWorld [.var 0] 0 exqBody2)) = 1 ∧
    pulled 0 (uptoRow 1 (traceExistsRoot exWorld [.var 0] 0 exqBody2)) = 1 ∧
    pulled 1 (uptoRow 2 (traceExistsRoot exWorld [.var 0] 0 exqBody2)) = 1 ∧
    pulled 0 (uptoRow 2 (traceExistsRoot exWorld [.var 0] 0 exqBody2)) = 3 ∧
    pulled 1 (uptoRow 3 (traceExistsRoot exWorld [.var 0] 0 exqBody2)) = 2 ∧
    pulled 1 (traceExistsRoot exWorld [.var 0] 0 exqBody2) = 3 ∧
    nonRow (traceExistsRoot exWorld [.var 0] 0 exqBody2) = nonRow (childTrace exWorld exqBody2 []) := by decide

/-- `for_all` early exit: `an(entity(x), for_all(y, y.a == 2))`: the universal domain has 3 values, the
condition fails under the first, ONE value is pulled. (`C10Q_forall_early_exit`'s hypotheses hold.) -/
example :
    let c : Expr := .cmp .eq (.attr (.var 1) "a") (.lit 10 (.int 2))
    (exWorld.dom 1).length = 3 ∧ childTrue exWorld c [(.var 1, .obj 0)] = [] ∧
    pulled 1 (traceForAllRoot exWorld [.var 0] 1 c) = 1 ∧
    rowsOf (traceForAllRoot exWorld [.var 0] 1 c) = [] ∧
    (evalQuery exWorld ⟨[.var 0], some (.forAll 1 c)⟩).toOption = some [] := by decide

/-- `for_all` stops when the candidates die out: `an(entity(x), for_all(y, x.a == y.a))`: `x ∈ {o0, o2}`
survive `y = o0`, none survives `y = o1`, `o2` is never pulled (2 of 3). -/
example :
    let c : Expr := .cmp .eq (.attr (.var 0) "a") (.attr (.var 1) "a")
    (childTrue exWorld c [(.var 1, .obj 0)]).length = 2 ∧
    pulled 1 (traceForAllRoot exWorld [.var 0] 1 c) = 2 ∧
    rowsOf (traceForAllRoot exWorld [.var 0] 1 c) = [] ∧
    (evalQuery exWorld ⟨[.var 0], some (.forAll 1 c)⟩).toOption = some [] := by decide

/-- `for_all` with results (the hypotheses of `C10Q_forall_rows` are satisfiable with a non-empty result):
`an(entity(x), for_all(y, x.a <= y.a))` yields the two objects with the least `a`, after the whole universal domain
has been pulled and before the first row is handed out. -/
example :
    let c : Expr := .cmp .le (.attr (.var 0) "a") (.attr (.var 1) "a")
    c.QF = true ∧
    (evalQuery exWorld ⟨[.var 0], some (.forAll 1 c)⟩).toOption = some [[.obj 0], [.obj 2]] ∧
    rowsOf (traceForAllRoot exWorld [.var 0] 1 c) = [[.obj 0], [.obj 2]] ∧
    hasErr (traceForAllRoot exWorld [.var 0] 1 c) = false ∧
    pulled 1 (uptoRow 1 (traceForAllRoot exWorld [.var 0] 1 c)) = 3 := by decide

/-- Why `C10Q_exists_rows` is conditional: a FALSE cell that does not bind the quantified variable makes the
list model raise `KeyError`, the streaming walk never looks at it. `exists(y, x.a == 2 and y.a == 1)`: under
`x = o0` the conjunction is false before `y` is bound. -/
example :
    let c : Expr := .and (.cmp .eq (.attr (.var 0) "a") (.lit 10 (.int 2)))
                         (.cmp .eq (.attr (.var 1) "a") (.lit 11 (.int 1)))
    errOf (evalQuery exWorld ⟨[.var 1], some (.exists_ 1 c)⟩) = some .keyError ∧
    rowsOf (traceExistsRoot exWorld [.var 1] 1 c) = [[.obj 0], [.obj 2]] ∧
    hasErr (traceExistsRoot exWorld [.var 1] 1 c) = false := by decide

end Tests

end KrroodVerif.Eql
