import KrroodVerif.Props.C01IR
/-!
C01 (c01b) — `runIR irTable` against `eval`: the `OR` family (`OR.evaluate_left` calling `OR.evaluate_right`, the flag
`_is_false_` threaded from one left result to the next: `flatMapRF` / `exec_leftLoop` of `Props/C01IR.lean`) and
`Variable._evaluate__` (`HasType`, variables and literals).
-/
open KrroodVerif.Eql KrroodVerif.Eql.IR
namespace KrroodVerif.Eql.IR

theorem iterV_list (l : List V) : iterV (.list l) = pure l := rfl
theorem post_next (fr : Frame) (ys : List V) : post { fr := fr, ys := ys, ctl := .next } = pure (.list ys, fr.isFalse) := rfl

theorem exec_ifte_eq (lower : CallH) (nd : Node) (w : World) (c : PE) (a b : St) (fr : Frame) :
    exec lower nd w (.ifte c a b) fr = (do
      let (v, s) ← evalE lower nd w c fr
      if truthyV v then exec lower nd w a { fr with isFalse := s } else exec lower nd w b { fr with isFalse := s }) := by
  rfl

/-! ### `OR.evaluate_right`, `OR.evaluate_left`; `ElseIf`, `Union` -/

/-- `self._is_false_ = v1.is_false; self.right_evaluated = True; yield OperationResult(v1.bindings, self._is_false_, self)` -/
abbrev orRightBody : St :=
  .seq (.assign (.att .self "_is_false_") (.att (.nm "v1") "is_false"))
    (.seq (.assign (.att .self "right_evaluated") (.cst "True")) (yieldCopy "v1"))

/-- `self.left_evaluated = True; v2 = v1.is_false`, then `yield from self.evaluate_right(v1.bindings)` if `v2`, else
`self._is_false_ = False; yield OperationResult(v1.bindings, self._is_false_, self)` -/
abbrev orLeftBody : St :=
  .seq (.assign (.att .self "left_evaluated") (.cst "True")) (.seq (.assign (.nm "v2") (.att (.nm "v1") "is_false"))
    (.ifte (.nm "v2") (.yldFrom (.call (.att .self "evaluate_right") (.cons (.att (.nm "v1") "bindings") .nil)))
      (.seq (.assign (.att .self "_is_false_") (.cst "False")) (yieldCopy "v1"))))

/-! The rows of `irTable` for `OR.evaluate_left`, `OR.evaluate_right`, `ElseIf._evaluate__` and `Union._evaluate__`, as
the table has them; their bodies are `orLeftBody`, `orRightBody`, `withPrologue`, `evalChild` unfolded. -/

def mOrLeft : Method :=
  { cls := "OR", name := "evaluate_left", kind := "def", params := ["sources"],
      body := (.seq (.assign (.nm "v0") (.call (.att (.att .self "left") "_evaluate__") (.cons (.nm "sources") (.cons (.kw "parent" .self) .nil)))) (.forIn (.nm "v1") (.nm "v0") (.seq (.assign (.att .self "left_evaluated") (.cst "True")) (.seq (.assign (.nm "v2") (.att (.nm "v1") "is_false")) (.ifte (.nm "v2") (.yldFrom (.call (.att .self "evaluate_right") (.cons (.att (.nm "v1") "bindings") .nil))) (.seq (.assign (.att .self "_is_false_") (.cst "False")) (.yld (.call (.nm "OperationResult") (.cons (.att (.nm "v1") "bindings") (.cons (.att .self "_is_false_") (.cons .self .nil))))))))))) }

def mOrRight : Method :=
  { cls := "OR", name := "evaluate_right", kind := "def", params := ["sources"],
      body := (.seq (.assign (.att .self "left_evaluated") (.cst "False")) (.seq (.assign (.nm "v0") (.call (.att (.att .self "right") "_evaluate__") (.cons (.nm "sources") (.cons (.kw "parent" .self) .nil)))) (.seq (.forIn (.nm "v1") (.nm "v0") (.seq (.assign (.att .self "_is_false_") (.att (.nm "v1") "is_false")) (.seq (.assign (.att .self "right_evaluated") (.cst "True")) (.yld (.call (.nm "OperationResult") (.cons (.att (.nm "v1") "bindings") (.cons (.att .self "_is_false_") (.cons .self .nil)))))))) (.assign (.att .self "right_evaluated") (.cst "False"))))) }

def mElseIf : Method :=
  { cls := "ElseIf", name := "_evaluate__", kind := "def", params := ["sources", "parent"],
      body := (.seq (.assign (.att .self "_eval_parent_") (.nm "parent")) (.seq (.assign (.nm "sources") (.bin "or" (.nm "sources") (.dict .nil))) (.yldFrom (.call (.att .self "evaluate_left") (.cons (.nm "sources") .nil))))) }

def mUnion : Method :=
  { cls := "Union", name := "_evaluate__", kind := "def", params := ["sources", "parent"],
      body := (.seq (.assign (.att .self "_eval_parent_") (.nm "parent")) (.seq (.assign (.nm "sources") (.bin "or" (.nm "sources") (.dict .nil))) (.seq (.yldFrom (.call (.att .self "evaluate_left") (.cons (.nm "sources") .nil))) (.yldFrom (.call (.att .self "evaluate_right") (.cons (.nm "sources") .nil)))))) }

theorem find_mOrLeft : irTable.find "ElseIf" "evaluate_left" = some mOrLeft := by rfl
theorem find_mOrRight : irTable.find "ElseIf" "evaluate_right" = some mOrRight := by rfl
theorem find_mElseIf : irTable.find "ElseIf" "_evaluate__" = some mElseIf := by rfl
theorem find_mUnion : irTable.find "Union" "_evaluate__" = some mUnion := by rfl
theorem find_mOrLeftU : irTable.find "Union" "evaluate_left" = some mOrLeft := by rfl
theorem find_mOrRightU : irTable.find "Union" "evaluate_right" = some mOrRight := by rfl

theorem or_right_body {lower : CallH} {nd : Node} {w : World} {fr : Frame} (hfr : fr.Clean) (r : IRes) :
    exec lower nd w orRightBody (fr.set "v1" (V.res r))
      = .ok { fr := { fr.set "v1" (V.res r) with isFalse := r.isFalse }, ys := [V.res r], ctl := .next } :=
  have hv := fr.lookup_set_self "v1" (V.res r)
  exec_seq_ok (exec_assign_isFalse (evalE_att_is_false (evalE_nm hv)))
    (exec_seq_ok (exec_assign_attr (by decide) evalE_true) (exec_yieldCopy (hfr.set (by decide) _ _) hv))

theorem or_right_call (nd : Node) (hfind : irTable.find nd.cls "evaluate_right" = some mOrRight) (w : World)
    (lower : CallH) (b : IEnv) (s0 : Bool) :
    callWith irTable nd w lower "evaluate_right" [V.env b] s0
      = (nd.ev .right b.env >>= fun rs => pure (V.list ((rs.map (wrapC .right b)).map V.res), flagAfter s0 rs)) := by
  rw [callWith_find hfind]
  simp only [mOrRight, bindParams]
  rw [exec_seq_det (exec_assign_attr (by decide) evalE_false), exec_seq_assign_nm,
    evalE_call_evaluate evalE_att_right (evalE_nm (v := V.env b) rfl)]
  cases nd.ev .right b.env with
  | error e => rfl
  | ok rs =>
    have h := exec_forIn_det (lower := lower) (nd := nd) (w := w) (body := orRightBody)
      (fr := Frame.set ⟨[("sources", V.env b)], s0⟩ "v0" (wrapChild b .right rs)) Frame.Clean
      (evalE_nm (Frame.lookup_set_self _ _ _)) (iterV_wrapChild _ _ rs)
      (Frame.Clean.set (fr := ⟨[("sources", V.env b)], s0⟩) rfl (by decide) _ _) (wrapC .right b)
      (fun a fr hfr => ⟨hfr.set (x := "v1") (by decide) _ _, or_right_body hfr _⟩)
    show (exec lower nd w (.seq _ _) _ >>= post) = _
    rw [exec_seq_ok h (exec_assign_attr (by decide) evalE_false)]
    -- the call returns the flag of the frame the loop ends in; a pass sets the flag to `!a.2.2` whatever the frame was
    show Except.ok (V.list (_ ++ []), Frame.isFalse (rs.foldl _ _)) = _
    rw [foldl_proj Frame.isFalse _ (fun _ a => !a.2.2) (fun _ _ => rfl), List.append_nil]
    rfl

theorem or_left_body_res {lower : CallH} {nd : Node} {w : World} {fr : Frame} (hfr : fr.Clean) (r : IRes) :
    exec lower nd w orLeftBody (fr.set "v1" (V.res r))
      = if r.isFalse then
          (lower "evaluate_right" [V.env r.b] fr.isFalse >>= fun p => iterV p.1 >>= fun xs => pure
            { fr := { (fr.set "v1" (V.res r)).set "v2" (.bool r.isFalse) with isFalse := p.2 }, ys := xs, ctl := .next })
        else .ok { fr := { (fr.set "v1" (V.res r)).set "v2" (.bool r.isFalse) with isFalse := false },
                   ys := [V.res { b := r.b, isFalse := false }], ctl := .next } := by
  have hv2 := (fr.set "v1" (V.res r)).lookup_set_self "v2" (.bool r.isFalse)
  have hv1 := (Frame.lookup_set_ne (x := "v2") (y := "v1") (by decide) (fr.set "v1" (V.res r)) (.bool r.isFalse)).trans
    (fr.lookup_set_self "v1" (V.res r))
  refine (exec_seq_det (exec_assign_attr (by decide) evalE_true)).trans ?_
  refine (exec_seq_det (exec_assign_nm (evalE_att_is_false (evalE_nm (fr.lookup_set_self "v1" _))))).trans ?_
  refine (exec_ifte (evalE_nm hv2)).trans ?_
  obtain ⟨b, t⟩ := r
  cases t with
  | true =>
    refine (if_pos rfl).trans (Eq.trans ?_ (if_pos rfl).symm)
    rw [exec_yldFrom_eq, evalE_call_helper (.inr rfl) (evalE_cons (evalE_att_bindings (evalE_nm hv1)) evalE_nil)]
    rfl
  | false =>
    exact exec_seq_ok (exec_assign_isFalse evalE_false)
      (exec_yieldCopy ((hfr.set (by decide) _ _).set (by decide) _ _) hv1)

theorem or_left_body_true {lower : CallH} {nd : Node} {w : World} {fr : Frame} (hfr : fr.Clean) (b : IEnv) :
    exec lower nd w orLeftBody (fr.set "v1" (V.res { b := b, isFalse := false }))
      = .ok { fr := { (fr.set "v1" (V.res { b := b, isFalse := false })).set "v2" (.bool false) with isFalse := false },
              ys := [V.res { b := b, isFalse := false }], ctl := .next } :=
  or_left_body_res hfr _

theorem or_left_body_false {lower : CallH} {nd : Node} {w : World} {fr : Frame} (hfr : fr.Clean) (b : IEnv) :
    exec lower nd w orLeftBody (fr.set "v1" (V.res { b := b, isFalse := true }))
      = (lower "evaluate_right" [V.env b] fr.isFalse >>= fun p => iterV p.1 >>= fun xs => pure
          { fr := { (fr.set "v1" (V.res { b := b, isFalse := true })).set "v2" (.bool true) with isFalse := p.2 },
            ys := xs, ctl := .next }) :=
  or_left_body_res hfr _

theorem or_left_body {nd : Node} (hfind : irTable.find nd.cls "evaluate_right" = some mOrRight) {w : World}
    (lower : CallH) {fr : Frame} (hfr : fr.Clean) (src : IEnv) (a : Env × Val × Bool) :
    exec (callWith irTable nd w lower) nd w orLeftBody (fr.set "v1" (V.res (wrapC .left src a)))
      = (seqG false nd src a fr.isFalse >>= fun c => pure
          { fr := { (fr.set "v1" (V.res (wrapC .left src a))).set "v2" (.bool (!a.2.2)) with isFalse := c.2 },
            ys := c.1.map V.res, ctl := .next }) := by
  obtain ⟨e1, v1, t⟩ := a
  cases t with
  | true => exact or_left_body_true hfr _
  | false =>
    refine (or_left_body_false hfr _).trans ?_
    rw [or_right_call nd hfind]
    simp only [seqG, if_true, bind_assoc, pure_bind]
    rfl

theorem or_left_call (nd : Node) (hfL : irTable.find nd.cls "evaluate_left" = some mOrLeft)
    (hfR : irTable.find nd.cls "evaluate_right" = some mOrRight) (w : World) (lower : CallH) (b : IEnv) (s0 : Bool) :
    callWith irTable nd w (callWith irTable nd w lower) "evaluate_left" [V.env b] s0
      = ((nd.ev .left b.env >>= fun ls => flatMapRF ls (seqG false nd b) (fun c => c.1.map V.res) Prod.snd s0)
          >>= fun p => pure (V.list p.1, p.2)) := by
  rw [bind_assoc, callWith_find hfL]
  -- of the frame the loop ends in, `post` reads the flag only: the continuation makes a frame of `s`
  exact exec_leftLoop (L := [("sources", V.env b)]) (evalE_nm rfl) rfl false
    (fun fr hfr a => ⟨_, fun c => ⟨(hfr.set (x := "v1") (by decide) _ _).set (x := "v2") (by decide) _ c.2, rfl⟩,
      or_left_body hfR lower hfr b a⟩)
    fun ys c s => post { fr := { locals := [], isFalse := s }, ys := ys, ctl := c }

theorem ite_eq_false {α} (b : Bool) (x y : α) : (if b = false then x else y) = if b then y else x := by
  cases b <;> rfl

theorem runNode_elseIf (nd : Node) (hcls : nd.cls = "ElseIf") (hk : nd.keyOf .self = none) (w : World) (env : Env) :
    runNode irTable nd w env = (nd.ev .left env >>= fun ls => flatMapR ls fun a =>
      if a.2.2 then pure [(a.1, Val.none, true)]
      else (nd.ev .right a.1 >>= fun rs => pure (rs.map fun c => (c.1, Val.none, c.2.2)))) := by
  rw [runNode_evaluate nd (hcls ▸ find_mElseIf) rfl rfl,
    exec_yldFrom_helper (.inl rfl) (evalE_cons (evalE_nm (L0_sources env)) evalE_nil)
      (or_left_call nd (hcls ▸ find_mOrLeft) (hcls ▸ find_mOrRight) w _ _ _)]
  cases nd.ev .left env with
  | error e => rfl
  | ok ls =>
    have h := flatMapRF_conv nd (seqG false nd { env := env }) _
      (fun a s => (seqG_conv false nd hk { env := env } rfl a s).trans (ite_eq_false _ _ _)) (pure []) ls false
    simp only [pure_bind, List.append_nil, List.mapM_nil, bind_pure] at h
    refine Eq.trans ?_ h
    -- the goal's left side also runs `post` and `iterV` on what the loop yields, and they hand it on as it is: by computation,
    -- once the outcome of the loop is a constructor
    show (flatMapRF ls _ _ _ false >>= _ >>= _ >>= _) = _
    cases flatMapRF ls (seqG false nd { env := env }) (fun c => c.1.map V.res) Prod.snd false <;> rfl

theorem C01_runIR_eq_eval_elseIf_partial (w : World) (l r : Expr) (env : Env)
    (ihl : runIR irTable w l env = liftE (eval w l env))
    (ihr : ∀ ls, eval w l env = .ok ls → ∀ p ∈ ls, p.2 = false → runIR irTable w r p.1 = liftE (eval w r p.1)) :
    runIR irTable w (.elseIf l r) env = liftE (eval w (.elseIf l r) env) := by
  rw [runIR, runNode_elseIf _ rfl rfl]
  simp only [ihl, eval]
  cases hl : eval w l env with
  | error err => rfl
  | ok ls =>
    refine flatMapR_liftE _ _ ls fun p hp => ?_
    obtain ⟨e, t⟩ := p
    cases t with
    | true => rfl
    | false => exact child_liftE _ _ (ihr ls hl _ hp rfl)

theorem runNode_union (nd : Node) (hcls : nd.cls = "Union") (hk : nd.keyOf .self = none) (w : World) (env : Env) :
    runNode irTable nd w env = (nd.ev .left env >>= fun ls =>
      (flatMapR ls fun a =>
        if a.2.2 then pure [(a.1, Val.none, true)]
        else (nd.ev .right a.1 >>= fun rs => pure (rs.map fun c => (c.1, Val.none, c.2.2)))) >>= fun a =>
      nd.ev .right env >>= fun rs => pure (a ++ rs.map fun c => (c.1, Val.none, c.2.2))) := by
  have hfR : irTable.find nd.cls "evaluate_right" = some mOrRight := hcls ▸ find_mOrRightU
  rw [runNode_evaluate nd (hcls ▸ find_mUnion) rfl rfl, exec_seq_eq,
    exec_yldFrom_helper (.inl rfl) (evalE_cons (evalE_nm (L0_sources env)) evalE_nil)
      (or_left_call nd (hcls ▸ find_mOrLeftU) hfR w _ _ _)]
  cases nd.ev .left env with
  | error e => rfl
  | ok ls =>
    -- `h`: what `runNode` reads off the loop of `evaluate_left` followed by the yields of `evaluate_right(sources)`
    have h := flatMapRF_conv nd (seqG false nd { env := env }) _
      (fun a s => (seqG_conv false nd hk { env := env } rfl a s).trans (ite_eq_false _ _ _))
      (nd.ev .right env >>= fun rs => pure ((rs.map (wrapC .right { env := env })).map V.res)) ls false
    simp only [bind_assoc, pure_bind, List.map_map, Function.comp_def, mapM_conv_right nd hk { env := env } rfl] at h
    refine Eq.trans ?_ h
    show (flatMapRF ls _ _ _ false >>= _ >>= _ >>= _ >>= _) = _
    -- the second `yield from` starts in the frame the first ends in: its flag `p.2` is known once the outcome `p` of the loop is
    cases hL : flatMapRF ls (seqG false nd { env := env }) (fun c => c.1.map V.res) Prod.snd false with
    | error e => rfl
    | ok p =>
      show (exec _ nd w _ ⟨L0 env, p.2⟩ >>= _ >>= _ >>= _) = _
      rw [exec_yldFrom_helper (.inr rfl) (evalE_cons (evalE_nm (L0_sources env)) evalE_nil) (or_right_call nd hfR w _ _ _)]
      simp only [List.map_map]
      cases nd.ev .right env <;> rfl

theorem C01_runIR_eq_eval_union_partial (w : World) (l r : Expr) (env : Env)
    (ihl : runIR irTable w l env = liftE (eval w l env))
    (ihr : ∀ ls, eval w l env = .ok ls → ∀ p ∈ ls, p.2 = false → runIR irTable w r p.1 = liftE (eval w r p.1))
    (ihr0 : runIR irTable w r env = liftE (eval w r env)) :
    runIR irTable w (.union l r) env = liftE (eval w (.union l r) env) := by
  -- `Union._evaluate__` is `ElseIf._evaluate__` followed by `yield from self.evaluate_right(sources)`
  have h := append_liftE (C01_runIR_eq_eval_elseIf_partial w l r env ihl ihr) (child_liftE _ _ ihr0)
  rw [runNode_elseIf _ rfl rfl] at h
  rw [runIR, runNode_union _ rfl rfl]
  simp only [eval, bind_assoc, pure_bind] at h ⊢
  exact h

/-- PARTIAL: the statement for all of `Expr` also needs `Comparator`, the attribute / index / flatten terms and the
quantifiers (`Exists`, `ForAll`), which are validated by the driver cross-check only -/
theorem C01_runIR_eq_eval_connectives_partial (w : World) (Agree : Expr → Prop)
    (hA : ∀ e, Agree e ↔ ∀ env, runIR irTable w e env = liftE (eval w e env)) :
    (∀ e, Agree e → Agree (.not e)) ∧ (∀ l r, Agree l → Agree r → Agree (.and l r)) ∧
    (∀ l r, Agree l → Agree r → Agree (.elseIf l r)) ∧ (∀ l r, Agree l → Agree r → Agree (.union l r)) := by
  refine ⟨fun e h => (hA _).2 fun env => C01_runIR_eq_eval_not_partial w e env ((hA _).1 h env),
    fun l r hl hr => (hA _).2 fun env => C01_runIR_eq_eval_and_partial w l r env ((hA _).1 hl env) (fun _ _ p _ _ => (hA _).1 hr p.1),
    fun l r hl hr => (hA _).2 fun env => C01_runIR_eq_eval_elseIf_partial w l r env ((hA _).1 hl env) (fun _ _ p _ _ => (hA _).1 hr p.1),
    fun l r hl hr => (hA _).2 fun env => C01_runIR_eq_eval_union_partial w l r env ((hA _).1 hl env)
      (fun _ _ p _ _ => (hA _).1 hr p.1) ((hA _).1 hr env)⟩

theorem C01_runIR_eq_eval_closed_partial (w : World) :
    (∀ e, (∀ env, runIR irTable w e env = liftE (eval w e env)) →
      ∀ env, runIR irTable w (.not e) env = liftE (eval w (.not e) env)) ∧
    (∀ l r, (∀ env, runIR irTable w l env = liftE (eval w l env)) → (∀ env, runIR irTable w r env = liftE (eval w r env)) →
      ∀ env, runIR irTable w (.and l r) env = liftE (eval w (.and l r) env)) :=
  have h := C01_runIR_eq_eval_connectives_partial w (fun e => ∀ env, runIR irTable w e env = liftE (eval w e env))
    fun _ => Iff.rfl
  ⟨h.1, h.2.1⟩

example (w : World) : ∃ Agree : Expr → Prop, ∀ e, Agree e ↔ ∀ env, runIR irTable w e env = liftE (eval w e env) :=
  ⟨fun e => ∀ env, runIR irTable w e env = liftE (eval w e env), fun _ => Iff.rfl⟩

/-! ### `Variable._evaluate__`: `HasType`, variables and literals -/

def mVar : Method :=
  { cls := "Variable", name := "_evaluate__", kind := "def", params := ["sources", "parent"],
      body := (.seq (.assign (.att .self "_eval_parent_") (.nm "parent")) (.seq (.assign (.nm "sources") (.bin "or" (.nm "sources") (.dict .nil))) (.ifte (.bin "in" (.att .self "_id_") (.nm "sources")) (.seq (.ifte (.bin "or" (.call (.nm "isinstance") (.cons (.att .self "_parent_") (.cons (.nm "LogicalBinaryOperator") .nil))) (.bin "is" .self (.att .self "_conditions_root_"))) (.assign (.att .self "_is_false_") (.un "not" (.call (.nm "bool") (.cons (.idx (.nm "sources") (.att .self "_id_")) .nil)))) .pass) (.seq (.assign (.nm "v0") (.bin "or" (.call (.nm "isinstance") (.cons (.att .self "_parent_") (.cons (.nm "LogicalOperator") .nil))) (.bin "or" (.bin "is" .self (.att .self "_conditions_root_")) (.att .self "_is_condition_of_nested_query_")))) (.yld (.call (.nm "OperationResult") (.cons (.nm "sources") (.cons (.bin "and" (.nm "v0") (.un "not" (.call (.nm "bool") (.cons (.idx (.nm "sources") (.att .self "_id_")) .nil)))) (.cons .self .nil))))))) (.ifte (.att .self "_domain_") (.forIn (.nm "v1") (.att .self "_domain_") (.yld (.call (.nm "OperationResult") (.cons (.dict (.cons (.splat (.nm "sources")) (.cons (.kv (.att .self "_id_") (.call (.nm "HashedValue") (.cons (.nm "v1") .nil))) .nil))) (.cons (.cst "False") (.cons .self .nil)))))) (.ifte (.att .self "_should_be_instantiated_") (.yldFrom (.call (.att .self "_instantiate_using_child_vars_and_yield_results_") (.cons (.nm "sources") .nil))) (.raise (.nm "ValueError"))))))) }

theorem find_mVar : irTable.find "Variable" "_evaluate__" = some mVar := by rfl

theorem find_mVarLit : irTable.find "Literal" "_evaluate__" = some mVar := by rfl

/-- the node `runIR` builds for the predicate `HasType(t, c)`: a `Variable` without a domain that is instantiated -/
def ndHasType (inst : Env → R (List (Env × Val × Bool))) : Node :=
  { cls := "Variable", domain := none, instantiable := true, instantiate := inst }

theorem runNode_hasType (inst : Env → R (List (Env × Val × Bool))) (w : World) (env : Env) :
    runNode irTable (ndHasType inst) w env = (inst env >>= fun rs => pure (rs.map fun a => (a.1, a.2.1, a.2.2))) := by
  rw [runNode_evaluate _ find_mVar rfl rfl, exec_ifte_false (evalE_in evalE_att_id (evalE_nm (L0_sources env))) rfl,
    exec_ifte_false evalE_att_domain rfl, exec_ifte_true evalE_att_instantiable rfl, exec_yldFrom_eq,
    evalE_call_instantiate (L0_sources env)]
  show (inst env >>= _ >>= _ >>= _ >>= _) = _
  cases inst env with
  | error e => rfl
  | ok rs =>
    exact (mapM_conv _ _ rs).trans
      (congrArg pure (List.map_congr_left fun a _ => congrArg (fun t => (a.1, a.2.1, t)) (Bool.not_not _)))

theorem C01_runIR_eq_eval_hasType_partial (w : World) (t : Term) (c : Nat) (env : Env)
    (ih : runIRTerm irTable w false t env = liftE (evalTerm w false t env)) :
    runIR irTable w (.hasType t c) env = liftE (eval w (.hasType t c) env) := by
  rw [runIR, ← ndHasType, runNode_hasType]
  simp only [ih, eval]
  cases evalTerm w false t env with
  | error e => rfl
  | ok rs => exact congrArg Except.ok (by simp only [dropVal, List.map_map, Function.comp_def])

theorem C01_runIR_eq_eval_truth_partial (w : World) (t : Term) (env : Env)
    (ih : runIRTerm irTable w true t env = liftE (evalTerm w true t env)) :
    runIR irTable w (.truth t) env = liftE (eval w (.truth t) env) := by
  rw [runIR]
  simp only [ih, eval]
  cases evalTerm w true t env with
  | error e => rfl
  | ok rs => rfl

/-- `if isinstance(self._parent_, LogicalBinaryOperator) or self is self._conditions_root_:
self._is_false_ = not bool(sources[self._id_])`; `v0 = isinstance(self._parent_, LogicalOperator) or (self is
self._conditions_root_ or self._is_condition_of_nested_query_)`; `yield OperationResult(sources, v0 and not
bool(sources[self._id_]), self)` -/
abbrev varBoundBranch : St :=
  .seq (.ifte (.bin "or" (parentIs "LogicalBinaryOperator") isRoot) (.assign (.att .self "_is_false_") (.un "not" boundTruth)) .pass)
    (.seq (.assign (.nm "v0") (.bin "or" (parentIs "LogicalOperator") (.bin "or" isRoot (.att .self "_is_condition_of_nested_query_"))))
      (.yld (mkResult (.nm "sources") (.bin "and" (.nm "v0") (.un "not" boundTruth)))))

/-- `yield OperationResult({**sources, self._id_: HashedValue(v1)}, False, self)` -/
abbrev varYield : St := .yld (mkResult (bindSelf "v1") (.cst "False"))

/-- where `condPos` is false the `if` is skipped and `v0 and …` short-circuits; where it is true both compute
`not bool(sources[self._id_])` -/
theorem var_bound {lower : CallH} {nd : Node} {w : World} {k : Key} {x : Val} {env : Env}
    (hk : nd.keyOf .self = some k) (hx : env.lookup k = some x) :
    exec lower nd w varBoundBranch ⟨L0 env, false⟩
      = .ok { fr := Frame.set ⟨L0 env, nd.condPos && !truthy x⟩ "v0" (.bool nd.condPos),
              ys := [V.res { b := { env := env }, isFalse := nd.condPos && !truthy x }], ctl := .next } := by
  have hnot : ∀ (L : List (String × V)) (s : Bool), L.lookup "bool" = none →
      L.lookup "sources" = some (.env { env := env }) →
      evalE lower nd w (.un "not" boundTruth) ⟨L, s⟩ = .ok (.bool (!truthy x), s) :=
    fun L s hB hS => evalE_not (evalE_bool_bound hB hS hk hx)
  have h1 : exec lower nd w (.ifte (.bin "or" (parentIs "LogicalBinaryOperator") isRoot)
        (.assign (.att .self "_is_false_") (.un "not" boundTruth)) .pass) ⟨L0 env, false⟩
      = .ok { fr := ⟨L0 env, nd.condPos && !truthy x⟩, ys := [], ctl := .next } := by
    rw [exec_ifte (evalE_condPos rfl rfl rfl)]
    cases nd.condPos
    · rfl
    · exact exec_assign_isFalse (hnot _ _ rfl (L0_sources env))
  have h3 : evalE lower nd w (.bin "and" (.nm "v0") (.un "not" boundTruth))
        (Frame.set ⟨L0 env, nd.condPos && !truthy x⟩ "v0" (.bool nd.condPos))
      = .ok (.bool (nd.condPos && !truthy x), nd.condPos && !truthy x) := by
    refine (evalE_and (evalE_nm (Frame.lookup_set_self _ "v0" _))).trans ?_
    cases nd.condPos
    · rfl
    · exact hnot _ _ ((Frame.lookup_set_ne (x := "v0") (by decide) _ _).trans rfl)
        ((Frame.lookup_set_ne (x := "v0") (by decide) _ _).trans (L0_sources env))
  exact exec_seq_ok h1 (exec_seq_ok (exec_assign_nm (evalE_condPos rfl rfl rfl))
    (exec_yld (evalE_OperationResult ((L0_clean env _).set (x := "v0") (by decide) _ _)
      (evalE_nm ((Frame.lookup_set_ne (x := "v0") (by decide) _ _).trans (L0_sources env))) h3)))

/-- what the domain loop of `Variable._evaluate__` reads and keeps: `sources` bound, the two class names unshadowed -/
structure Frame.VarLoop (env : Env) (fr : Frame) : Prop where
  sources : fr.locals.lookup "sources" = some (.env { env := env })
  clean : fr.Clean
  hashed : fr.locals.lookup "HashedValue" = none

theorem var_dom_body {lower : CallH} {nd : Node} {w : World} {fr : Frame} {env : Env} (hfr : fr.VarLoop env) (y : Val) :
    (fr.set "v1" (V.val y)).VarLoop env ∧ exec lower nd w varYield (fr.set "v1" (V.val y))
      = .ok { fr := fr.set "v1" (V.val y),
              ys := [V.res { b := IEnv.bind nd (IEnv.merge { env := [] } { env := env }) .self y, isFalse := false }],
              ctl := .next } :=
  have hS := (Frame.lookup_set_ne (x := "v1") (y := "sources") (by decide) fr (V.val y)).trans hfr.sources
  have hH := (Frame.lookup_set_ne (x := "v1") (y := "HashedValue") (by decide) fr (V.val y)).trans hfr.hashed
  have hO := hfr.clean.set (x := "v1") (by decide) (V.val y) fr.isFalse
  ⟨⟨hS, hO, hH⟩, exec_yld (evalE_OperationResult hO (evalE_dict_bind hS hH (fr.lookup_set_self "v1" _)) evalE_false)⟩

theorem var_test {nd : Node} {k : Key} (hk : nd.keyOf .self = some k) (w : World) (env : Env) :
    evalE (helpers nd w) nd w (.bin "in" (.att .self "_id_") (.nm "sources")) ⟨L0 env, false⟩
      = .ok (.bool (env.lookup k).isSome, false) := by
  rw [evalE_in evalE_att_id (evalE_nm (L0_sources env))]
  simp only [IEnv.has, List.lookup, hk, Option.isSome_none, Bool.false_or]

theorem mapM_conv_key (nd : Node) (k : Key) (hk : nd.keyOf .self = some k) (env : Env) (ys : List Val) :
    (ys.map fun y => V.res { b := IEnv.bind nd (IEnv.merge { env := [] } { env := env }) .self y, isFalse := false }).mapM (conv nd)
      = (pure (ys.map fun x => ((k, x) :: env, x, true)) : R _) := by
  refine (mapM_conv nd _ ys).trans (congrArg pure (List.map_congr_left fun y _ => ?_))
  simp [convR, IEnv.bind, IEnv.merge, Eql.merge, hk]

theorem not_condPos_and (cp : Bool) (x : Val) : (!(cp && !truthy x)) = boundFlag cp x := by
  cases cp
  · rfl
  · exact Bool.not_not _

/-- Stated apart from `runNode_var_unbound` and not with a `match`: Lean would reuse the auxiliary matcher of such a
`match` for the like `match` in the statement of `runNode_key` below, which would then mention this theorem's matcher
instead of `runNode_key.match_1`. -/
theorem runNode_var_bound (nd : Node) (hfind : irTable.find nd.cls "_evaluate__" = some mVar) {k : Key}
    (hk : nd.keyOf .self = some k) (w : World) {env : Env} {x : Val} (hx : env.lookup k = some x) :
    runNode irTable nd w env = .ok [(env, x, boundFlag nd.condPos x)] := by
  rw [runNode_evaluate nd hfind rfl rfl, exec_ifte_true (var_test hk w env) (by rw [hx]; rfl), ← varBoundBranch,
    var_bound hk hx]
  refine (mapM_conv nd (fun r => r) [_]).trans ?_
  simp only [List.map_cons, List.map_nil, convR, List.lookup, hk, hx, Option.getD_some]
  exact congrArg (fun t => Except.ok [(env, x, t)]) (not_condPos_and nd.condPos x)

theorem runNode_var_unbound (nd : Node) (hfind : irTable.find nd.cls "_evaluate__" = some mVar) {k : Key}
    (hk : nd.keyOf .self = some k) {d : List Val} (hd : nd.domain = some d) (w : World) {env : Env}
    (hx : env.lookup k = none) :
    runNode irTable nd w env = .ok (d.map fun x => ((k, x) :: env, x, true)) := by
  rw [runNode_evaluate nd hfind rfl rfl, exec_ifte_false (var_test hk w env) (by rw [hx]; rfl),
    exec_ifte_true (evalE_att_domain_some hd) rfl, ← varYield]
  rw [exec_forIn_det (w := w) (body := varYield) (fr := ⟨L0 env, false⟩) (lower := helpers nd w)
    (Frame.VarLoop env) (evalE_att_domain_some hd) (xs := d) (toV := V.val) rfl ⟨L0_sources env, L0_clean env _, rfl⟩
    (fun y => { b := IEnv.bind nd (IEnv.merge { env := [] } { env := env }) .self y, isFalse := false })
    (fun y fr hfr => var_dom_body (lower := helpers nd w) (nd := nd) (w := w) hfr y)]
  exact (congrArg (List.mapM (conv nd)) List.map_map).trans (mapM_conv_key nd k hk env d)

/-- the node `runIRTerm` builds for a variable / literal at `condPos = false`; at `condPos = true` it is
`{ ndKey cls k d with condPos := true }`, which is `ndKeyC cls k d` of `Props/C01IRVar.lean` -/
def ndKey (cls : String) (k : Key) (d : List Val) : Node :=
  { cls := cls, keyOf := fun | .self => some k | _ => none, condPos := false, domain := some d }

theorem runNode_key (cls : String) (hfind : irTable.find cls "_evaluate__" = some mVar) (k : Key) (d : List Val)
    (w : World) (env : Env) :
    runNode irTable (ndKey cls k d) w env = .ok (match env.lookup k with
      | some x => [(env, x, true)]
      | none => d.map fun x => ((k, x) :: env, x, true)) := by
  cases hx : env.lookup k with
  | some x => exact runNode_var_bound (ndKey cls k d) hfind rfl w hx
  | none => exact runNode_var_unbound (ndKey cls k d) hfind rfl rfl w hx

theorem C01_runIRTerm_var (w : World) (cp : Bool) (v : VarId) (env : Env) :
    runIRTerm irTable w cp (.var v) env = liftE (evalTerm w cp (.var v) env) := by
  rw [runIRTerm]
  simp only [evalTerm, evalVarAt, liftE]
  cases hx : env.lookup (.var v) with
  | some x => exact runNode_var_bound { ndKey "Variable" (.var v) (w.dom v) with condPos := cp } find_mVar rfl w hx
  | none => exact runNode_var_unbound { ndKey "Variable" (.var v) (w.dom v) with condPos := cp } find_mVar rfl rfl w hx

theorem C01_runIRTerm_lit (w : World) (cp : Bool) (id : VarId) (x : Val) (env : Env) :
    runIRTerm irTable w cp (.lit id x) env = liftE (evalTerm w cp (.lit id x) env) := by
  rw [runIRTerm]
  simp only [evalTerm, liftE]
  cases hx : env.lookup (.lit id) with
  | some y => exact runNode_var_bound { ndKey "Literal" (.lit id) [x] with condPos := cp } find_mVarLit rfl w hx
  | none => exact runNode_var_unbound { ndKey "Literal" (.lit id) [x] with condPos := cp } find_mVarLit rfl rfl w hx

theorem C01_runIRTerm_var_operand (w : World) (v : VarId) (env : Env) :
    runIRTerm irTable w false (.var v) env = liftE (evalTerm w false (.var v) env) :=
  C01_runIRTerm_var w false v env

theorem C01_runIRTerm_lit_operand (w : World) (id : VarId) (x : Val) (env : Env) :
    runIRTerm irTable w false (.lit id x) env = liftE (evalTerm w false (.lit id x) env) :=
  C01_runIRTerm_lit w false id x env

end KrroodVerif.Eql.IR
