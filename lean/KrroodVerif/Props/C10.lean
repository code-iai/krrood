import KrroodVerif.Lemmas.EqlTraceNLemmas
/-!
# C10 — Queries are lazy: consuming pulls only what it needs

Two executable models are related: the list-monad model `Eql.eval` / `Eql.evalQuery` (C01's model of the
evaluator) and the demand-driven trace model `traceE` / `traceQuery` (continuation-passing, one event per domain
pull / attribute read / yielded row / escaping exception). Erasing pull/read events from the trace leaves exactly the
list model's results, so the trace model *is* the evaluator, plus the order in which user data is touched. Continuity
is about the first enumerated variable `x`: `results (d ++ s) = results d ++ results s`.

All theorems are unbounded in the size of the world, the domains, the expression and `k`. The definitions their
statements use (`Expr.QF`, `Expr.unionFree`, `firstVar`, `World.setDom`, `vis`) are in `Lemmas/EqlTraceLemmas.lean`; the
example world `exWorld` and `errOf` of the tests serve C10Q and C10N too.
-/
namespace KrroodVerif.Eql

/-! ## 1. results: the trace model against the list model -/

/-- Consumer-visible events (`vis` keeps `row` and `err` events, erases `pull`/`read`): for a quantifier-free
expression on which the list model succeeds, the trace is the continuation applied to the model's result cells, in
order — no other row and **no exception event** is emitted by the expression itself. -/
theorem C10_trace_vis (w : World) (e : Expr) (hq : e.QF = true) (env : Env) (k : Env → Bool → List Ev)
    (rs : List (Env × Bool)) (h : eval w e env = .ok rs) :
    vis (traceE w e env k) = rs.flatMap fun p => vis (k p.1 p.2) :=
  traceE_vis w e hq env rs h k

theorem C10_trace_rows (w : World) (e : Expr) (hq : e.QF = true) (env : Env) (k : Env → Bool → List Ev)
    (rs : List (Env × Bool)) (h : eval w e env = .ok rs) :
    rowsOf (traceE w e env k) = rs.flatMap fun p => rowsOf (k p.1 p.2) := by
  rw [← rowsOf_vis, traceE_vis w e hq env rs h k, rowsOf_flatMap]
  simp only [rowsOf_vis]

/-- an exception event appears in the trace of a successful expression only if a continuation emits it -/
theorem C10_trace_hasErr (w : World) (e : Expr) (hq : e.QF = true) (env : Env) (k : Env → Bool → List Ev)
    (rs : List (Env × Bool)) (h : eval w e env = .ok rs) :
    hasErr (traceE w e env k) = rs.any fun p => hasErr (k p.1 p.2) := by
  rw [hasErr_eq_vis, traceE_vis w e hq env rs h k]
  simp only [hasErr, List.any_flatMap]
  congr 1
  funext p
  exact (hasErr_eq_vis (k p.1 p.2)).symm

/-- the same for operands (terms), e.g. the selected expressions of a query -/
theorem C10_trace_rows_term (w : World) (c : Bool) (t : Term) (env : Env) (k : Kont)
    (rs : List (Env × Val × Bool)) (h : evalTerm w c t env = .ok rs) :
    rowsOf (traceTerm w c t env k) = rs.flatMap fun r => rowsOf (k r.1 r.2.1 r.2.2) := by
  rw [← rowsOf_vis, traceTerm_vis w c t env k rs h, rowsOf_flatMap]
  simp only [rowsOf_vis]

theorem C10_query_vis (w : World) (q : Query) (hq : ∀ c, q.cond = some c → c.QF = true)
    (rows : List (List Val)) (h : evalQuery w q = .ok rows) :
    vis (traceQuery w q) = rows.map Ev.row :=
  query_vis_of_hands w q rows h (fun c => traceE w c []) fun c rs hc hrs => traceE_vis w c (hq c hc) [] rs hrs

/-- For a query whose condition is quantifier-free (or absent): the rows yielded by the
demand-driven trace are exactly the rows of the list model, in order and with multiplicity. -/
theorem C10_query_rows (w : World) (q : Query) (hq : ∀ c, q.cond = some c → c.QF = true)
    (rows : List (List Val)) (h : evalQuery w q = .ok rows) :
    rowsOf (traceQuery w q) = rows := by
  rw [← rowsOf_vis, C10_query_vis w q hq rows h, rowsOf_map_row]

/-- no exception escapes to the consumer of such a query -/
theorem C10_query_noErr (w : World) (q : Query) (hq : ∀ c, q.cond = some c → c.QF = true)
    (rows : List (List Val)) (h : evalQuery w q = .ok rows) :
    hasErr (traceQuery w q) = false := by
  rw [hasErr_eq_vis, C10_query_vis w q hq rows h, hasErr_map_row]

/-! ## 2. the consumer that stops after `k` results -/

/-- For every event list and every `k`: the consumer stopping after its `k`-th result has performed
a prefix of the events; it has received exactly the first `k` results; before the first `next()` nothing has been
evaluated. -/
theorem C10_prefix (k : Nat) (evs : List Ev) :
    uptoRow k evs <+: evs ∧ rowsOf (uptoRow k evs) = (rowsOf evs).take k ∧ uptoRow 0 evs = [] :=
  ⟨uptoRow_prefix k evs, rowsOf_uptoRow k evs, uptoRow_zero evs⟩

theorem C10_prefix_succ (k : Nat) (evs : List Ev) : uptoRow k evs <+: uptoRow (k + 1) evs :=
  uptoRow_mono (Nat.le_succ k) evs

/-- the first `k` results of the lazily consumed query are the first `k` rows of the list model -/
theorem C10_prefix_query (w : World) (q : Query) (hq : ∀ c, q.cond = some c → c.QF = true)
    (rows : List (List Val)) (h : evalQuery w q = .ok rows) (k : Nat) :
    rowsOf (uptoRow k (traceQuery w q)) = rows.take k := by
  rw [rowsOf_uptoRow, C10_query_rows w q hq rows h]

/-! ## 3. consumed domain prefixes -/

theorem C10_pulled_mono_prefix (v : VarId) {a b : List Ev} (h : a <+: b) : pulled v a ≤ pulled v b :=
  pulled_mono_prefix v h

theorem C10_pulled_mono (v : VarId) (k : Nat) (evs : List Ev) :
    pulled v (uptoRow k evs) ≤ pulled v (uptoRow (k + 1) evs) ∧ pulled v (uptoRow k evs) ≤ pulled v evs :=
  ⟨pulled_mono_prefix v (C10_prefix_succ k evs), pulled_mono_prefix v (uptoRow_prefix k evs)⟩

/-- every pull event of a query trace is in range (any query, quantifiers included: they emit no pull) -/
theorem C10_pull_in_range (w : World) (q : Query) (v : VarId) (i : Nat) (h : Ev.pull v i ∈ traceQuery w q) :
    i < (w.dom v).length :=
  traceQuery_pullOk w q _ h

theorem C10_pulled_le_domain (w : World) (q : Query) (v : VarId) :
    pulled v (traceQuery w q) ≤ (w.dom v).length :=
  (pulled_le_iff v _ _).2 fun _ hi => traceQuery_pullOk w q _ hi

theorem C10_pulled_upto_le_domain (w : World) (q : Query) (v : VarId) (k : Nat) :
    pulled v (uptoRow k (traceQuery w q)) ≤ (w.dom v).length :=
  Nat.le_trans (pulled_mono_prefix v (uptoRow_prefix k _)) (C10_pulled_le_domain w q v)

/-! ## 4. continuity: no dependence of what has been yielded on unconsumed input -/

/-- `e` quantifier-free and union-free, `x` the variable whose domain the evaluation from the
empty environment enumerates first. Evaluating over the domain `d ++ s` succeeds with `rs` **iff** evaluating over
`d` and over `s` both succeed and `rs` is the concatenation of their results: the results produced while consuming
`d` are those of `d` alone, whatever follows in the generator.
(The equation `eval (d ++ s) = do a ← eval d; b ← eval s; pure (a ++ b)` *including the identity of errors* does not
hold in the list model: it evaluates layer by layer, so with `d ++ s` an error of the first operand on an element
of `s` pre-empts an error of the second operand on an element of `d`; see the `example` below.) -/
theorem C10_continuity (w : World) (x : VarId) (d s : List Val) (e : Expr) (hq : e.QF = true)
    (hu : e.unionFree = true) (hx : firstVar e = some x) (rs : List (Env × Bool)) :
    eval (w.setDom x (d ++ s)) e [] = .ok rs ↔
      ∃ rd rs', eval (w.setDom x d) e [] = .ok rd ∧ eval (w.setDom x s) e [] = .ok rs' ∧ rs = rd ++ rs' :=
  -- `hu` is not needed: `firstVar` is `none` on a union, so `hx` already excludes one wherever `x` is still unbound
  eval_continuous w x e hq hx d s rs

theorem C10_continuity_prefix (w : World) (x : VarId) (d s : List Val) (e : Expr) (hq : e.QF = true)
    (hu : e.unionFree = true) (hx : firstVar e = some x) (rs : List (Env × Bool))
    (h : eval (w.setDom x (d ++ s)) e [] = .ok rs) :
    ∃ rd, eval (w.setDom x d) e [] = .ok rd ∧ rd <+: rs := by
  obtain ⟨rd, rs', hd, _, rfl⟩ := (C10_continuity w x d s e hq hu hx rs).1 h
  exact ⟨rd, hd, List.prefix_append rd rs'⟩

/-- The same for whole queries (any selected expressions: a selected variable other than
`x` is enumerated from its own, unchanged domain; `x` itself is bound in every condition result). -/
theorem C10_continuity_rows (w : World) (x : VarId) (d s : List Val) (q : Query) (c : Expr)
    (hc : q.cond = some c) (hq : c.QF = true) (hu : c.unionFree = true) (hx : firstVar c = some x)
    (rows : List (List Val)) :
    evalQuery (w.setDom x (d ++ s)) q = .ok rows ↔
      ∃ r1 r2, evalQuery (w.setDom x d) q = .ok r1 ∧ evalQuery (w.setDom x s) q = .ok r2 ∧ rows = r1 ++ r2 :=
  evalQuery_continuous w x q c hc hq hx d s rows

theorem C10_continuity_trace (w : World) (x : VarId) (d s : List Val) (q : Query) (c : Expr)
    (hc : q.cond = some c) (hq : c.QF = true) (hu : c.unionFree = true) (hx : firstVar c = some x)
    (rows : List (List Val)) (h : evalQuery (w.setDom x (d ++ s)) q = .ok rows) :
    rowsOf (traceQuery (w.setDom x d) q) <+: rowsOf (traceQuery (w.setDom x (d ++ s)) q) := by
  have hq' : ∀ c', q.cond = some c' → c'.QF = true := by
    intro c' hc'
    rw [hc] at hc'
    cases hc'
    exact hq
  obtain ⟨r1, r2, h1, _, rfl⟩ := (C10_continuity_rows w x d s q c hc hq hu hx rows).1 h
  rw [C10_query_rows _ q hq' _ h, C10_query_rows _ q hq' _ h1]
  exact List.prefix_append r1 r2

/-! ## 5. non-vacuity -/

section Tests

/-- three objects with an attribute `a`; both variables range over all of them -/
def exWorld : World :=
  { objs := [⟨0, [("a", .int 1)], false⟩, ⟨0, [("a", .int 2)], false⟩, ⟨0, [("a", .int 1)], false⟩],
    doms := [(0, [.obj 0, .obj 1, .obj 2]), (1, [.obj 0, .obj 1, .obj 2])] }

/-- `an(set_of(x, y), x.a == 1, y.a == x.a)` -/
def exCond : Expr :=
  .and (.cmp .eq (.attr (.var 0) "a") (.lit 10 (.int 1))) (.cmp .eq (.attr (.var 1) "a") (.attr (.var 0) "a"))

def exQuery : Query := { sel := [.var 0, .var 1], cond := some exCond }

def errOf {α} : Except Err α → Option Err | .error e => some e | .ok _ => none

/-- Laziness is real in the model: after the first result, one element of each 3-element domain has been
pulled — strictly fewer than the domain sizes; exhausting the query pulls all of them. -/
example :
    pulled 0 (uptoRow 1 (traceQuery exWorld exQuery)) = 1 ∧ pulled 1 (uptoRow 1 (traceQuery exWorld exQuery)) = 1 ∧
    pulled 0 (uptoRow 1 (traceQuery exWorld exQuery)) < (exWorld.dom 0).length ∧
    pulled 1 (uptoRow 1 (traceQuery exWorld exQuery)) < (exWorld.dom 1).length ∧
    pulled 0 (traceQuery exWorld exQuery) = 3 ∧ pulled 1 (traceQuery exWorld exQuery) = 3 := by decide

/-- the hypotheses of `C10_query_rows` / `C10_prefix_query` are satisfiable with a non-empty result -/
example : exCond.QF = true ∧
    (evalQuery exWorld exQuery).toOption =
      some [[.obj 0, .obj 0], [.obj 0, .obj 2], [.obj 2, .obj 0], [.obj 2, .obj 2]] ∧
    rowsOf (uptoRow 2 (traceQuery exWorld exQuery)) = [[.obj 0, .obj 0], [.obj 0, .obj 2]] ∧
    hasErr (traceQuery exWorld exQuery) = false := by decide

/-- the hypotheses of `C10_continuity` are satisfiable: `firstVar` is `x = 0`, and the split of the domain
`[o0] ++ [o1, o2]` splits the results `1 + 1` -/
example : exCond.QF = true ∧ exCond.unionFree = true ∧ firstVar exCond = some 0 ∧
    ((eval (exWorld.setDom 0 ([.obj 0] ++ [.obj 1, .obj 2])) exCond []).toOption.map List.length = some 7) ∧
    ((eval (exWorld.setDom 0 [.obj 0]) exCond []).toOption.map List.length = some 3) ∧
    ((eval (exWorld.setDom 0 [.obj 1, .obj 2]) exCond []).toOption.map List.length = some 4) := by decide

/-- Why `C10_continuity` is not stated as an equation of `Except` values: over `d` alone the second operand
fails (`AttributeError`), over `d ++ s` the list model reports the `IndexError` of the first operand on `s` first. -/
example :
    let e : Expr := .cmp .eq (.index (.var 0) 0) (.attr (.var 1) "zz")
    let w : World := { objs := [], doms := [(1, [.int 5])] }
    errOf (eval (w.setDom 0 [.list [1]]) e []) = some .attrError ∧
    errOf (eval (w.setDom 0 ([.list [1]] ++ [.list []])) e []) = some .indexError := by decide

/-- union is excluded from `C10_continuity` for a reason — the right branch re-enumerates the domain -/
example :
    let e : Expr := .union (.truth (.var 0)) (.truth (.var 0))
    let w : World := { objs := [], doms := [] }
    (eval (w.setDom 0 ([.int 1] ++ [.int 2])) e []).toOption.map (·.map (·.1)) =
      some [[(.var 0, .int 1)], [(.var 0, .int 2)], [(.var 0, .int 1)], [(.var 0, .int 2)]] := by decide

end Tests

end KrroodVerif.Eql
