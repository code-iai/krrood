import KrroodVerif.Model.Descriptor
import KrroodVerif.Props.C15
/-!
# C16 — Every way of writing a descriptor-managed field keeps the data and infers alike

Model: `stepC` / `runC` (the monitored container: contents + log of `_on_add` hook calls), under a `Quirks` record.
Spec: `specStepC` / `specC` (Python list / set semantics; every element that becomes part of the field enters the
log). The log is what gets asserted into the symbol graph, so by C15 the relations are the closure of the log
(`C16_relations`). Everything is parametric in `key : Nat → Nat`, the value an object compares by: lists store by
position and identity, sets keep the first of several equal elements, relations are per OBJECT.
One step of the model outside the triggers of its quirks preserves the relation `CRel` to the specification
(`stepC_rel`); the theorems for each state of the code, for per-step quirks (`runG`) and for two owners
(`TRel`) all come from it.
-/
namespace KrroodVerif.PD

/-! ### `rawAdd` and the hook log -/

theorem rawAdd_cases (key : Nat → Nat) (isSet : Bool) (c : List Nat) (x : Nat) :
    (rawAdd key isSet c x = c ∧ isSet = true ∧ ∃ z ∈ c, key z = key x) ∨
    (rawAdd key isSet c x = c ++ [x] ∧ (isSet = true → ∀ z ∈ c, key z ≠ key x)) := by
  unfold rawAdd
  cases isSet
  · exact Or.inr ⟨rfl, fun h => by cases h⟩
  · by_cases hany : c.any (fun y => key y == key x) = true
    · rw [if_pos rfl, if_pos hany]
      obtain ⟨z, hz, hk⟩ := List.any_eq_true.mp hany
      exact Or.inl ⟨rfl, rfl, z, hz, beq_iff_eq.mp hk⟩
    · rw [if_pos rfl, if_neg hany]
      exact Or.inr ⟨rfl, fun _ z hz hk => hany (List.any_eq_true.mpr ⟨z, hz, beq_iff_eq.mpr hk⟩)⟩

theorem rawAdd_false (key : Nat → Nat) (c : List Nat) (x : Nat) : rawAdd key false c x = c ++ [x] := rfl

theorem mem_rawAdd_sub (key : Nat → Nat) (isSet : Bool) (c : List Nat) (x y : Nat)
    (h : y ∈ rawAdd key isSet c x) : y ∈ c ∨ y = x := by
  rcases rawAdd_cases key isSet c x with ⟨e, _⟩ | ⟨e, _⟩
  · exact Or.inl (e ▸ h)
  · simpa [e] using h

theorem mem_foldl_rawAdd_sub (key : Nat → Nat) (isSet : Bool) (xs : List Nat) : ∀ (c : List Nat) (y : Nat),
    y ∈ xs.foldl (rawAdd key isSet) c → y ∈ c ∨ y ∈ xs := by
  induction xs with
  | nil =>
    intro c y h
    exact Or.inl h
  | cons x xs ih =>
    intro c y h
    rcases ih _ _ h with h | h
    · exact (mem_rawAdd_sub key isSet c x y h).imp_right fun e => List.mem_cons.mpr (Or.inl e)
    · exact Or.inr (List.mem_cons_of_mem _ h)

theorem mem_foldl_rawAdd_nil_sub (key : Nat → Nat) (isSet : Bool) (xs : List Nat) (y : Nat)
    (h : y ∈ xs.foldl (rawAdd key isSet) []) : y ∈ xs :=
  (mem_foldl_rawAdd_sub key isSet xs [] y h).resolve_left List.not_mem_nil

theorem foldl_rawAdd_represents (key : Nat → Nat) (isSet : Bool) (xs : List Nat) : ∀ (c : List Nat) (y : Nat),
    (∃ z ∈ c, key z = key y) ∨ y ∈ xs → ∃ z ∈ xs.foldl (rawAdd key isSet) c, key z = key y := by
  induction xs with
  | nil =>
    intro c y h
    exact h.resolve_right List.not_mem_nil
  | cons x xs ih =>
    intro c y h
    apply ih
    rcases h with ⟨z, hz, hk⟩ | h
    · left
      rcases rawAdd_cases key isSet c x with ⟨e, _⟩ | ⟨e, _⟩
      · exact ⟨z, e.symm ▸ hz, hk⟩
      · exact ⟨z, e.symm ▸ List.mem_append_left _ hz, hk⟩
    · rcases List.mem_cons.mp h with rfl | h
      · left
        rcases rawAdd_cases key isSet c y with ⟨e, _, hz⟩ | ⟨e, _⟩
        · exact e.symm ▸ hz
        · exact ⟨y, e.symm ▸ List.mem_append_right _ (List.mem_singleton_self y), rfl⟩
      · exact Or.inr h

theorem mem_foldl_rawAdd (key : Nat → Nat) (isSet : Bool) (xs c : List Nat) (y : Nat)
    (hloc : ∀ a, a ∈ c ∨ a ∈ xs → ∀ b, b ∈ c ∨ b ∈ xs → key a = key b → a = b) :
    y ∈ xs.foldl (rawAdd key isSet) c ↔ y ∈ c ∨ y ∈ xs := by
  refine ⟨mem_foldl_rawAdd_sub key isSet xs c y, fun h => ?_⟩
  obtain ⟨z, hz, hk⟩ := foldl_rawAdd_represents key isSet xs c y (h.imp_left fun h => ⟨y, h, rfl⟩)
  exact hloc z (mem_foldl_rawAdd_sub key isSet xs c z hz) y h hk ▸ hz

theorem mem_foldl_rawAdd_noTwins (key : Nat → Nat) (xs : List Nat) (h : noEqualTwins key xs = true) (y : Nat) :
    y ∈ xs.foldl (rawAdd key true) [] ↔ y ∈ xs := by
  simp only [noEqualTwins, List.all_eq_true, Bool.or_eq_true, bne_iff_ne, ne_eq, beq_iff_eq] at h
  rw [mem_foldl_rawAdd key true xs [] y fun a ha b hb hk =>
    (h a (ha.resolve_left List.not_mem_nil) b (hb.resolve_left List.not_mem_nil)).resolve_left (absurd hk)]
  exact or_iff_right List.not_mem_nil

theorem foldl_rawAdd_false (key : Nat → Nat) (xs : List Nat) :
    ∀ c : List Nat, xs.foldl (rawAdd key false) c = c ++ xs := by
  induction xs with
  | nil =>
    intro c
    simp
  | cons x xs ih =>
    intro c
    simp only [List.foldl_cons, ih, rawAdd_false]
    simp

theorem recorded_cons (Q : Quirks) (x : Nat) (xs : List Nat) :
    Q.recorded (x :: xs) = Q.recorded [x] ++ Q.recorded xs := by
  simp only [Quirks.recorded, List.filter_cons, List.filter_nil]
  split <;> simp

theorem recorded_ungated (Q : Quirks) (h : Q.ungated = true) (xs : List Nat) : Q.recorded xs = xs := by
  simp only [Quirks.ungated, Bool.and_eq_true, List.isEmpty_iff, Bool.not_eq_eq_eq_not, Bool.not_true] at h
  simp [Quirks.recorded, h.1, h.2]

theorem recorded_none (xs : List Nat) : Quirks.none.recorded xs = xs := recorded_ungated Quirks.none rfl xs

theorem foldl_addItemC (key : Nat → Nat) (Q : Quirks) (isSet : Bool) (xs : List Nat) : ∀ σ : CState,
    xs.foldl (addItemC key Q isSet) σ = ⟨xs.foldl (rawAdd key isSet) σ.c, σ.calls ++ Q.recorded xs⟩ := by
  induction xs with
  | nil =>
    intro σ
    simp [Quirks.recorded]
  | cons x xs ih =>
    intro σ
    simp only [List.foldl_cons, ih, addItemC, List.append_assoc, recorded_cons Q x xs]

/-! ### A set holds no two equal elements -/

theorem kd_nil (key : Nat → Nat) : KeyDistinct key [] := List.Pairwise.nil

theorem kd_rawAdd (key : Nat → Nat) (c : List Nat) (x : Nat) (h : KeyDistinct key c) :
    KeyDistinct key (rawAdd key true c x) := by
  rcases rawAdd_cases key true c x with ⟨e, _⟩ | ⟨e, hne⟩
  · exact e.symm ▸ h
  · rw [e]
    exact List.pairwise_append.mpr ⟨h, List.pairwise_singleton _ _,
      fun a ha b hb => List.mem_singleton.mp hb ▸ hne rfl a ha⟩

theorem kd_foldl (key : Nat → Nat) (isSet : Bool) (xs : List Nat) {c : List Nat}
    (h : isSet = true → KeyDistinct key c) (hs : isSet = true) : KeyDistinct key (xs.foldl (rawAdd key isSet) c) := by
  subst hs
  induction xs generalizing c with
  | nil => exact h rfl
  | cons x xs ih => exact ih fun _ => kd_rawAdd key c x (h rfl)

/-- `insert`, item and slice assignment exist on lists only: of their result nothing is asked -/
theorem kd_of_list {key : Nat → Nat} {isSet : Bool} (hl : (!isSet) = true) (d : List Nat) (hs : isSet = true) :
    KeyDistinct key d := by
  subst hs
  cases hl

theorem foldl_rawAdd_eq_append (key : Nat → Nat) (c : List Nat) : ∀ c0, KeyDistinct key (c0 ++ c) →
    c.foldl (rawAdd key true) c0 = c0 ++ c := by
  induction c with
  | nil =>
    intro c0 _
    simp
  | cons x c ih =>
    intro c0 h
    have hx : rawAdd key true c0 x = c0 ++ [x] := by
      rcases rawAdd_cases key true c0 x with ⟨_, _, z, hz, hk⟩ | ⟨e, _⟩
      · exact absurd hk ((List.pairwise_append.mp h).2.2 z hz x List.mem_cons_self)
      · exact e
    rw [List.foldl_cons, hx, ih (c0 ++ [x]) (by simpa using h)]
    simp

theorem foldl_rawAdd_nil_eq (key : Nat → Nat) (isSet : Bool) (d : List Nat) (h : isSet = true → KeyDistinct key d) :
    d.foldl (rawAdd key isSet) [] = d := by
  cases isSet
  · rw [foldl_rawAdd_false]
    rfl
  · rw [foldl_rawAdd_eq_append key d [] (by simpa using h rfl)]
    rfl

/-! ### The setter -/

theorem mem_insertSorted (x y : Nat) (ys : List Nat) : y ∈ insertSorted x ys ↔ y = x ∨ y ∈ ys := by
  fun_induction insertSorted x ys with
  -- `x` goes in front: of nothing, or of a larger head
  | case1 => simp
  | case2 z zs h1 => simp
  -- `x` is the head already
  | case3 zs h1 => simp
  | case4 z zs h1 h2 ih =>
    -- `x` goes somewhere behind the head
    simp only [List.mem_cons, ih]
    exact or_left_comm

theorem mem_hashOrder (xs : List Nat) (y : Nat) : y ∈ hashOrder xs ↔ y ∈ xs := by
  unfold hashOrder
  induction xs with
  | nil => simp
  | cons x xs ih => simp only [List.foldr_cons, mem_insertSorted, ih, List.mem_cons]

theorem mem_walkOrder (Q : Quirks) (xs : List Nat) (y : Nat) : y ∈ walkOrder Q xs ↔ y ∈ xs := by
  unfold walkOrder
  split
  · exact mem_hashOrder xs y
  · rfl

theorem walkOrder_off (Q : Quirks) (h : Q.setterHashOrder = false) (xs : List Nat) : walkOrder Q xs = xs := by
  simp [walkOrder, h]

theorem walkOrder_of_okFor {key : Nat → Nat} {Q : Quirks} {xs : List Nat}
    (hok : (COp.assign xs).okFor key Q = true) : walkOrder Q xs = xs := by
  simp only [COp.okFor, Bool.or_eq_true, Bool.not_eq_eq_eq_not, Bool.not_true, beq_iff_eq] at hok
  rcases hok with hq | hq
  · exact walkOrder_off Q hq xs
  · unfold walkOrder
    split
    · exact hq
    · rfl

theorem slice_ok_of_okFor {key : Nat → Nat} {Q : Quirks} {i j : Option Int} {one : Bool} {xs : List Nat}
    (hok : (COp.setslice i j one xs).okFor key Q = true) (hq : Q.sliceBatchHook = true) :
    one = false ∧ noEqualTwins key xs = true := by
  simpa [COp.okFor, hq] using hok

theorem setterC_eq (key : Nat → Nat) (Q : Quirks) (isSet : Bool) (σ : CState) (v : Assigned) :
    setterC key Q isSet σ v =
      let items := match v with
        | .same => if Q.setterClearsAlias then [] else walkOrder Q σ.c
        | .other xs => walkOrder Q xs
        | .lazyOf v => walkOrder Q (v.eval key (if Q.setterClearsAlias then [] else σ.c))
      ⟨items.foldl (rawAdd key isSet) [], σ.calls ++ Q.recorded items⟩ := by
  cases v <;> simp only [setterC, foldl_addItemC]

/-- the hypothesis is `okFor` at `assignSelf`, `assignView` and `iadd`, which read the field's own contents -/
theorem setterC_ok (key : Nat → Nat) {Q : Quirks} (isSet : Bool) (σ : CState) (v : Assigned)
    (hok : (!Q.setterClearsAlias && !Q.setterHashOrder) = true) :
    setterC key Q isSet σ v =
      let items := match v with
        | .same => σ.c
        | .other xs => xs
        | .lazyOf v => v.eval key σ.c
      ⟨items.foldl (rawAdd key isSet) [], σ.calls ++ Q.recorded items⟩ := by
  obtain ⟨h1, h2⟩ : Q.setterClearsAlias = false ∧ Q.setterHashOrder = false := by simpa using hok
  simp only [setterC_eq, h1, Bool.false_eq_true, if_false, walkOrder_off Q h2]

/-! ### `__iadd__` / `__ior__` -/

theorem inplaceC_c (key : Nat → Nat) (Q : Quirks) (isSet : Bool) (σ : CState) (xs : List Nat) :
    (inplaceC key Q isSet σ xs).c = xs.foldl (rawAdd key isSet) σ.c := by
  unfold inplaceC
  split
  · rfl
  · rw [foldl_addItemC]

theorem mem_inplaceC_calls (key : Nat → Nat) (Q : Quirks) (isSet : Bool) (σ : CState) (xs : List Nat) (y : Nat) :
    y ∈ (inplaceC key Q isSet σ xs).calls ↔ y ∈ σ.calls ∨ (Q.inplaceBypass = false ∧ y ∈ Q.recorded xs) := by
  unfold inplaceC
  cases Q.inplaceBypass
  · simp [foldl_addItemC]
  · simp

/-! ### Python's list operations -/

theorem mem_pyInsert (c : List Nat) (i : Int) (x y : Nat) : y ∈ pyInsert c i x ↔ y ∈ c ∨ y = x := by
  unfold pyInsert
  generalize pyInsertPos c.length i = k
  have h : y ∈ c ↔ y ∈ c.take k ∨ y ∈ c.drop k := by
    conv =>
      lhs
      rw [← List.take_append_drop k c]
    exact List.mem_append
  simp only [List.mem_append, List.mem_singleton, h]
  exact or_right_comm

theorem mem_pySetItem_sub (c : List Nat) (i : Int) (x y : Nat) (h : y ∈ pySetItem c i x) : y ∈ c ∨ y = x := by
  unfold pySetItem at h
  split at h
  · exact List.mem_or_eq_of_mem_set h
  · exact Or.inl h

theorem mem_pySetSlice_sub (c : List Nat) (i j : Option Int) (xs : List Nat) (y : Nat)
    (h : y ∈ pySetSlice c i j xs) : y ∈ c ∨ y ∈ xs := by
  unfold pySetSlice at h
  simp only [List.mem_append] at h
  rcases h with (h | h) | h
  · exact Or.inl (List.mem_of_mem_take h)
  · exact Or.inr h
  · exact Or.inl (List.mem_of_mem_drop h)

theorem pyRemove_sublist (key : Nat → Nat) (c : List Nat) (x : Nat) : (pyRemove key c x).Sublist c :=
  List.eraseP_sublist

theorem pyDelItem_sublist (c : List Nat) (i : Int) : (pyDelItem c i).Sublist c := by
  unfold pyDelItem
  split
  · exact List.eraseIdx_sublist _ _
  · exact List.Sublist.refl _

theorem pyPop_sublist (c : List Nat) (i : Option Int) : (pyPop c i).Sublist c := pyDelItem_sublist c _

theorem mem_pyPop_sub (c : List Nat) (i : Option Int) (y : Nat) (h : y ∈ pyPop c i) : y ∈ c :=
  (pyPop_sublist c i).subset h

theorem take_append_drop_sublist (c : List Nat) {a b : Nat} (h : a ≤ b) : (c.take a ++ c.drop b).Sublist c := by
  simpa using (List.Sublist.refl (c.take a)).append (List.drop_sublist_drop_left c h)

theorem pySetSlice_nil_sublist (c : List Nat) (i j : Option Int) : (pySetSlice c i j []).Sublist c := by
  have hle : ∀ a b : Nat, a ≤ if b < a then a else b := fun a b => by split <;> omega
  unfold pySetSlice
  simp only [List.append_nil]
  exact take_append_drop_sublist c (hle _ _)

/-! ### The one-step simulation -/

/-- model state and specification state agree: same contents (position by position; a set in insertion order), same
elements asserted; `c_in_calls` and `kd` are invariants of the model state -/
structure CRel (key : Nat → Nat) (isSet : Bool) (m s : CState) : Prop where
  c_eq : m.c = s.c
  mem_calls : ∀ x, x ∈ m.calls ↔ x ∈ s.calls
  c_in_calls : ∀ x ∈ m.c, x ∈ m.calls
  kd : isSet = true → KeyDistinct key m.c

theorem CRel.write {key : Nat → Nat} {isSet : Bool} {m s : CState} (h : CRel key isSet m s) {c' : List Nat}
    (new : List Nat) (hsub : ∀ y ∈ c', y ∈ m.c ∨ y ∈ new) (hkd : isSet = true → KeyDistinct key c') :
    CRel key isSet ⟨c', m.calls ++ new⟩ ⟨c', s.calls ++ new⟩ :=
  ⟨rfl, fun y => by simp only [List.mem_append, h.mem_calls],
    fun y hy => List.mem_append.mpr ((hsub y hy).imp_left (h.c_in_calls y)), hkd⟩

theorem CRel.remove {key : Nat → Nat} {isSet : Bool} {m s : CState} (h : CRel key isSet m s) {c' : List Nat}
    (hsub : c'.Sublist m.c) : CRel key isSet ⟨c', m.calls⟩ ⟨c', s.calls⟩ :=
  ⟨rfl, h.mem_calls, fun y hy => h.c_in_calls y (hsub.subset hy), fun hl => (h.kd hl).sublist hsub⟩

/-- `hinj`: a bypassing `+=` / `|=` stores without recording and leaves the recording to the re-assignment that follows,
which records what is STORED — for a set, an element equal to a stored one is not; so with that quirk on, distinct
objects must compare unequal. -/
theorem stepC_rel (key : Nat → Nat) (Q : Quirks) (isSet : Bool) (m s : CState) (op : COp)
    (h : CRel key isSet m s) (hinj : Q.inplaceBypass = true → ∀ a b, key a = key b → a = b)
    (hgate : Q.ungated = true)
    (hok : op.okFor key Q = true) (happ : op.applicable isSet = true) :
    CRel key isSet (stepC key Q isSet m op) (specStepC key isSet s op) := by
  have hrec : ∀ xs, Q.recorded xs = xs := recorded_ungated Q hgate
  obtain ⟨mc, ml⟩ := m
  obtain ⟨sc, sl⟩ := s
  obtain rfl : mc = sc := h.c_eq
  have hkd := h.kd
  cases op with
  | append x =>
    simp only [stepC, specStepC, addItemC, hrec]
    exact h.write [x] (fun y hy => (mem_rawAdd_sub key isSet mc x y hy).imp_right List.mem_singleton.mpr)
      (kd_foldl key isSet [x] hkd)
  | extend xs =>
    simp only [stepC, specStepC, foldl_addItemC, hrec]
    exact h.write xs (mem_foldl_rawAdd_sub key isSet xs mc) (kd_foldl key isSet xs hkd)
  | insert i x =>
    simp only [stepC, specStepC, hrec]
    exact h.write [x] (fun y hy => ((mem_pyInsert mc i x y).mp hy).imp_right List.mem_singleton.mpr)
      (kd_of_list happ _)
  | setitem i x =>
    simp only [stepC, specStepC, hrec]
    exact h.write [x] (fun y hy => (mem_pySetItem_sub mc i x y hy).imp_right List.mem_singleton.mpr)
      (kd_of_list happ _)
  | setslice i j one xs =>
    cases hq : Q.sliceBatchHook
    · simp only [stepC, specStepC, hq, Bool.false_eq_true, if_false, hrec]
      exact h.write xs (mem_pySetSlice_sub mc i j xs) (kd_of_list happ _)
    · -- the hook is handed `make_set(xs)`: the same elements, as `xs` holds no two equal ones
      obtain ⟨rfl, htw⟩ := slice_ok_of_okFor hok hq
      simp only [stepC, specStepC, hq, if_true, Bool.false_eq_true, if_false, hrec]
      exact ⟨rfl, fun y => by simp only [List.mem_append, h.mem_calls, mem_foldl_rawAdd_noTwins key xs htw],
        fun y hy => List.mem_append.mpr ((mem_pySetSlice_sub mc i j xs y hy).imp (h.c_in_calls y)
          (mem_foldl_rawAdd_noTwins key xs htw y).mpr), kd_of_list happ _⟩
  | assign xs =>
    simp only [stepC, specStepC, setterC_eq, walkOrder_of_okFor hok, hrec]
    exact h.write xs (fun y hy => Or.inr (mem_foldl_rawAdd_nil_sub key isSet xs y hy))
      (kd_foldl key isSet xs fun _ => kd_nil key)
  | assignSelf =>
    -- cleared and re-added: the contents come back, and what is recorded again had been recorded
    simp only [stepC, specStepC, setterC_ok key isSet _ _ hok, foldl_rawAdd_nil_eq key isSet mc hkd, hrec]
    exact ⟨rfl, fun y => by simp only [List.mem_append, ← h.mem_calls, or_iff_left_of_imp (h.c_in_calls y)],
      fun y hy => List.mem_append_right _ hy, hkd⟩
  | assignView v =>
    simp only [stepC, specStepC, setterC_ok key isSet _ _ hok, hrec]
    exact h.write _ (fun y hy => Or.inr (mem_foldl_rawAdd_nil_sub key isSet _ y hy))
      (kd_foldl key isSet _ fun _ => kd_nil key)
  | iadd xs =>
    -- `__iadd__` (hooked or not), then the self-assignment, which records everything that is stored
    have hd : isSet = true → KeyDistinct key (xs.foldl (rawAdd key isSet) mc) := kd_foldl key isSet xs hkd
    simp only [stepC, specStepC, setterC_ok key isSet _ _ hok, inplaceC_c, foldl_rawAdd_nil_eq key isSet _ hd, hrec]
    refine ⟨rfl, fun y => ?_, fun y hy => List.mem_append_right _ hy, hd⟩
    have hsub := mem_foldl_rawAdd_sub key isSet xs mc y
    have hml := h.c_in_calls y
    simp only [List.mem_append, mem_inplaceC_calls, hrec, ← h.mem_calls]
    constructor
    · rintro ((hy | ⟨_, hy⟩) | hy)
      · exact Or.inl hy
      · exact Or.inr hy
      · exact (hsub hy).imp_left hml
    · rintro (hy | hy)
      · exact Or.inl (Or.inl hy)
      · cases hb : Q.inplaceBypass
        · exact Or.inl (Or.inr ⟨rfl, hy⟩)
        · -- not recorded by the operator: it must have been stored
          exact Or.inr ((mem_foldl_rawAdd key isSet xs mc y fun a _ b _ => hinj hb a b).mpr (Or.inr hy))
  | iaddAlias xs =>
    have hq : Q.inplaceBypass = false := by simpa [COp.okFor] using hok
    simp only [stepC, specStepC, inplaceC, hq, Bool.false_eq_true, if_false, foldl_addItemC, hrec]
    exact h.write xs (mem_foldl_rawAdd_sub key isSet xs mc) (kd_foldl key isSet xs hkd)
  | remove x => exact h.remove (pyRemove_sublist key mc x)
  | discard x => exact h.remove (pyRemove_sublist key mc x)
  | pop i => exact h.remove (pyPop_sublist mc i)
  | delitem i => exact h.remove (pyDelItem_sublist mc i)
  | delslice i j => exact h.remove (pySetSlice_nil_sublist mc i j)
  | clear => exact h.remove (List.nil_sublist mc)

/-- For every quirk setting and every notion of value equality `key`: every sequence of write
operations that stays outside the triggers of the quirks that are on leaves the field with the contents Python
semantics dictate and has asserted exactly the elements that entered. (With the `inplaceBypass` quirk on,
`+=` / `|=` are only right for pairwise unequal objects.) -/
theorem C16_general (key : Nat → Nat) (Q : Quirks) (isSet : Bool)
    (hinj : Q.inplaceBypass = true → ∀ a b, key a = key b → a = b) (hgate : Q.ungated = true) (ops : List COp) :
    ∀ (m s : CState), CRel key isSet m s →
      (∀ op ∈ ops, op.okFor key Q = true ∧ op.applicable isSet = true) →
      CRel key isSet (runC key Q isSet m ops) (specC key isSet s ops) :=
  fun _ _ h hops => List.foldl_rel h
    fun op ho a b hab => stepC_rel key Q isSet a b op hab hinj hgate (hops op ho).1 (hops op ho).2

theorem CRel.refl_of (key : Nat → Nat) (isSet : Bool) (σ : CState) (h : ∀ x ∈ σ.c, x ∈ σ.calls)
    (hk : isSet = true → KeyDistinct key σ.c) : CRel key isSet σ σ :=
  ⟨rfl, fun _ => Iff.rfl, h, hk⟩

theorem okFor_none (key : Nat → Nat) (op : COp) : op.okFor key Quirks.none = true := by
  cases op <;> rfl

theorem stepC_none_rel {key : Nat → Nat} {isSet : Bool} {m s : CState} (h : CRel key isSet m s) {op : COp}
    (happ : op.applicable isSet = true) :
    CRel key isSet (stepC key Quirks.none isSet m op) (specStepC key isSet s op) :=
  stepC_rel key Quirks.none isSet m s op h (fun h' => by cases h') rfl (okFor_none key op) happ

/-- The code at /repo HEAD (all quirks off: fixes 1406c8c, 86aebcb, 5eefee2, a10c19b), for every notion of value equality:
after ANY sequence of operations of the grammar `COp`, from any contents, the field holds exactly what Python list / set
semantics dictate — a list by position and identity, repetitions and equal-but-distinct elements included, a set the
first of several equal elements — and exactly the elements that entered have been asserted, each OBJECT on its own. -/
theorem C16_full (key : Nat → Nat) (isSet : Bool) (σ : CState) (hσ : ∀ x ∈ σ.c, x ∈ σ.calls)
    (hk : isSet = true → KeyDistinct key σ.c) (ops : List COp)
    (happ : ∀ op ∈ ops, op.applicable isSet = true) :
    CRel key isSet (runC key Quirks.none isSet σ ops) (specC key isSet σ ops) :=
  C16_general key Quirks.none isSet (fun h => by cases h) rfl ops σ σ (CRel.refl_of key isSet σ hσ hk)
    (fun op ho => ⟨okFor_none key op, happ op ho⟩)

/-- The code before fix 1406c8c (all quirks on), pairwise unequal objects: the same holds for sequences outside the five
triggers — no self-assignment or assignment of a view of the field, no `+=` / `|=`, assigned collections already in hash
order without repetitions, no slice assigned a one-shot iterable. -/
theorem C16_partial (key : Nat → Nat) (hinj : ∀ a b, key a = key b → a = b) (isSet : Bool) (σ : CState)
    (hσ : ∀ x ∈ σ.c, x ∈ σ.calls) (hk : isSet = true → KeyDistinct key σ.c) (ops : List COp)
    (happ : ∀ op ∈ ops, op.applicable isSet = true)
    (h1 : trigSelfAssign ops = false) (h2 : trigIadd ops = false) (h3 : trigListOrder ops = false)
    (h4 : trigBypass ops = false) (h5 : trigSliceOneShot ops = false) :
    CRel key isSet (runC key Quirks.asIs isSet σ ops) (specC key isSet σ ops) := by
  apply C16_general key Quirks.asIs isSet (fun _ => hinj) rfl ops σ σ (CRel.refl_of key isSet σ hσ hk)
  intro op ho
  refine ⟨?_, happ op ho⟩
  -- each trigger is `ops.any …`: it is false of every member
  cases op with
  | assign xs =>
    have : hashOrder xs = xs := by simpa using List.any_eq_false.mp h3 _ ho
    simp [COp.okFor, this]
  | assignSelf => exact absurd rfl (List.any_eq_false.mp h1 _ ho)
  | assignView v => exact absurd rfl (List.any_eq_false.mp h1 _ ho)
  | iadd xs => exact absurd rfl (List.any_eq_false.mp h2 _ ho)
  | iaddAlias xs => exact absurd rfl (List.any_eq_false.mp h4 _ ho)
  | setslice i j one xs =>
    have h5' : one = false := by simpa using List.any_eq_false.mp h5 _ ho
    have htw : noEqualTwins key xs = true := by
      simp only [noEqualTwins, List.all_eq_true, Bool.or_eq_true, bne_iff_ne, ne_eq, beq_iff_eq]
      exact fun a _ b _ => (Decidable.em (key a = key b)).symm.imp_right (hinj a b)
    simp [COp.okFor, h5', htw]
  | _ => rfl

/-- The code between fixes 86aebcb and 5eefee2 (F-C16-1..4 repaired; slice assignment hands the whole value to the hook
before storing it): every sequence in which no slice is assigned a one-shot iterable or a value with two
equal-but-distinct elements — slices of any bounds, empty, inverted or negative, replaced by any number of
elements. -/
theorem C16_now (key : Nat → Nat) (isSet : Bool) (σ : CState) (hσ : ∀ x ∈ σ.c, x ∈ σ.calls)
    (hk : isSet = true → KeyDistinct key σ.c) (ops : List COp)
    (happ : ∀ op ∈ ops, op.applicable isSet = true)
    (h1 : trigSliceTwins key ops = false) (h2 : trigSliceOneShot ops = false) :
    CRel key isSet (runC key Quirks.now isSet σ ops) (specC key isSet σ ops) := by
  apply C16_general key Quirks.now isSet (fun h => by cases h) rfl ops σ σ (CRel.refl_of key isSet σ hσ hk)
  intro op ho
  refine ⟨?_, happ op ho⟩
  cases op with
  | setslice i j one xs =>
    have a1 : noEqualTwins key xs = true := by simpa using List.any_eq_false.mp h1 _ ho
    have a2 : one = false := by simpa using List.any_eq_false.mp h2 _ ho
    simp [COp.okFor, a1, a2]
  | _ => rfl

/-- What the symbol graph holds after the writes: the elements in the hook log are asserted
through `add_to_graph`, so (C15) the relations are exactly the closure of `(f, a, x)` for the elements `x` that
entered according to the specification — "the same inferences as if appended individually", in any order. -/
theorem C16_relations (S : Schema) (W : World) (hW : W.WF) (f a : Nat) (key : Nat → Nat) (isSet : Bool) (m s : CState)
    (h : CRel key isSet m s)
    (hin : ∀ t ∈ m.calls, (f, a, t) ∈ allFacts S.fields.length W.size) (x : Fact) :
    x ∈ run (schemaRules S W) (fuelFor S W) (m.calls.map fun t => (f, a, t)) ↔
      Derivable (schemaRules S W) (fun y => ∃ t ∈ s.calls, y = (f, a, t)) x := by
  unfold fuelFor
  have hall : ∀ r ∈ m.calls.map (fun t => (f, a, t)), r ∈ allFacts S.fields.length W.size := by
    intro r hr
    obtain ⟨t, ht, rfl⟩ := List.mem_map.mp hr
    exact hin t ht
  rw [run_eq_closure (schemaRules S W) _ (schema_UClosed S W hW) _ hall]
  refine Derivable.congr (fun y => ?_) x
  simp only [List.mem_map, h.mem_calls]
  exact exists_congr fun t => and_congr_right fun _ => eq_comm

/-! ### Witnesses of the findings, each inside its trigger; runs outside the triggers -/

/-- F-C16-1: `x.f = x.f` empties the field -/
theorem C16_cex_self_assign :
    trigSelfAssign [.assignSelf] = true ∧
    (runC id Quirks.asIs false ⟨[1, 2], [1, 2]⟩ [.assignSelf]).c = [] ∧
    (specC id false ⟨[1, 2], [1, 2]⟩ [.assignSelf]).c = [1, 2] := by decide

/-- F-C16-2: `x.f += [2]` / `x.f |= {2}` empties the field -/
theorem C16_cex_iadd :
    trigIadd [.iadd [2]] = true ∧
    (runC id Quirks.asIs false ⟨[1], [1]⟩ [.iadd [2]]).c = [] ∧ (specC id false ⟨[1], [1]⟩ [.iadd [2]]).c = [1, 2] ∧
    (runC id Quirks.asIs true ⟨[1], [1]⟩ [.iadd [2]]).c = [] := by decide

/-- F-C16-3: an assigned list comes back without repetitions, in hash order -/
theorem C16_cex_list_order :
    trigListOrder [.assign [3, 1, 3, 0]] = true ∧
    (runC id Quirks.asIs false ⟨[], []⟩ [.assign [3, 1, 3, 0]]).c = [0, 1, 3] ∧
    (specC id false ⟨[], []⟩ [.assign [3, 1, 3, 0]]).c = [3, 1, 3, 0] := by decide

/-- F-C16-4: `s = x.f; s |= {4}` stores the element without asserting it -/
theorem C16_cex_ior_bypass :
    trigBypass [.iaddAlias [4]] = true ∧
    (runC id Quirks.asIs true ⟨[1], [1]⟩ [.iaddAlias [4]]) = ⟨[1, 4], [1]⟩ ∧
    (specC id true ⟨[1], [1]⟩ [.iaddAlias [4]]) = ⟨[1, 4], [1, 4]⟩ := by decide

/-- F-C16-7: objects 2 and 3 compare equal; `l[1:1] = [2, 3]` stores both and asserts only the first -/
theorem C16_cex_slice_twins :
    trigSliceTwins (· / 2) [.setslice (some 1) (some 1) false [2, 3]] = true ∧
    runC (· / 2) Quirks.now false ⟨[0, 5], [0, 5]⟩ [.setslice (some 1) (some 1) false [2, 3]] = ⟨[0, 2, 3, 5], [0, 5, 2]⟩ ∧
    specC (· / 2) false ⟨[0, 5], [0, 5]⟩ [.setslice (some 1) (some 1) false [2, 3]] = ⟨[0, 2, 3, 5], [0, 5, 2, 3]⟩ := by
  decide

/-- F-C16-8: `l[:] = iter([3])` asserts 3 and stores nothing -/
theorem C16_cex_slice_one_shot :
    trigSliceOneShot [.setslice none none true [3]] = true ∧
    runC id Quirks.now false ⟨[1], [1]⟩ [.setslice none none true [3]] = ⟨[], [1, 3]⟩ ∧
    specC id false ⟨[1], [1]⟩ [.setslice none none true [3]] = ⟨[3], [1, 3]⟩ := by decide

/-- slice assignment: insertion through an empty slice, replacing one element by two, negative and inverted
bounds — all inside `C16_now` -/
example :
    let ops : List COp := [.extend [1, 2, 3], .setslice (some 1) (some 1) false [5, 6], .setslice (some 0) (some 1) false [7, 8],
      .setslice (some (-1)) none false [], .setslice (some 5) (some 2) false [9]]
    trigSliceTwins id ops = false ∧ trigSliceOneShot ops = false ∧
    runC id Quirks.now false ⟨[], []⟩ ops = ⟨[7, 8, 5, 6, 2, 9], [1, 2, 3, 5, 6, 7, 8, 9]⟩ := by decide

/-- the hypotheses of `C16_partial` can be met: a run with all quirks on outside four of its triggers; below, a run with
all quirks off through the operations `C16_partial` excludes (contents compared) -/
example :
    let ops : List COp := [.append 3, .extend [1, 3], .insert (-1) 2, .setitem 0 5, .assign [0, 4, 7], .append 4]
    (∀ op ∈ ops, op.applicable false = true) ∧ trigSelfAssign ops = false ∧ trigIadd ops = false ∧
    trigListOrder ops = false ∧ trigBypass ops = false ∧
    runC id Quirks.asIs false ⟨[], []⟩ ops = ⟨[0, 4, 7, 4], [3, 1, 3, 2, 5, 0, 4, 7, 4]⟩ := by decide
example :
    let ops : List COp := [.append 3, .assignSelf, .iadd [1, 3], .iaddAlias [2], .assign [3, 1, 3]]
    (runC id Quirks.none false ⟨[], []⟩ ops).c = (specC id false ⟨[], []⟩ ops).c ∧
    (runC id Quirks.none false ⟨[], []⟩ [.append 3, .assignSelf, .iadd [1, 3], .iaddAlias [2]]).c = [3, 1, 3, 2] := by
  decide

/-- value equality: objects 2 and 3 compare equal (`key = · / 2`). A list keeps both and asserts both; a set
keeps the first and still asserts both, exactly as two individual `add` calls do. -/
example :
    runC (· / 2) Quirks.none false ⟨[], []⟩ [.extend [2, 3, 2], .iaddAlias [3]] = ⟨[2, 3, 2, 3], [2, 3, 2, 3]⟩ ∧
    runC (· / 2) Quirks.none true ⟨[], []⟩ [.extend [2, 3], .iadd [3, 4]] = ⟨[2, 4], [2, 3, 3, 4, 2, 4]⟩ ∧
    (specC (· / 2) true ⟨[], []⟩ [.extend [2, 3], .iadd [3, 4]]).c = [2, 4] := by decide

/-! ### Instances with their own truthiness (`__len__` / `__bool__`) -/

/-- A run in which every step carries its own quirk record (`runG`: which instances are falsy changes during a history).
As long as no step is gated — at that step no instance at all is falsy (`muted = []`, `muteAll = false`: what `ungated`
asks, more than "no written element is") — has `inplaceBypass` off and stays outside the triggers of its other quirks,
the conclusion of `C16_general` holds. -/
theorem C16_gated (key : Nat → Nat) (isSet : Bool) (steps : List (Quirks × COp)) :
    ∀ (m s : CState), CRel key isSet m s →
      (∀ qo ∈ steps, qo.1.ungated = true ∧ qo.1.inplaceBypass = false ∧ qo.2.okFor key qo.1 = true ∧
        qo.2.applicable isSet = true) →
      CRel key isSet (runG key isSet m steps) (specC key isSet s (steps.map (·.2))) := by
  intro m s h hs
  unfold specC
  rw [List.foldl_map]
  refine List.foldl_rel h fun qo hqo a b hab => ?_
  obtain ⟨h1, h2, h3, h4⟩ := hs qo hqo
  refine stepC_rel key qo.1 isSet a b qo.2 hab (fun hb => ?_) h1 h3 h4
  rw [h2] at hb
  cases hb

/-- F-C16-9: element 2 is falsy when it is appended (`len(x) == 0`): stored, not recorded; the owner is falsy
during the `extend`: both elements stored, nothing recorded -/
theorem C16_cex_falsy :
    runG id false ⟨[], []⟩ [(Quirks.none, .append 1), ({ Quirks.none with muted := [2] }, .append 2)] = ⟨[1, 2], [1]⟩ ∧
    specC id false ⟨[], []⟩ [.append 1, .append 2] = ⟨[1, 2], [1, 2]⟩ ∧
    runG id false ⟨[], []⟩ [({ Quirks.none with muteAll := true }, .extend [1, 2])] = ⟨[1, 2], []⟩ := by decide

/-! ### Two owners: the first assignment receives another instance's live container -/

/-- `CRel` for the field of each owner, and the constructor has not raised -/
structure TRel (key : Nat → Nat) (isSet : Bool) (m s : TState) : Prop where
  ra : CRel key isSet m.a s.a
  rb : CRel key isSet m.b s.b
  notBroke : m.broke = false

theorem stepT_on_rel (key : Nat → Nat) (T : TQuirks) (later isSet : Bool) (m s : TState) (w : Who) (op : COp)
    (h : TRel key isSet m s) (hsh : m.shared = false) (happ : op.applicable isSet = true) :
    TRel key isSet (stepT key Quirks.none T later isSet m (.on w op)) (specStepT key isSet s (.on w op)) ∧
    (stepT key Quirks.none T later isSet m (.on w op)).shared = false := by
  cases w <;> simp only [stepT, h.notBroke, Bool.false_eq_true, if_false, hsh, specStepT]
  · exact ⟨⟨stepC_none_rel h.ra happ, h.rb, rfl⟩, trivial⟩
  · exact ⟨⟨h.ra, stepC_none_rel h.rb happ, rfl⟩, trivial⟩

theorem stepT_adopt_eq (key : Nat → Nat) (T : TQuirks) (later isSet : Bool) (m : TState) (hb : m.broke = false)
    (hbr : (T.ctorBreaks && later) = false) :
    stepT key Quirks.none T later isSet m .adopt =
      if T.adoptShares then
        { m with a := ⟨m.a.c.foldl (rawAdd key isSet) [], m.a.calls⟩,
                 b := ⟨m.a.c.foldl (rawAdd key isSet) [], m.b.calls ++ m.a.c⟩, shared := true, owner := .B }
      else { m with b := ⟨m.a.c.foldl (rawAdd key isSet) [], m.b.calls ++ m.a.c⟩ } := by
  have hbr' : (T.ctorBreaks && later && !m.a.c.isEmpty) = false := by
    rw [hbr]
    rfl
  simp only [stepT, hb, Bool.false_eq_true, if_false, walkOrder_off Quirks.none rfl, hbr']

theorem stepT_adopt_rel (key : Nat → Nat) (T : TQuirks) (later isSet : Bool) (m s : TState)
    (h : TRel key isSet m s) (hbr : (T.ctorBreaks && later) = false) :
    TRel key isSet (stepT key Quirks.none T later isSet m .adopt) (specStepT key isSet s .adopt) := by
  have hre : m.a.c.foldl (rawAdd key isSet) [] = m.a.c := foldl_rawAdd_nil_eq key isSet m.a.c h.ra.kd
  have rb' : CRel key isSet ⟨m.a.c, m.b.calls ++ m.a.c⟩ ⟨s.a.c.foldl (rawAdd key isSet) [], s.b.calls ++ s.a.c⟩ := by
    rw [← h.ra.c_eq, hre]
    exact h.rb.write m.a.c (fun y hy => Or.inr hy) h.ra.kd
  rw [stepT_adopt_eq key T later isSet m h.notBroke hbr, hre]
  cases T.adoptShares
  · exact ⟨h.ra, rb', h.notBroke⟩
  · exact ⟨h.ra, rb', h.notBroke⟩

/-- Any repair state of the adoption: as long as the constructor does not break and — when the adopted container is
shared — nothing is written after the adoption, both fields hold what Python semantics dictate for fields that own
their contents, and each owner has asserted exactly what entered ITS field. -/
theorem C16_two_general (key : Nat → Nat) (T : TQuirks) (later isSet : Bool)
    (hbr : (T.ctorBreaks && later) = false) (ops : List TOp) :
    ∀ (m s : TState), TRel key isSet m s → m.shared = false →
      (∀ op ∈ ops, op.applicable isSet = true) →
      (T.adoptShares = true → trigAdoptShares ops = false) →
      TRel key isSet (runT key Quirks.none T later isSet m ops) (specT key isSet s ops) := by
  induction ops with
  | nil =>
    intro m s h _ _ _
    exact h
  | cons op ops ih =>
    intro m s h hsh happ htrig
    simp only [runT, specT, List.foldl_cons]
    have happ' : ∀ o ∈ ops, o.applicable isSet = true := fun o ho => happ o (List.mem_cons_of_mem _ ho)
    cases op with
    | on w cop =>
      have h1 := stepT_on_rel key T later isSet m s w cop h hsh (happ _ List.mem_cons_self)
      exact ih _ _ h1.1 h1.2 happ' htrig
    | adopt =>
      have h1 := stepT_adopt_rel key T later isSet m s h hbr
      cases hT : T.adoptShares
      · -- copied: the fields stay apart
        have hsh' : (stepT key Quirks.none T later isSet m .adopt).shared = false := by
          rw [stepT_adopt_eq key T later isSet m h.notBroke hbr, hT]
          exact hsh
        refine ih _ _ h1 hsh' happ' (fun hT' => ?_)
        rw [hT] at hT'
        cases hT'
      · -- shared: outside the trigger nothing follows
        have : ops = [] := List.isEmpty_iff.mp (by simpa [trigAdoptShares] using htrig hT)
        subst this
        exact h1

/-- one owner with contents, the other not yet constructed -/
def TState.start (σ : CState) : TState := ⟨σ, ⟨[], []⟩, false, .A, false⟩

theorem TRel.start (key : Nat → Nat) (isSet : Bool) (σ : CState) (hσ : ∀ x ∈ σ.c, x ∈ σ.calls)
    (hk : isSet = true → KeyDistinct key σ.c) :
    TRel key isSet (TState.start σ) (TState.start σ) :=
  ⟨CRel.refl_of key isSet σ hσ hk, CRel.refl_of key isSet _ (by intro x hx; cases hx) (fun _ => kd_nil key), rfl⟩

/-- The code at /repo HEAD (fixes 1ba1c36, 196ddf4). With a first assignment that gives the new instance a container of
its own and a constructor that tolerates inference into fields not yet initialised (both quirks off): every two-owner
sequence. -/
theorem C16_two_full (key : Nat → Nat) (later isSet : Bool) (σ : CState) (hσ : ∀ x ∈ σ.c, x ∈ σ.calls)
    (hk : isSet = true → KeyDistinct key σ.c) (ops : List TOp)
    (happ : ∀ op ∈ ops, op.applicable isSet = true) :
    TRel key isSet (runT key Quirks.none TQuirks.none later isSet (TState.start σ) ops)
      (specT key isSet (TState.start σ) ops) :=
  C16_two_general key TQuirks.none later isSet rfl ops _ _ (TRel.start key isSet σ hσ hk) rfl happ
    (fun h => by cases h)

/-- The code before fixes 1ba1c36 and 196ddf4 (both quirks on): the same for fields without a later-declared
super-property field on the same class, as long as nothing is written after the adoption. -/
theorem C16_two_partial (key : Nat → Nat) (isSet : Bool) (σ : CState) (hσ : ∀ x ∈ σ.c, x ∈ σ.calls)
    (hk : isSet = true → KeyDistinct key σ.c) (ops : List TOp)
    (happ : ∀ op ∈ ops, op.applicable isSet = true) (htrig : trigAdoptShares ops = false) :
    TRel key isSet (runT key Quirks.none TQuirks.asIs false isSet (TState.start σ) ops)
      (specT key isSet (TState.start σ) ops) :=
  C16_two_general key TQuirks.asIs false isSet rfl ops _ _ (TRel.start key isSet σ hσ hk) rfl happ (fun _ => htrig)

/-- F-C16-5: `b = Cls(f = a.f); b.f.append(2)` — the element shows up in `a.f` and is not recorded for `a` -/
theorem C16_cex_adopt_shares :
    let ops : List TOp := [.on .A (.append 1), .adopt, .on .B (.append 2)]
    trigAdoptShares ops = true ∧
    (runT id Quirks.none TQuirks.asIs false false (TState.start ⟨[], []⟩) ops).a = ⟨[1, 2], [1]⟩ ∧
    (specT id false (TState.start ⟨[], []⟩) ops).a = ⟨[1], [1]⟩ ∧
    (specT id false (TState.start ⟨[], []⟩) ops).b = ⟨[1, 2], [1, 2]⟩ := by decide

/-- F-C16-6: a constructor given initial contents for a field whose super-property field is declared later
raises -/
theorem C16_cex_ctor_breaks :
    (runT id Quirks.none TQuirks.asIs true false (TState.start ⟨[], []⟩) [.on .A (.append 1), .adopt]).broke = true ∧
    (specT id false (TState.start ⟨[], []⟩) [.on .A (.append 1), .adopt]).b = ⟨[1], [1]⟩ := by decide

/-- non-vacuity of `C16_two_partial` -/
example :
    let ops : List TOp := [.on .A (.extend [3, 1]), .on .A (.assignView (.filt [1])), .adopt]
    trigAdoptShares ops = false ∧ (∀ op ∈ ops, op.applicable false = true) ∧
    (runT id Quirks.none TQuirks.asIs false false (TState.start ⟨[], []⟩) ops).b = ⟨[1], [1]⟩ := by decide

end KrroodVerif.PD
