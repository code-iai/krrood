import KrroodVerif.Props.C07Table
/-!
# C07 — an EQL query translated to SQL selects the same entities as in-memory evaluation

About `translate`, `execSql`, `evalMem` of `Model/SqlTr.lean`, for the translator at /repo HEAD (with krrood's fixes
544475f, 1eb4fe3, c10063e, 20e7107 for F-C07-1 … F-C07-5).

Full statement (F-C07-6 and F-C07-7 are counter-examples to it; only the fragment is proved):
  `translate S q = .ok s → (evalMem S q db).map toSet = some (toSet (execSql S s db))`, `the` fails in both worlds or in
  neither, and every query the translator cannot express yields `Fail.rejected _` (an `EQLTranslationError`).

The fragment (`Frag`, `Good` of Props/C07Frag.lean): a single selected variable; atoms compare attribute chains (any
number of relationship hops) with literals / with each other / by membership in a literal list / by truthiness;
arbitrary and_/or_ nesting.  The theorems here are `C07_preserves_with` (Props/C07Frag.lean) at the hand-written
`evalSql`, which has `SqlSem` by `evalSql_sem` (Props/C07Table.lean).
The witnesses of F-C07-1 … F-C07-5 each show, by `decide`, what the rendering before the fix gives on the primitive the
finding came from (`conflate`, `sqlCmpLegacy`, `sqlInLegacy`, `Fail.escape`, `legacyJoinUnderOr`, `sqlLike`) and that
both worlds agree for the translator with the fix.
Not proved (left to the correspondence): queries with more than one variable (their translation — aliases, equality
joins — is modelled and tested, incl. multiplicities), substring tests.
-/
namespace KrroodVerif.SqlTr

/-! ## The property theorems -/

theorem null_beq_null : (Val.null == Val.null) = true := by decide

theorem whereTrueWith_evalSql (db : DB) (env : List Nat) (w : Option SqlCond) :
    whereTrueWith evalSql db env w = whereTrue db env w := by
  cases w <;> rfl

theorem execSqlWith_evalSql (S : Schema) (s : SqlQuery) (db : DB) : execSqlWith evalSql S s db = execSql S s db := by
  unfold execSqlWith execSql
  simp only [whereTrueWith_evalSql]

/-- For a single-variable `an/the(entity(x, cond))` whose condition is in the fragment, over any database on which the
compared chains evaluate to scalars on every candidate (`Good`): if the translator accepts, the rows the statement
returns are *exactly* (same ids, no duplicates, same order) the entities in-memory evaluation returns, and in-memory
evaluation does not raise. -/
theorem C07_preserves_partial (S : Schema) (db : DB) (q : Query) (sel : Cls) (e : Expr) (s : SqlQuery)
    (hv : q.vars = [sel]) (hc : q.cond = some e) (hf : Frag e) (hg : Good db (rootsOf S db sel) e)
    (ht : translate S q = .ok s) :
    evalMem S q db = some (execSql S s db) := by
  rw [← execSqlWith_evalSql]
  exact C07_preserves_with evalSql evalSql_sem S db q sel e s hv hc hf hg ht

/-- On the same fragment `the(...)` fails in both worlds or in neither, with the same class
(no row ↔ NoSolutionFound/NoResultFound, several ↔ MultipleSolutionFound/MultipleResultsFound), else the same entity. -/
theorem C07_the_partial (S : Schema) (db : DB) (q : Query) (sel : Cls) (e : Expr) (s : SqlQuery)
    (hv : q.vars = [sel]) (hc : q.cond = some e) (hf : Frag e) (hg : Good db (rootsOf S db sel) e)
    (ht : translate S q = .ok s) :
    (evalMem S q db).map theOf = some (theOf (execSql S s db)) := by
  rw [C07_preserves_partial S db q sel e s hv hc hf hg ht]
  rfl

/-- set form of `C07_preserves_partial`, as DESIGN states it -/
theorem C07_preserves_sets (S : Schema) (db : DB) (q : Query) (sel : Cls) (e : Expr) (s : SqlQuery)
    (hv : q.vars = [sel]) (hc : q.cond = some e) (hf : Frag e) (hg : Good db (rootsOf S db sel) e)
    (ht : translate S q = .ok s) :
    (evalMem S q db).map toSet = some (toSet (execSql S s db)) := by
  rw [C07_preserves_partial S db q sel e s hv hc hf hg ht]
  rfl

/-- an and_/or_ tree that contains a constructor outside the dispatch somewhere -/
def ContainsOutside : Expr → Prop
  | .and l r => ContainsOutside l ∨ ContainsOutside r
  | .or l r => ContainsOutside l ∨ ContainsOutside r
  | e => OutsideDispatch e

/-- Wherever it sits in an and_/or_ tree, a constructor outside the dispatch prevents
acceptance (translation is eager over the whole tree): the result is never `.ok`. -/
theorem C07_rejects_nested (S : Schema) (vars : List Cls) : ∀ (e : Expr) (uo : Bool) (st : St),
    ContainsOutside e → ∃ f, tr S vars uo e st = .error f := by
  intro e uo st
  -- clause by clause of `tr`: `and_`/`or_` fail as soon as one side does, no other clause is an and_/or_ tree
  fun_induction tr S vars uo e st <;> simp_all [ContainsOutside, OutsideDispatch]

/-- A query without a condition, or whose selected class has no DAO, or whose condition
contains a constructor outside the dispatch, is never accepted; the first two are `EQLTranslationError`s. -/
theorem C07_rejects_query (S : Schema) (q : Query) (sel : Cls) (hk : q.kind = .entity) (hv : q.vars[0]? = some sel) :
    (findClass S sel = none → translate S q = .error (.rejected .missingDAO)) ∧
    (findClass S sel ≠ none → q.cond = none → translate S q = .error (.rejected .unsupportedQueryType)) ∧
    (∀ e, q.cond = some e → ContainsOutside e → ∃ f, translate S q = .error f) := by
  refine ⟨?_, ?_, ?_⟩
  · exact translate_no_dao hk hv
  · intro h hc
    cases hd : findClass S sel with
    | none => exact absurd hd h
    | some d => simp [translate, hk, hv, hd, hc]
  · intro e hc ho
    cases h : translate S q with
    | error f => exact ⟨f, rfl⟩
    | ok s =>
      obtain ⟨_, e', w, st, _, he, htr, _⟩ := translate_ok h
      cases hc.symm.trans he
      obtain ⟨f, hf⟩ := C07_rejects_nested S q.vars e false {} ho
      rw [hf] at htr
      cases htr

/-! ## The witnesses of the findings F-C07-1 … F-C07-5 (by `decide`, not unbounded claims) -/

def posSchema : Schema := [⟨"Position", none, ["x", "y", "z"], []⟩]
def pos (x y z : Int) : Obj := ⟨"Position", [("x", some x), ("y", some y), ("z", some z)], []⟩
def posDB : DB := [pos 1 2 3, pos 1 5 9, pos 2 2 2, pos 7 7 8]

/-- `p = let(Position); q = let(Position); an(entity(p, p.x > q.z))` -/
def qTwoVars : Query :=
  ⟨false, .entity, ["Position", "Position"], some (.cmp .gt (.chain ⟨0, ["x"]⟩) (.chain ⟨1, ["z"]⟩))⟩

/-- F-C07-1.  For the translator before fix 544475f both columns of `p.x > q.z` are resolved by class
(`WHERE PositionDAO.x > PositionDAO.z`, i.e. the translated condition with every column `conflate`d onto the selected row):
no candidate satisfies it, while in memory `Position(7,7,8)` is selected.  The translator with the fix gives `q` its own
alias (`seen = [1]`), and both worlds select row 3. -/
theorem C07_cex_two_variables :
    ∃ s c, translate posSchema qTwoVars = .ok s ∧ s.whr = some c ∧ s.seen = [1] ∧
      ((rootsOf posSchema posDB "Position").filter fun r => evalSql posDB [r, r] c.conflate == some true) = [] ∧
      toSet (execSql posSchema s posDB) = [3] ∧ evalMem posSchema qTwoVars posDB = some [3] := by
  refine ⟨_, _, rfl, rfl, ?_, ?_, ?_, ?_⟩ <;> decide

def oriSchema : Schema := [⟨"Orientation", none, ["x", "y", "z", "w"], []⟩]
def ori (w : Option Int) : Obj := ⟨"Orientation", [("x", some 1), ("y", some 2), ("z", some 3), ("w", w)], []⟩
def oriDB : DB := [ori none, ori (some 1), ori (some 2)]

/-- `an(entity(o, o.w != 1.0))` -/
def qNullNe : Query := ⟨false, .entity, ["Orientation"], some (.cmp .ne (.chain ⟨0, ["w"]⟩) (.lit (some 1)))⟩

/-- F-C07-2.  `o.w != 1.0` over a row whose `w` is NULL is selected in memory (`None != 1.0`).  The rendering
`w != 1.0` of the translator before fix 1eb4fe3 is UNKNOWN on that row (`sqlCmpLegacy`), so SQL drops it; with the fix
the rendering is `w IS DISTINCT FROM 1.0` and both worlds select the rows 0 and 2. -/
theorem C07_cex_null_ne :
    (sqlCmpLegacy oriDB [0] .ne (.col ⟨0, [], "w"⟩) (.lit (some 1)) = none ∧ pyCmp .ne .null (.num 1) = some true ∧
      trigNull oriSchema qNullNe oriDB = true) ∧
    ∃ s, translate oriSchema qNullNe = .ok s ∧
      execSql oriSchema s oriDB = [0, 2] ∧ evalMem oriSchema qNullNe oriDB = some [0, 2] := by
  refine ⟨⟨?_, ?_, ?_⟩, _, rfl, ?_, ?_⟩ <;> decide

/-- `an(entity(o, in_(o.w, [None, 2.0])))` -/
def qNullIn : Query := ⟨false, .entity, ["Orientation"], some (.isIn (.chain ⟨0, ["w"]⟩) [none, some 2])⟩

/-- F-C07-2.  `in_(o.w, [None, 2.0])`: `None in [None, 2.0]` is True in memory; `NULL IN (NULL, 2.0)`, the rendering
of the translator before fix 1eb4fe3, is UNKNOWN in SQL (`sqlInLegacy`); with the fix the rendering is
`w IN (2.0) OR w IS NULL` and both worlds select the rows 0 and 2. -/
theorem C07_cex_null_in :
    (sqlInLegacy .null [none, some 2] = none ∧ ([none, some 2].any fun v => litVal v == Val.null) = true) ∧
    ∃ s, translate oriSchema qNullIn = .ok s ∧
      execSql oriSchema s oriDB = [0, 2] ∧ evalMem oriSchema qNullIn oriDB = some [0, 2] := by
  refine ⟨⟨?_, ?_⟩, _, rfl, ?_, ?_⟩ <;> decide

/-- `an(set_of([o], o.w == 1.0))` -/
def qSetOf : Query := ⟨false, .setOf, ["Orientation"], some (.cmp .eq (.chain ⟨0, ["w"]⟩) (.lit (some 1)))⟩

/-- F-C07-3.  For the translator before fix c10063e `set_of` is not rejected with an `EQLTranslationError`:
AttributeError ('SetOf' object has no attribute 'selected_variable') escapes (`Fail.escape`, which the property forbids:
`Fail.escape ≠ Fail.rejected _`).  With the fix the translator raises `UnsupportedQueryTypeError`; so it does on an
Index/Call/Flatten operand. -/
theorem C07_cex_set_of_escapes :
    (∀ t, Fail.escape ≠ Fail.rejected t) ∧
    translate oriSchema qSetOf = .error (.rejected .unsupportedQueryType) ∧
    (∀ st, trOperand oriSchema ["Orientation"] (.other .index) st = .error (.rejected .unsupportedQueryType)) := by
  refine ⟨?_, rfl, fun st => rfl⟩
  intro t h
  cases h

def connSchema : Schema :=
  [⟨"Body", none, ["size"], []⟩,
   ⟨"Connection", none, [], [("parent", "Body"), ("child", "Body")]⟩,
   ⟨"FixedConnection", some "Connection", [], []⟩,
   ⟨"RevoluteConnection", some "Connection", [], []⟩]
def body (n : Int) : Obj := ⟨"Body", [("size", some n)], []⟩
def conn (c : Cls) (p ch : Nat) : Obj := ⟨c, [], [("parent", some p), ("child", some ch)]⟩
/-- two bodies; a fixed connection 0→1; a revolute connection 1→0 (its parent is not the fixed one's) -/
def connDB : DB := [body 1, body 2, conn "FixedConnection" 0 1, conn "RevoluteConnection" 1 0]

/-- `connDB` with a second fixed connection, 1→0, in place of the revolute one -/
def connDB2' : DB := [body 1, body 2, conn "FixedConnection" 0 1, conn "FixedConnection" 1 0]
/-- the equality join of the selected class with itself, `f.parent == g.child` with `f`, `g` both FixedConnection (for the
translator before fix 544475f: InvalidRequestError at execution), is translated since `g` has its own alias: over
`connDB2'` the fixed connection 0→1 is selected because another fixed connection has body 0 as its child — in both
worlds. -/
example : ∃ s, translate connSchema ⟨false, .entity, ["FixedConnection", "FixedConnection"],
      some (.cmp .eq (.chain ⟨0, ["parent"]⟩) (.chain ⟨1, ["child"]⟩))⟩ = .ok s ∧
    s.eqJoins = [⟨1, "child", "parent"⟩] ∧ execSql connSchema s connDB2' = [2, 3] ∧
    evalMem connSchema ⟨false, .entity, ["FixedConnection", "FixedConnection"],
      some (.cmp .eq (.chain ⟨0, ["parent"]⟩) (.chain ⟨1, ["child"]⟩))⟩ connDB2' = some [2, 3] := by
  refine ⟨_, rfl, ?_, ?_, ?_⟩ <;> decide

/-- `an(entity(f, or_(f.parent == r.parent, f.parent.size == 1)))`, `f: FixedConnection`, `r: RevoluteConnection` -/
def qJoinUnderOr : Query :=
  ⟨false, .entity, ["FixedConnection", "RevoluteConnection"],
   some (.or (.cmp .eq (.chain ⟨0, ["parent"]⟩) (.chain ⟨1, ["parent"]⟩))
             (.cmp .eq (.chain ⟨0, ["parent", "size"]⟩) (.lit (some 1))))⟩

/-- the statement of the translator before fix 544475f for `qJoinUnderOr`: the equality below `or_` as a global INNER JOIN
of the revolute connection, the other disjunct alone in WHERE -/
def legacyJoinUnderOr : SqlQuery :=
  ⟨"FixedConnection", ["FixedConnection", "RevoluteConnection"], [1], [⟨0, ["parent"]⟩], [⟨1, "parent", "parent"⟩],
   some (.cmp .eq (.col ⟨0, ["parent"], "size"⟩) (.lit (some 1))), []⟩

/-- F-C07-4.  The translator before fix 544475f emits an attribute-equality comparison below `or_` as a global INNER
JOIN (`legacyJoinUnderOr`): the fixed connection whose parent has size 1 satisfies the second disjunct in memory, but the
JOIN finds no revolute connection with the same parent and SQL returns nothing.  With the fix the translator only JOINs
outside `or_`; here the equality stays a comparison inside the OR (no equality join, the revolute connection's alias joined
`ON true`) and both worlds select row 2. -/
theorem C07_cex_eq_join_under_or :
    execSql connSchema legacyJoinUnderOr connDB = [] ∧
    ∃ s, translate connSchema qJoinUnderOr = .ok s ∧ s.eqJoins = [] ∧ s.seen = [1] ∧
      toSet (execSql connSchema s connDB) = [2] ∧ evalMem connSchema qJoinUnderOr connDB = some [2] := by
  refine ⟨?_, _, rfl, ?_, ?_, ?_, ?_⟩ <;> decide

def nameSchema : Schema := [⟨"Body", none, ["name"], []⟩]
/-- ranks: 1 ↦ "B", 2 ↦ "a_", 3 ↦ "ab", 4 ↦ "b" (code-point order) -/
def nameTab : StrTab := [['B'], ['a', '_'], ['a', 'b'], ['b']]
def named (k : Int) : Obj := ⟨"Body", [("name", some k)], []⟩
/-- bodies named "a_", "ab", "b" -/
def nameDB : DB := [named 2, named 3, named 4]

/-- `an(entity(b, contains(b.name, "B")))` -/
def qLike : Query := ⟨false, .entity, ["Body"], some (.substr nameTab (.chain ⟨0, ["name"]⟩) (.lit 1))⟩

/-- F-C07-5.  The translator before fix 20e7107 renders `contains(b.name, "B")` as `name LIKE '%' || 'B' || '%'`;
SQLite's LIKE is case-insensitive and `_`/`%` are wildcards, so that rendering selects the bodies named "ab" and "b" (and
`'a_' LIKE '%_%'`-style matches) while `"B" in name` is false for every body in memory.  With the fix the atom is
rendered with the exact `instr`, and SQL and memory agree on the same data. -/
theorem C07_cex_like_substring :
    (sqlLike ['a', 'b'] ['%', 'B', '%'] = true ∧ isInfixL ['B'] ['a', 'b'] = false) ∧
    (sqlLike ['a', 'c'] ['%', '_', 'c', '%'] = true ∧ isInfixL ['_', 'c'] ['a', 'c'] = false) ∧
    ∃ s, translate nameSchema qLike = .ok s ∧ trigLike s = false ∧
      toSet (execSql nameSchema s nameDB) = [] ∧ evalMem nameSchema qLike nameDB = some [] := by
  refine ⟨by decide, by decide, _, rfl, ?_, ?_, ?_⟩ <;> decide

/-- the other direction: `contains("ab", b.name)` is `instr('ab', name) > 0`, an exact substring test in which a
stored `_` is NOT a wildcard: only "ab" and "b" are selected, in both worlds. -/
example : ∃ s, translate nameSchema ⟨false, .entity, ["Body"], some (.substr nameTab (.lit 3) (.chain ⟨0, ["name"]⟩))⟩ = .ok s ∧
    execSql nameSchema s nameDB = [1, 2] ∧
    evalMem nameSchema ⟨false, .entity, ["Body"], some (.substr nameTab (.lit 3) (.chain ⟨0, ["name"]⟩))⟩ nameDB = some [1, 2] := by
  refine ⟨_, rfl, ?_, ?_⟩ <;> decide

/-! ## Open findings F-C07-6 / F-C07-7: a bare string attribute, a whole variable compared with an object

Counter-examples by `decide` on small instances of the witnesses recorded in `findings.d/C07.json`; `SqlCond.repair` is
the condition a repaired translator would produce, and on the witnesses it agrees with memory. -/

/-- ranks: 1 ↦ "", 2 ↦ "0", 3 ↦ "1", 4 ↦ "ab" (code-point order) -/
def truthTab : StrTab := [[], ['0'], ['1'], ['a', 'b']]
/-- bodies named "ab", "1", "0", "" -/
def truthDB : DB := [named 4, named 3, named 2, named 1]
/-- `an(entity(b, b.name))` -/
def qStrTruthy : Query := ⟨false, .entity, ["Body"], some (.strAttr truthTab ⟨0, ["name"]⟩)⟩

/-- F-C07-6 (open).  `entity(b, b.name)`: in memory every body with a non-empty name is
selected ("ab", "1", "0"); the statement is `… WHERE BodyDAO.name`, and SQLite casts the TEXT to NUMERIC: only "1" is
non-zero.  With the repaired rendering (`name IS NOT NULL AND name != ''`) both worlds agree. -/
theorem C07_cex_string_truthiness :
    ∃ s, translate nameSchema qStrTruthy = .ok s ∧ hasStrAttr (.strAttr truthTab ⟨0, ["name"]⟩) = true ∧
      execSql nameSchema s truthDB = [1] ∧ evalMem nameSchema qStrTruthy truthDB = some [0, 1, 2] ∧
      execSql nameSchema s.repair truthDB = [0, 1, 2] := by
  refine ⟨_, rfl, rfl, ?_, ?_, ?_⟩ <;> decide

/-- SQLite's cast on the strings probed on the real engine -/
example : ([['1', '2', 'a'], ['-', '1'], ['0', '.', '5'], ['.', '5'], ['1', 'e', '3'], ['+', '2'], [' ', '3']].all sqliteTextTruthy
    && ([['a', 'b'], ['0'], ['a', '1'], ['0', 'x', '1'], ['0', '0'], ['0', '.', '0'], ['-', '0'], [], ['e', '5'], ['-'], ['.']].all
      fun s => !sqliteTextTruthy s)) = true := by decide

/-- `p = let(Position, domain); an(entity(p, p == positions[3]))`; the first element of the domain is object 0 -/
def qVarObj (i : Nat) (op : Cmp) : Query :=
  ⟨false, .entity, ["Position"], some (.cmp op (.var 0 (some 0)) (.obj i))⟩

/-- F-C07-7 (open).  `p == obj` is evaluated by Python at translation time on the FIRST element
of the variable's domain: for `obj` = that element the statement is `WHERE true` (every position is returned, memory
returns one), for any other object `WHERE false` (nothing is returned, memory returns the object); `!=` likewise.  With
the repaired rendering (comparison of primary keys) both worlds agree. -/
theorem C07_cex_var_eq_obj :
    (∃ s, translate posSchema (qVarObj 3 .eq) = .ok s ∧ execSql posSchema s posDB = [] ∧
      evalMem posSchema (qVarObj 3 .eq) posDB = some [3] ∧ execSql posSchema s.repair posDB = [3]) ∧
    (∃ s, translate posSchema (qVarObj 0 .eq) = .ok s ∧ execSql posSchema s posDB = [0, 1, 2, 3] ∧
      evalMem posSchema (qVarObj 0 .eq) posDB = some [0] ∧ execSql posSchema s.repair posDB = [0]) ∧
    (∃ s, translate posSchema (qVarObj 3 .ne) = .ok s ∧ execSql posSchema s posDB = [0, 1, 2, 3] ∧
      evalMem posSchema (qVarObj 3 .ne) posDB = some [0, 1, 2] ∧ execSql posSchema s.repair posDB = [0, 1, 2]) ∧
    hasVarObj (.cmp .eq (.var 0 (some 0)) (.obj 3)) = true := by
  refine ⟨⟨_, rfl, ?_, ?_, ?_⟩, ⟨_, rfl, ?_, ?_, ?_⟩, ⟨_, rfl, ?_, ?_, ?_⟩, rfl⟩ <;> decide

/-- a class with a `name`: the sample is replaced by its database id, which never equals an object: `b == obj` is
`WHERE false` whatever `obj` is -/
example : ∃ s, translate nameSchema ⟨false, .entity, ["Body"], some (.cmp .eq (.var 0 (some 0)) (.obj 0))⟩ = .ok s ∧
    execSql nameSchema s nameDB = [] ∧
    evalMem nameSchema ⟨false, .entity, ["Body"], some (.cmp .eq (.var 0 (some 0)) (.obj 0))⟩ nameDB = some [0] := by
  refine ⟨_, rfl, ?_, ?_⟩ <;> decide

/-- both atoms are outside `Frag`: `C07_preserves_partial` does not claim them (the trigger of the two findings is
the complement) -/
example : ¬ Frag (.strAttr truthTab ⟨0, ["name"]⟩) ∧ ¬ Frag (.cmp .eq (.var 0 (some 0)) (.obj 3)) := by
  simp [Frag]

/-! ## Non-vacuity

The hypotheses of `C07_preserves_partial` are satisfiable by a non-trivial input, the translator accepts it, and the
common answer is neither empty nor everything. -/

def poseSchema : Schema :=
  [⟨"Position", none, ["x", "y", "z"], []⟩, ⟨"Pose", none, [], [("position", "Position")]⟩]
def poseDB : DB := [pos 1 2 3, pos 4 5 6, ⟨"Pose", [], [("position", some 0)]⟩, ⟨"Pose", [], [("position", some 1)]⟩]
/-- `an(entity(p, or_(and_(p.position.x > 3, in_(p.position.y, [5, 7])), p.position.z == 9)))` -/
def poseExpr : Expr :=
  .or (.and (.cmp .gt (.chain ⟨0, ["position", "x"]⟩) (.lit (some 3))) (.isIn (.chain ⟨0, ["position", "y"]⟩) [some 5, some 7]))
      (.cmp .eq (.chain ⟨0, ["position", "z"]⟩) (.lit (some 9)))
def qPose : Query := ⟨false, .entity, ["Pose"], some poseExpr⟩

example : Frag poseExpr := by simp [Frag, poseExpr]
example : Good poseDB (rootsOf poseSchema poseDB "Pose") poseExpr := by
  have hroots : rootsOf poseSchema poseDB "Pose" = [2, 3] := by decide
  rw [hroots]
  constructor
  · intro r hr c hc
    have hr' : r = 2 ∨ r = 3 := by simpa using hr
    simp only [poseExpr, exprChains, List.cons_append, List.nil_append, List.mem_cons, List.not_mem_nil, or_false] at hc
    rcases hr' with rfl | rfl <;> rcases hc with rfl | rfl | rfl
    · exact ⟨.num 1, by decide, Or.inr ⟨1, rfl⟩⟩
    · exact ⟨.num 2, by decide, Or.inr ⟨2, rfl⟩⟩
    · exact ⟨.num 3, by decide, Or.inr ⟨3, rfl⟩⟩
    · exact ⟨.num 4, by decide, Or.inr ⟨4, rfl⟩⟩
    · exact ⟨.num 5, by decide, Or.inr ⟨5, rfl⟩⟩
    · exact ⟨.num 6, by decide, Or.inr ⟨6, rfl⟩⟩
  · intro r hr c hc
    have hr' : r = 2 ∨ r = 3 := by simpa using hr
    simp only [poseExpr, ordChains, isOrd, ↓reduceIte, List.append_nil,
      List.mem_cons, List.not_mem_nil, or_false, Bool.false_eq_true] at hc
    subst hc
    rcases hr' with rfl | rfl
    · exact ⟨1, by decide⟩
    · exact ⟨4, by decide⟩
example : ∃ s, translate poseSchema qPose = .ok s ∧ s.joins = [⟨0, ["position"]⟩] ∧
    execSql poseSchema s poseDB = [3] ∧ evalMem poseSchema qPose poseDB = some [3] := by
  refine ⟨_, rfl, ?_, ?_, ?_⟩ <;> decide

/-- the hypotheses admit NULL on the compared column: `or_(o.w != 1, in_(o.w, [None, 2]))` over orientations whose
`w` is None, 1, 2 — `Good` holds, the translator accepts, and both worlds select the rows 0 and 2. -/
def nullExpr : Expr := .or (.cmp .ne (.chain ⟨0, ["w"]⟩) (.lit (some 1))) (.isIn (.chain ⟨0, ["w"]⟩) [none, some 2])
example : Frag nullExpr := by simp [Frag, nullExpr]
example : Good oriDB (rootsOf oriSchema oriDB "Orientation") nullExpr := by
  have hroots : rootsOf oriSchema oriDB "Orientation" = [0, 1, 2] := by decide
  rw [hroots]
  constructor
  · intro r hr c hc
    have hr' : r = 0 ∨ r = 1 ∨ r = 2 := by simpa using hr
    simp only [nullExpr, exprChains, List.cons_append, List.nil_append, List.mem_cons, List.not_mem_nil, or_false,
      or_self] at hc
    subst hc
    rcases hr' with rfl | rfl | rfl
    · exact ⟨.null, by decide, Or.inl rfl⟩
    · exact ⟨.num 1, by decide, Or.inr ⟨1, rfl⟩⟩
    · exact ⟨.num 2, by decide, Or.inr ⟨2, rfl⟩⟩
  · intro r hr c hc
    simp [nullExpr, ordChains, isOrd] at hc
example : ∃ s, translate oriSchema ⟨false, .entity, ["Orientation"], some nullExpr⟩ = .ok s ∧
    execSql oriSchema s oriDB = [0, 2] ∧
    evalMem oriSchema ⟨false, .entity, ["Orientation"], some nullExpr⟩ oriDB = some [0, 2] := by
  refine ⟨_, rfl, ?_, ?_⟩ <;> decide

/-- multiplicity: a join between two variables has one solution per matching PAIR.  The fixed
connection 0→1 (row 2) shares its parent with two revolute connections: the statement returns its row twice, in memory it
is a solution twice, and `the(...)` fails in both worlds (MultipleResultsFound / MultipleSolutionFound). -/
def connDB2 : DB :=
  [body 1, body 2, conn "FixedConnection" 0 1, conn "RevoluteConnection" 0 1, conn "RevoluteConnection" 0 0]
def qJoin : Query :=
  ⟨true, .entity, ["FixedConnection", "RevoluteConnection"],
   some (.cmp .eq (.chain ⟨0, ["parent"]⟩) (.chain ⟨1, ["parent"]⟩))⟩
example : ∃ s, translate connSchema qJoin = .ok s ∧ execSql connSchema s connDB2 = [2, 2] ∧
    evalMemMulti connSchema qJoin connDB2 = some [2, 2] ∧ theOf (execSql connSchema s connDB2) = .multiple ∧
    evalMem connSchema qJoin connDB2 = some [2] := by
  refine ⟨_, rfl, ?_, ?_, ?_, ?_⟩ <;> decide

/-- `C07_rejects_nested` is not vacuous: a `not_` two levels down -/
example : ContainsOutside (.and (.attr ⟨0, ["x"]⟩) (.or (.not (.attr ⟨0, ["y"]⟩)) (.attr ⟨0, ["z"]⟩))) := by
  simp [ContainsOutside, OutsideDispatch]

end KrroodVerif.SqlTr
