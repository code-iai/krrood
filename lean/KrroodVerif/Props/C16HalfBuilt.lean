import KrroodVerif.Model.DescriptorHalfBuilt
import KrroodVerif.Props.C15
/-!
C15 / C16 — instances under construction (F-C16-10 = F-C15-4), about `runModelH`: the C15 model `runModel` with constructor
contexts and one more bit, "the code has raised". The state part is `runModel` on the plain operations whatever the
quirk (`C16_half_state`), so as long as nothing is raised a constructor call that assigns several managed fields is
exactly the sequence of the descriptor writes it stands for, and everything `Props/C15` proves about `runModel` applies
to it. Quirk off is the code since fix 5e9c504 (membership by identity), quirk on the code before it.
-/
namespace KrroodVerif.PD

theorem addCoreH_fst (C : HCtx) (R : Rules) (K : Nat → Kind) :
    ∀ n σb r i, (addCoreH C R K n σb r i).1 = addCore R K n σb.1 r i := by
  intro n
  induction n with
  | zero =>
    intro σb r i
    rfl
  | succ n ih =>
    intro σb r i
    have hf : ∀ (ts : List Fact) (a : State × Bool),
        (ts.foldl (fun h q => addCoreH C R K n h q true) a).1 = ts.foldl (fun h q => addCore R K n h q true) a.1 :=
      foldl_proj Prod.fst _ _ (fun a q => ih a q true)
    unfold addCoreH addCore
    by_cases hm : r ∈ σb.1.g
    · simp only [hm, if_true]
    · simp only [hm, if_false]
      cases ht : R.tr r.1
      · simp only [Bool.false_eq_true, if_false, hf]
      · simp only [if_true, hf]

theorem addItemH_fst (C : HCtx) (R : Rules) (K : Nat → Kind) (n : Nat) (σb : State × Bool) (f s t : Nat) :
    (addItemH C R K n σb f s t).1 = addItem R K n σb.1 f s t := by
  simp only [addItemH, addItem, addCoreH_fst]

theorem stepH_fst (C : HCtx) (R : Rules) (K : Nat → Kind) (n : Nat) (σb : State × Bool) (op : Op) :
    (stepH C R K n σb op).1 = step R K n σb.1 op := by
  cases op with
  | set1 f s t => simp only [stepH, step, addCoreH_fst]
  | add f s t => simp only [stepH, step, addItemH_fst]
  | assign f s xs =>
    simp only [stepH, step]
    rw [foldl_proj Prod.fst _ (fun h t => addItem R K n h f s t) (fun a t => addItemH_fst C R K n a f s t)]
  | churn => rfl
  | storeOnly f s t => rfl
  | assignQ f s xs muted =>
    simp only [stepH, step]
    rw [foldl_proj Prod.fst _ (fun h t => if muted.contains t = true then
          { h with st := h.st.set f s (storeAdd (K f) (h.st f s) t) } else addItem R K n h f s t)]
    intro a t
    cases hmt : muted.contains t
    · simp only [Bool.false_eq_true, if_false, addItemH_fst]
    · simp only [if_true]

theorem runH_fst (C : HCtx) (R : Rules) (K : Nat → Kind) (n : Nat) (items : List (Option Half × Op)) :
    (runH C R K n items).1 = runOps R K n (items.map (·.2)) := by
  unfold runH runOps
  rw [List.foldl_map]
  exact foldl_proj Prod.fst _ (fun σ (it : Option Half × Op) => step R K n σ it.2)
    (fun a it => stepH_fst _ R K n a it.2) items (State.init, false)

/-- Whatever the quirk: the graph and the backing fields of a history with constructor calls are those
of the plain operations the calls stand for. -/
theorem C16_half_state (q : Bool) (S : Schema) (W : World) (eqc : List Nat) (items : List (Option Half × Op)) :
    (runModelH q S W eqc items).1 = runModel S W (items.map (·.2)) :=
  runH_fst _ _ _ _ items

/-! ### When nothing is raised -/

/-- a context in which no value comparison can raise -/
def Quiet (C : HCtx) : Prop := ∀ st x y, C.quirk = true → eqRaises C st x y = false

theorem memberRaises_quiet {C : HCtx} (hC : Quiet C) (hq : C.quirk = true) (st : Store) :
    ∀ (c : List Nat) (t : Nat), memberRaises C st c t = false := by
  intro c
  induction c with
  | nil =>
    intro t
    rfl
  | cons x xs ih =>
    intro t
    unfold memberRaises
    by_cases hx : (x == t) = true
    · simp only [hx, if_true]
    · simp only [hx, hC st x t hq, ih t, Bool.or_self]
      rfl

theorem updateRaises_quiet {C : HCtx} (hC : Quiet C) (K : Nat → Kind) (st : Store) (r : Fact) :
    updateRaises C K st r = false := by
  unfold updateRaises
  cases hq : C.quirk
  · rfl
  · simp only [Bool.true_and]
    cases K r.1 with
    | single =>
      simp only
      split
      · exact hC _ _ _ hq
      · rfl
    | list => exact memberRaises_quiet hC hq st _ _
    | set => rfl

theorem foldl_snd {σ β γ : Type} (F : σ × γ → β → σ × γ) (h : ∀ a b, (F a b).2 = a.2) (ts : List β) (a : σ × γ) :
    (ts.foldl F a).2 = a.2 :=
  List.foldlRecOn (motive := fun x => x.2 = a.2) ts F rfl fun x hx b _ => (h x b).trans hx

theorem addCoreH_snd {C : HCtx} (hC : Quiet C) (R : Rules) (K : Nat → Kind) :
    ∀ n σb r i, (addCoreH C R K n σb r i).2 = σb.2 := by
  intro n
  induction n with
  | zero =>
    intro σb r i
    rfl
  | succ n ih =>
    intro σb r i
    have hf : ∀ (ts : List Fact) (a : State × Bool),
        (ts.foldl (fun h q => addCoreH C R K n h q true) a).2 = a.2 :=
      foldl_snd _ (fun a q => ih a q true)
    unfold addCoreH
    by_cases hm : r ∈ σb.1.g
    · simp only [hm, if_true]
    · simp only [hm, if_false]
      cases ht : R.tr r.1
      · simp only [Bool.false_eq_true, if_false, hf, updateRaises_quiet hC, Bool.and_false, Bool.or_false]
      · simp only [if_true, hf, updateRaises_quiet hC, Bool.and_false, Bool.or_false]

theorem addItemH_snd {C : HCtx} (hC : Quiet C) (R : Rules) (K : Nat → Kind) (n : Nat) (σb : State × Bool)
    (f s t : Nat) : (addItemH C R K n σb f s t).2 = σb.2 := by
  simp only [addItemH, addCoreH_snd hC]

theorem reAddRaises_quiet {C : HCtx} (hC : Quiet C) (K : Nat → Kind) (σ : State) (f s : Nat) :
    reAddRaises C K σ f s = false := by
  unfold reAddRaises
  cases hq : C.quirk
  · rfl
  · rw [foldl_snd _ fun a t => by simp only [memberRaises_quiet hC hq, Bool.or_false]]
    simp

theorem stepH_snd {C : HCtx} (hC : Quiet C) (R : Rules) (K : Nat → Kind) (n : Nat) (σb : State × Bool) (op : Op) :
    (stepH C R K n σb op).2 = σb.2 := by
  cases op with
  | set1 f s t => simp only [stepH, addCoreH_snd hC]
  | add f s t => simp only [stepH, addItemH_snd hC]
  | assign f s xs =>
    simp only [stepH, reAddRaises_quiet hC, Bool.or_false]
    rw [foldl_snd _ (fun a t => addItemH_snd hC R K n a f s t)]
  | churn => rfl
  | storeOnly f s t => rfl
  | assignQ f s xs muted =>
    simp only [stepH]
    rw [foldl_snd]
    intro a t
    cases hmt : muted.contains t
    · simp only [Bool.false_eq_true, if_false, addItemH_snd hC]
    · simp only [if_true]

theorem runH_quiet (C : HCtx) (R : Rules) (K : Nat → Kind) (n : Nat) (items : List (Option Half × Op))
    (h : ∀ it ∈ items, Quiet { C with half := it.1 }) : (runH C R K n items).2 = false :=
  List.foldlRecOn (motive := fun a => a.2 = false) items _ rfl fun a ha it hit =>
    (stepH_snd (h it hit) R K n a it.2).trans ha

/-- The code since fix 5e9c504 (membership by identity): no history ever raises, so by `C16_half_state` a constructor
call is exactly its descriptor writes. -/
theorem C16_half_repaired (S : Schema) (W : World) (eqc : List Nat) (items : List (Option Half × Op)) :
    (runModelH false S W eqc items).2 = false := by
  apply runH_quiet
  intro it _ st x y hq
  cases hq

theorem unbuilt_obj {C : HCtx} {st : Store} {x : Nat} (h : unbuilt C st x = true) :
    ∃ hf, C.half = some hf ∧ hf.obj = x := by
  unfold unbuilt at h
  split at h
  · next hf heq =>
    simp only [Bool.and_eq_true, beq_iff_eq] at h
    exact ⟨hf, heq, h.1⟩
  · cases h

/-- The code before fix 5e9c504 (membership by value), outside the trigger: when every constructor call of the history
builds an instance of a class that compares by identity (no generated `__eq__`), nothing is raised. For all histories
the statement is false of that code: `C16_half_cex`. -/
theorem C16_half_partial (S : Schema) (W : World) (eqc : List Nat) (items : List (Option Half × Op))
    (h : ∀ it ∈ items, ∀ hf, it.1 = some hf → eqc.contains (W.clsOf hf.obj) = false) :
    (runModelH true S W eqc items).2 = false := by
  apply runH_quiet
  intro it hit st x y _
  -- an instance under construction is of a class that compares by identity
  have hcls : ∀ z, unbuilt (C := ⟨true, W.clsOf, eqc.contains, it.1⟩) st z = true →
      ¬ W.clsOf z ∈ eqc := by
    intro z hz
    obtain ⟨hf, he, rfl⟩ := unbuilt_obj hz
    simpa using h it hit hf he
  unfold eqRaises
  cases hxy : (W.clsOf x == W.clsOf y)
  · rfl
  · cases hux : unbuilt (C := ⟨true, W.clsOf, eqc.contains, it.1⟩) st x
    · cases huy : unbuilt (C := ⟨true, W.clsOf, eqc.contains, it.1⟩) st y
      · simp
      · have hy := hcls y huy
        rw [← eq_of_beq hxy] at hy
        simp [hy]
    · simp [hcls x hux]

/-! ### The witness

On the repository's classes, `exSchema` (fields 1 `member_of`, a list; 2 `members`, a set; 3 `sub_organization_of`;
object 0 a Person, 1 2 3 Companies); both classes are eq-dataclasses. -/

/-- `p.member_of.append(c1); c2 = Company("c2", members={p})`: `members` is assigned while `sub_organization_of` is
still to come, its inverse `member_of(p, c2)` is written into the list `p.member_of`, which holds `c1` -/
def hbWitness : List (Option Half × Op) :=
  [(none, .add 1 0 1), (some ⟨2, [3]⟩, .assign 2 2 [0]), (some ⟨2, []⟩, .assign 3 2 [])]
/-- the same relations by plain writes on an instance built bare -/
def hbPlain : List (Option Half × Op) := [(none, .add 1 0 1), (none, .add 2 2 0)]

/-- F-C16-10 / F-C15-4: the constructor call raises, the plain writes do not (one order of the same
assertions fails: C15; constructor assignment is not "as if added one by one": C16); with the repair the call
gives the graph and the fields of the plain writes. -/
theorem C16_half_cex :
    (runModelH true exSchema exWorld [0, 1] hbWitness).2 = true ∧
    (runModelH true exSchema exWorld [0, 1] hbPlain).2 = false ∧
    (runModelH false exSchema exWorld [0, 1] hbWitness).2 = false ∧
    (runModelH false exSchema exWorld [0, 1] hbWitness).1.g = (runModelH true exSchema exWorld [0, 1] hbPlain).1.g ∧
    (runModelH false exSchema exWorld [0, 1] hbWitness).1.st 1 0 = [1, 2] ∧
    (runModelH true exSchema exWorld [0, 1] hbPlain).1.st 1 0 = [1, 2] := by decide

/-- the hypothesis of `C16_half_partial` on the witness history when no class compares by value -/
example : ∀ it ∈ hbWitness, ∀ hf, it.1 = some hf → ([] : List Nat).contains (exWorld.clsOf hf.obj) = false := by
  intro it _ hf _
  rfl
/-- the trigger is sharp on the witness: the only element of `p.member_of` compared with `c2` is `c1` -/
example : (runModelH true exSchema exWorld [0] hbWitness).2 = false := by decide
/-- the LAST field of a constructor call is safe (every backing attribute exists by then) -/
example : (runModelH true exSchema exWorld [0, 1]
    [(none, .add 1 0 1), (some ⟨2, [3]⟩, .assign 2 2 []), (some ⟨2, []⟩, .assign 3 2 [1])]).2 = false := by decide

end KrroodVerif.PD
