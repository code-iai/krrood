import KrroodVerif.Model.Dao
/-!
# C04 / C05 — scalar columns: the conversion table as a parameter

For any conversion table that is lossless on the values admissible for each column kind the scalars of every object
come back unchanged; the tables of the code at /repo HEAD (`tableMem`, `tableSql`) are instances, the traps
(truthiness guards, enumerations stored by value) are refuted on concrete values.
The correspondence exercises the instances: the driver pushes the scalars of every generated object through
`tableMem` (`scalarsKept`), the generator produces `None`, falsy and truthy values in every scalar column kind, and
the real code must return them unchanged.
-/
namespace KrroodVerif.Dao

theorem C04_scalars_preserved (T : Table) (adm : ColKind → SVal → Prop)
    (hl : ∀ k v, adm k v → (T k).roundTrip v = v) (cols : List (ColKind × SVal))
    (hadm : ∀ p ∈ cols, adm p.1 p.2) : convRecord T cols = cols := by
  calc convRecord T cols = cols.map id :=
        List.map_congr_left fun p hp => congrArg (Prod.mk p.1) (hl p.1 p.2 (hadm p hp))
    _ = cols := List.map_id cols

/-- A conversion pair guarded by `is None` on both sides is lossless as soon as the pair is lossless on the values that
are not `None`: a FALSY value (0, 0.0, "", False, an `IntEnum` member with value 0, []) is converted like any other. -/
theorem guarded_isNone_lossless (f g : SVal → SVal) (hfg : ∀ v, v ≠ .none → g (f v) = v)
    (hf : ∀ v, v ≠ .none → f v ≠ .none) (v : SVal) : guarded .isNone g (guarded .isNone f v) = v := by
  by_cases hv : v = .none
  · subst hv
    simp [guarded]
  · simp [guarded, hv, hf v hv, hfg v hv]

/-- With a truthiness guard on the writing side every falsy value other than `None` is stored as `None`, whatever the
conversion — and comes back as `None` from every reader that keeps `None`. -/
theorem guarded_truthy_loses_falsy (f g : SVal → SVal) (hg : g .none = .none) (v : SVal) (hv : v.truthy = false)
    (hn : v ≠ .none) : g (guarded .truthy f v) ≠ v := by
  simp only [guarded, hv, Bool.false_eq_true, if_false, hg]
  exact fun e => hn e.symm

/-- the falsy values of every scalar column kind -/
def falsyValues : List SVal :=
  [.int 0, .float "0.0", .float "-0.0", .str "", .bool false, .enum "AuxMode" "OFF" 0 true, .strs []]

/-- The in-memory copy "only when there is a value" turns each falsy value into `None`, while `tableMem` returns each of
them; truthy values and `None` pass the truthiness-guarded copy. -/
theorem C04_cex_truthy :
    (∀ v ∈ falsyValues, ((tableMemTruthy .plain).roundTrip v = .none ∧ (tableMem .plain).roundTrip v = v)) ∧
    (∀ v ∈ [SVal.none, .int 7, .str "a", .bool true, .enum "AuxMode" "ON" 1 true, .enum "Element" "C" 1 false],
      (tableMemTruthy .plain).roundTrip v = v) := by decide +kernel

theorem tableMem_lossless (k : ColKind) (v : SVal) : (tableMem k).roundTrip v = v := rfl

/-- `to_dao` / `from_dao` (`tableMem`: no conversion, no guard) return the scalars of every object unchanged, with no
admissibility condition. -/
theorem C04_scalars_mem (cols : List (ColKind × SVal)) : convRecord tableMem cols = cols :=
  C04_scalars_preserved tableMem (fun _ _ => True) (fun k v _ => tableMem_lossless k v) cols (fun _ _ => trivial)

/-- what the driver checks for every generated object holds for every scalar text -/
theorem scalarsKept_mem (E : EnumEnv) (text : String) : scalarsKept tableMem E text = true := by
  unfold scalarsKept
  simp [C04_scalars_mem]

theorem tableSql_lossless (E : EnumEnv) (resolves : String → String → Bool) (k : ColKind) (v : SVal)
    (ha : Admissible E resolves k v) : (tableSql E resolves k).roundTrip v = v := by
  cases k with
  | plain => rfl
  | enumOf cls =>
    rcases ha with rfl | ⟨n, x, rfl, hlk⟩
    · simp [tableSql, ColConv.roundTrip, guarded]
    · simp [tableSql, ColConv.roundTrip, guarded, enumToName, enumFromName, hlk]
  | typeCol =>
    obtain ⟨m, c, rfl, hr⟩ := ha
    simp [tableSql, ColConv.roundTrip, guarded, typeToQual, typeFromQual, hr]

/-- The column types of the generated ORM layer (enumerations by member name, classes by qualified name, `is None`
guards) return every record of admissible scalars unchanged: `None` in an Optional enumeration column stays `None`, the
`IntEnum` member with value 0 stays that member. -/
theorem C04_scalars_sql (E : EnumEnv) (resolves : String → String → Bool) (cols : List (ColKind × SVal))
    (hadm : ∀ p ∈ cols, Admissible E resolves p.1 p.2) : convRecord (tableSql E resolves) cols = cols :=
  C04_scalars_preserved _ (Admissible E resolves) (tableSql_lossless E resolves) cols hadm

/-- an enumeration with an alias: `B` is another name of `A` -/
def aliasEnums : EnumEnv := { members := fun _ => [("A", 1), ("B", 1), ("Z", 0)], isInt := fun _ => true }

/-- By name every member comes back, the falsy `Z` included; by value the alias `B` comes back as `A`; with truthiness
guards `Z` comes back as `None`. -/
theorem C04_cex_enum_alias :
    (∀ v ∈ [SVal.enum "M" "A" 1 true, .enum "M" "B" 1 true, .enum "M" "Z" 0 true, .none],
      (tableSql aliasEnums (fun _ _ => true) (.enumOf "M")).roundTrip v = v) ∧
    (tableSqlByValue aliasEnums (fun _ _ => true) (.enumOf "M")).roundTrip (.enum "M" "B" 1 true)
      = .enum "M" "A" 1 true ∧
    (tableSqlTruthy aliasEnums (fun _ _ => true) (.enumOf "M")).roundTrip (.enum "M" "Z" 0 true) = .none := by decide +kernel

/-! Non-vacuity: the admissibility hypotheses are met by records with `None`, falsy and truthy values. -/
example : ∀ p ∈ [(ColKind.plain, SVal.int 0), (.plain, .none), (.plain, .str ""), (.enumOf "AuxMode", .none),
      (.enumOf "AuxMode", .enum "AuxMode" "OFF" 0 true), (.enumOf "Element", .enum "Element" "H" 2 false),
      (.typeCol, .type "m" "AuxFrame")],
    Admissible driverEnums (fun _ _ => true) p.1 p.2 := by
  intro p hp
  simp only [List.mem_cons, List.not_mem_nil, or_false] at hp
  rcases hp with rfl | rfl | rfl | rfl | rfl | rfl | rfl
  · exact ⟨by intros; simp, by intros; simp⟩
  · exact ⟨by intros; simp, by intros; simp⟩
  · exact ⟨by intros; simp, by intros; simp⟩
  · exact Or.inl rfl
  · exact Or.inr ⟨"OFF", 0, by decide +kernel, by decide +kernel⟩
  · exact Or.inr ⟨"H", 2, by decide +kernel, by decide +kernel⟩
  · exact ⟨"m", "AuxFrame", rfl, rfl⟩

end KrroodVerif.Dao
