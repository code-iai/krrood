import KrroodVerif.Lemmas.ListBasics
import KrroodVerif.Model.Dao
/-!
# C04 — object → DAO → object round trip preserves structure, types and aliasing

`Dao.copyNode` (the memoised depth-first copy that transcribes both `DataAccessObject.to_dao` and
`DataAccessObject.from_dao`) yields a graph `Dao.IsoVia` / `Dao.Iso` to its source on every finite heap (any size, depth,
sharing, cycles) and returns on every heap without dangling references; so does `Dao.roundTrip` when the user-written
mapping pairs round-trip (`RoundTrips`; with the quirk of F-C04-1 on, outside its trigger). Then: the canonical text
respects `Iso`; witnesses and triggers of the findings F-C04-1, F-C04-2, F-C04-3.
-/
namespace KrroodVerif.Dao

/-! ## Position-wise correspondence and one-to-one relations -/

@[elab_as_elim]
theorem All2.ind {α β : Type} {R : α → β → Prop} {motive : (xs : List α) → (ys : List β) → All2 R xs ys → Prop}
    (nil : motive [] [] trivial)
    (cons : ∀ {a b as bs} (hab : R a b) (t : All2 R as bs), motive as bs t → motive (a :: as) (b :: bs) ⟨hab, t⟩) :
    ∀ {xs ys} (h : All2 R xs ys), motive xs ys h
  | [], [], _ => nil
  | _ :: _, _ :: _, ⟨h, t⟩ => cons h t (All2.ind nil cons t)
  | [], _ :: _, h => h.elim
  | _ :: _, [], h => h.elim

@[elab_as_elim]
theorem RefRel.ind {R : Nat → Nat → Prop} {motive : (r s : Ref) → RefRel R r s → Prop}
    (none : motive .none .none trivial)
    (one : ∀ {a b} (h : R a b), motive (.one a) (.one b) h)
    (many : ∀ {as bs} (h : All2 R as bs), motive (.many as) (.many bs) h) :
    ∀ {r s} (h : RefRel R r s), motive r s h
  | .none, .none, _ => none
  | .one _, .one _, h => one h
  | .many _, .many _, h => many h
  | .none, .one _, h => h.elim
  | .none, .many _, h => h.elim
  | .one _, .none, h => h.elim
  | .one _, .many _, h => h.elim
  | .many _, .none, h => h.elim
  | .many _, .one _, h => h.elim

theorem All2.mono {α β : Type} {R S : α → β → Prop} (hRS : ∀ a b, R a b → S a b) {xs : List α} {ys : List β}
    (h : All2 R xs ys) : All2 S xs ys := by
  induction h using All2.ind with
  | nil => trivial
  | cons hab _ ih => exact ⟨hRS _ _ hab, ih⟩

theorem All2.comp {α β γ : Type} {R : α → β → Prop} {S : β → γ → Prop} :
    ∀ {xs : List α} {ys : List β} {zs : List γ}, All2 R xs ys → All2 S ys zs →
      All2 (fun a c => ∃ b, R a b ∧ S b c) xs zs
  | [], [], [], _, _ => trivial
  | _ :: _, _ :: _, _ :: _, ⟨h1, t1⟩, ⟨h2, t2⟩ => ⟨⟨_, h1, h2⟩, All2.comp t1 t2⟩
  | [], _ :: _, _, h, _ => h.elim
  | _ :: _, [], _, h, _ => h.elim
  | [], [], _ :: _, _, h => h.elim
  | _ :: _, _ :: _, [], _, h => h.elim

/-- the form of a reference field: absent, single, collection -/
def Ref.tag : Ref → Nat
  | .none => 0
  | .one _ => 1
  | .many _ => 2

theorem refRel_iff {R : Nat → Nat → Prop} {r s : Ref} : RefRel R r s ↔ r.tag = s.tag ∧ All2 R r.targets s.targets := by
  cases r <;> cases s <;> simp [RefRel, Ref.tag, Ref.targets, All2]

theorem RefRel.mono {R S : Nat → Nat → Prop} (hRS : ∀ a b, R a b → S a b) {r s : Ref} (h : RefRel R r s) :
    RefRel S r s :=
  refRel_iff.2 ((refRel_iff.1 h).imp id (All2.mono hRS))

theorem RefRel.comp {R S : Nat → Nat → Prop} {r s t : Ref} (h1 : RefRel R r s) (h2 : RefRel S s t) :
    RefRel (fun a c => ∃ b, R a b ∧ S b c) r t :=
  refRel_iff.2 ⟨(refRel_iff.1 h1).1.trans (refRel_iff.1 h2).1, All2.comp (refRel_iff.1 h1).2 (refRel_iff.1 h2).2⟩

theorem All2.append {α β : Type} {S : α → β → Prop} : ∀ {xs : List α} {ys : List β} {xs' : List α} {ys' : List β},
    All2 S xs ys → All2 S xs' ys' → All2 S (xs ++ xs') (ys ++ ys')
  | [], [], _, _, _, h => h
  | _ :: _, _ :: _, _, _, ⟨h, t⟩, h' => ⟨h, All2.append t h'⟩
  | [], _ :: _, _, _, h, _ => h.elim
  | _ :: _, [], _, _, h, _ => h.elim

theorem All2.length_eq {α β : Type} {S : α → β → Prop} {xs : List α} {ys : List β} (h : All2 S xs ys) :
    xs.length = ys.length := by
  induction h using All2.ind with
  | nil => rfl
  | cons _ _ ih => rw [List.length_cons, List.length_cons, ih]

theorem All2.map_eq {α β γ : Type} {S : α → β → Prop} {f : α → γ} {g : β → γ} (hfg : ∀ a b, S a b → f a = g b)
    {xs : List α} {ys : List β} (h : All2 S xs ys) : xs.map f = ys.map g := by
  induction h using All2.ind with
  | nil => rfl
  | cons hab _ ih => rw [List.map_cons, List.map_cons, hfg _ _ hab, ih]

theorem All2.exists_right {α β : Type} {S : α → β → Prop} {xs : List α} {ys : List β} (h : All2 S xs ys) :
    ∀ x ∈ xs, ∃ y, y ∈ ys ∧ S x y := by
  induction h using All2.ind with
  | nil =>
    intro x hx
    cases hx
  | cons hab _ ih =>
    intro x hx
    rcases List.mem_cons.1 hx with rfl | hx
    · exact ⟨_, List.mem_cons_self, hab⟩
    · obtain ⟨y, hy, hr⟩ := ih x hx
      exact ⟨y, List.mem_cons_of_mem _ hy, hr⟩

theorem All2.exists_left {α β : Type} {S : α → β → Prop} {xs : List α} {ys : List β} (h : All2 S xs ys) :
    ∀ y ∈ ys, ∃ x, x ∈ xs ∧ S x y := by
  induction h using All2.ind with
  | nil =>
    intro y hy
    cases hy
  | cons hab _ ih =>
    intro y hy
    rcases List.mem_cons.1 hy with rfl | hy
    · exact ⟨_, List.mem_cons_self, hab⟩
    · obtain ⟨x, hx, hr⟩ := ih y hy
      exact ⟨x, List.mem_cons_of_mem _ hx, hr⟩

theorem All2.getElem? {α β : Type} {R : α → β → Prop} {xs : List α} {ys : List β} (h : All2 R xs ys) :
    ∀ (i : Nat) (a : α) (b : β), xs[i]? = some a → ys[i]? = some b → R a b := by
  induction h using All2.ind with
  | nil =>
    intro i a b ha
    simp at ha
  | cons hab _ ih =>
    intro i a b ha hb
    cases i with
    | zero =>
      simp only [List.getElem?_cons_zero, Option.some.injEq] at ha hb
      subst ha hb
      exact hab
    | succ i => exact ih i a b (by simpa using ha) (by simpa using hb)

theorem targets_rel {R : Nat → Nat → Prop} {rs ss : List Ref} (h : All2 (RefRel R) rs ss) :
    All2 R (rs.flatMap Ref.targets) (ss.flatMap Ref.targets) := by
  induction h using All2.ind with
  | nil => trivial
  | cons hr _ ih =>
    simp only [List.flatMap_cons]
    exact All2.append (refRel_iff.1 hr).2 ih

@[simp] theorem targets_withRefs (n : Node) (rs : List Ref) : (n.withRefs rs).targets = rs.flatMap Ref.targets := rfl

theorem Heap.WF_of_wf {h : Heap} (hw : h.wf = true) : h.WF := by
  intro n hn t ht
  simpa using List.all_eq_true.1 (List.all_eq_true.1 hw n hn) t ht

/-- a partial bijection on addresses: the two middle clauses of `Iso` / `IsoVia` -/
structure OneOne (R : Nat → Nat → Prop) : Prop where
  fn : ∀ a b b', R a b → R a b' → b = b'
  inj : ∀ a a' b, R a b → R a' b → a = a'

/-- the last clause of `Iso` -/
def NodesRel (R : Nat → Nat → Prop) (h h' : Heap) : Prop :=
  ∀ a b, R a b → ∃ n m, h[a]? = some n ∧ h'[b]? = some m ∧ m.lab = n.lab ∧ All2 (RefRel R) n.refs m.refs

theorem OneOne.comp {R S : Nat → Nat → Prop} (hR : OneOne R) (hS : OneOne S) :
    OneOne fun a c => ∃ b, R a b ∧ S b c := by
  constructor
  · rintro a c c' ⟨b, h1, h2⟩ ⟨b', h1', h2'⟩
    cases hR.fn a b b' h1 h1'
    exact hS.fn b c c' h2 h2'
  · rintro a a' c ⟨b, h1, h2⟩ ⟨b', h1', h2'⟩
    cases hS.inj b b' c h2 h2'
    exact hR.inj a a' b h1 h1'

theorem IsoVia.comp_iso {c₁ c₂ : Node → Node} {h h₁ h₂ : Heap} {r r₁ r₂ : List Nat}
    (i₁ : IsoVia c₁ h r h₁ r₁) (i₂ : IsoVia c₂ h₁ r₁ h₂ r₂)
    (hl : ∀ n ∈ h, ∀ rs, (c₂ ((c₁ n).withRefs rs)).lab = n.lab) : Iso h r h₂ r₂ := by
  obtain ⟨R1, r1, f1, j1, n1⟩ := i₁
  obtain ⟨R2, r2, f2, j2, n2⟩ := i₂
  have hR := OneOne.comp ⟨f1, j1⟩ ⟨f2, j2⟩
  refine ⟨_, All2.comp r1 r2, hR.fn, hR.inj, ?_⟩
  rintro a c ⟨b, h1, h2⟩
  obtain ⟨n, rs1, hn, hb, hr1⟩ := n1 a b h1
  obtain ⟨m, rs2, hm, hc, hr2⟩ := n2 b c h2
  rw [hb] at hm
  cases hm
  exact ⟨n, _, hn, hc, hl n (List.mem_of_getElem? hn) rs1,
    All2.mono (fun _ _ ⟨_, x, y⟩ => RefRel.comp x y) (All2.comp hr1 hr2)⟩

/-! ## The state of the copy: invariant and step -/

/-- the memo is a one-to-one map into allocated slots -/
structure Inv (st : St) : Prop where
  keys : (st.memo.map Prod.fst).Nodup
  vals : (st.memo.map Prod.snd).Nodup
  lt : ∀ p ∈ st.memo, p.2 < st.out.length

def St.rel (st : St) (x y : Nat) : Prop := (x, y) ∈ st.memo

/-- what holds of the state between calls; `count`: a conversion without two-phase nodes (`to_dao`) allocates one slot
per memo entry (the row count of `C05_one_row_per_object`) -/
structure OutWF (P : Params) (st : St) : Prop where
  inv : Inv st
  wf : st.out.WF
  count : (∀ n, P.inter n = none) → st.memo.length = st.out.length

/-- `st'` is a later state of the same run -/
structure Ext (st st' : St) : Prop where
  memo : ∃ l, st'.memo = l ++ st.memo
  len : st.out.length ≤ st'.out.length
  old : ∀ i, i < st.out.length → st'.out[i]? = st.out[i]?

theorem Ext.refl (st : St) : Ext st st := ⟨⟨[], rfl⟩, Nat.le_refl _, fun _ _ => rfl⟩

theorem Ext.trans {a b c : St} (h1 : Ext a b) (h2 : Ext b c) : Ext a c := by
  obtain ⟨l1, e1⟩ := h1.memo
  obtain ⟨l2, e2⟩ := h2.memo
  refine ⟨⟨l2 ++ l1, by rw [e2, e1, List.append_assoc]⟩, Nat.le_trans h1.len h2.len, ?_⟩
  intro i hi
  rw [h2.old i (Nat.lt_of_lt_of_le hi h1.len), h1.old i hi]

theorem Ext.mem {a b : St} (h : Ext a b) {x y : Nat} (hp : a.rel x y) : b.rel x y := by
  obtain ⟨l, e⟩ := h.memo
  unfold St.rel
  rw [e]
  exact List.mem_append_right _ hp

/-- the pair `(a, b)` of the memo is finished: slot `b` holds the converted node of `a`, and its references
correspond position-wise under the memo -/
def Done (P : Params) (h : Heap) (st : St) (a b : Nat) : Prop :=
  ∃ n rs, h[a]? = some n ∧ st.out[b]? = some ((P.conv n).withRefs rs) ∧ All2 (RefRel st.rel) n.refs rs

theorem Done.ext {P : Params} {h : Heap} {st st' : St} {a b : Nat} (hd : Done P h st a b) (he : Ext st st') :
    Done P h st' a b := by
  obtain ⟨n, rs, hn, ho, hr⟩ := hd
  have hb : b < st.out.length := (List.getElem?_eq_some_iff.1 ho).1
  exact ⟨n, rs, hn, (he.old b hb).trans ho, All2.mono (fun _ _ => RefRel.mono fun _ _ => he.mem) hr⟩

/-- every pair added between `st` and `st'` is finished and lives in a slot allocated after `st` -/
def NewDone (P : Params) (h : Heap) (st st' : St) : Prop :=
  ∀ a b, st'.rel a b → ¬ st.rel a b → Done P h st' a b ∧ st.out.length ≤ b

/-- what a returning call does to the state -/
def Step (P : Params) (h : Heap) (st st' : St) : Prop := Ext st st' ∧ NewDone P h st st'

theorem Step.refl (P : Params) (h : Heap) (st : St) : Step P h st st :=
  ⟨Ext.refl st, fun _ _ hm hn => (hn hm).elim⟩

theorem Step.trans {P : Params} {h : Heap} {a b c : St} (s1 : Step P h a b) (s2 : Step P h b c) : Step P h a c := by
  refine ⟨s1.1.trans s2.1, fun x y hc ha => ?_⟩
  by_cases hb : b.rel x y
  · obtain ⟨d, g⟩ := s1.2 x y hb ha
    exact ⟨d.ext s2.1, g⟩
  · obtain ⟨d, g⟩ := s2.2 x y hc hb
    exact ⟨d, Nat.le_trans s1.1.len g⟩

/-! ## The traversals -/

/-- `copyList` and `copyRefs` as one traversal: of the targets with the call `rec`, of the reference fields with
`copyRef rec` -/
def thread {α β : Type} (f : α → St → Option (β × St)) : List α → St → Option (List β × St)
  | [], st => some ([], st)
  | a :: as, st =>
    match f a st with
    | none => none
    | some (b, st1) =>
      match thread f as st1 with
      | none => none
      | some (bs, st2) => some (b :: bs, st2)

theorem copyList_eq_thread (rec : Rec) : copyList rec = thread rec := by
  funext ts st
  fun_induction copyList rec ts st <;> simp_all [thread]

theorem copyRefs_eq_thread (rec : Rec) : copyRefs rec = thread (copyRef rec) := by
  funext rs st
  fun_induction copyRefs rec rs st <;> simp_all [thread]

/-- No stale reference has been handed out. `Params.quirk` is F-C04-1 (`from_dao` before `9a6f576`): while an
alternatively mapped DAO is in progress its memo entry is the intermediate mapping instance, and a reference resolved
then keeps pointing at it. `St.hits` counts the references resolved to a two-phase node in progress, so with the quirk on
the state is sound while `hits = 0`, with it off always. -/
def Sound (P : Params) (st : St) : Prop := P.quirk = true → st.hits = 0

theorem Sound.of_false {P : Params} (hq : P.quirk = false) (st : St) : Sound P st := fun h => by simp [hq] at h

theorem Sound.of_le {P : Params} {st st' : St} (hle : st.hits ≤ st'.hits) (hs : Sound P st') : Sound P st :=
  fun hq => Nat.le_zero.1 (hs hq ▸ hle)

/-- What a traversal `f` guarantees of a call that returns: `hits` only grows, and when the state is sound at the end
(so it was all along) the copy invariant is kept, the pairs added are finished, and argument and result correspond under
the final memo, lifted by `V` to what `f` traverses. -/
def Spec {α β : Type} (P : Params) (h : Heap) (V : (Nat → Nat → Prop) → α → β → Prop)
    (f : α → St → Option (β × St)) : Prop :=
  ∀ a st b st', f a st = some (b, st') →
    st.hits ≤ st'.hits ∧ (Sound P st' → OutWF P st → OutWF P st' ∧ Step P h st st' ∧ V st'.rel a b)

section spec
variable {P : Params} {h : Heap}

theorem thread_spec {α β : Type} {V : (Nat → Nat → Prop) → α → β → Prop} {f : α → St → Option (β × St)}
    (hV : ∀ R S a b, (∀ x y, R x y → S x y) → V R a b → V S a b) (hf : Spec P h V f) :
    Spec P h (fun R => All2 (V R)) (thread f) := by
  intro as st bs st' hc
  fun_induction thread f as st generalizing bs st' with
  | case1 st =>
    -- no element
    cases hc
    exact ⟨Nat.le_refl _, fun _ w => ⟨w, Step.refl P h _, trivial⟩⟩
  | case2 a as st hr => cases hc
  | case3 a as st b st1 hr hl ih => cases hc
  | case4 a as st b st1 hr bs' st2 hl ih =>
    -- `f a st` returns `(b, st1)`, the rest from there `(bs', st2)`
    cases hc
    obtain ⟨le1, p1⟩ := hf a st b st1 hr
    obtain ⟨le2, p2⟩ := ih bs' st2 hl
    refine ⟨Nat.le_trans le1 le2, fun hs w => ?_⟩
    obtain ⟨w1, s1, v1⟩ := p1 (hs.of_le le2) w
    obtain ⟨w2, s2, v2⟩ := p2 hs w1
    exact ⟨w2, s1.trans s2, hV _ _ _ _ (fun _ _ => s2.1.mem) v1, v2⟩

theorem copyRef_spec {rec : Rec} (hrec : Spec P h id rec) : Spec P h RefRel (copyRef rec) := by
  intro r st r' st'
  fun_cases copyRef rec r st with
  | case1 =>
    -- `.none`
    intro hc
    cases hc
    exact ⟨Nat.le_refl _, fun _ w => ⟨w, Step.refl P h _, trivial⟩⟩
  | case2 t _ hr => exact nofun
  | case3 t _ d st1 hr =>
    -- `.one t`, and `rec t st` returns
    intro hc
    cases hc
    exact hrec t st d st' hr
  | case4 ts _ hl => exact nofun
  | case5 ts _ ds st1 hl =>
    -- `.many ts`, and `copyList rec ts st` returns
    intro hc
    cases hc
    rw [copyList_eq_thread] at hl
    exact thread_spec (V := id) (fun _ _ _ _ hRS => hRS _ _) hrec ts st ds st' hl

end spec

/-! ## The steps of one call of `copyNode` -/

theorem Inv.register {st : St} (hi : Inv st) {o : Nat} (hlook : st.memo.lookup o = none) (d : Nat) (out' : Heap)
    (prog' : List Nat) (hits' : Nat) (hd : st.out.length ≤ d) (hlen : d < out'.length) (hle : st.out.length ≤ out'.length) :
    Inv { memo := (o, d) :: st.memo, out := out', prog := prog', hits := hits' } := by
  refine ⟨?_, ?_, ?_⟩
  · simp only [List.map_cons, List.nodup_cons]
    exact ⟨lookup_eq_none_iff_not_mem_keys.1 hlook, hi.keys⟩
  · simp only [List.map_cons, List.nodup_cons]
    refine ⟨?_, hi.vals⟩
    intro hm
    obtain ⟨p, hp, hpe⟩ := List.mem_map.1 hm
    have := hi.lt p hp
    omega
  · intro p hp
    rcases List.mem_cons.1 hp with rfl | hp
    · exact hlen
    · exact Nat.lt_of_lt_of_le (hi.lt p hp) hle

theorem Inv.empty : Inv St.empty := ⟨List.nodup_nil, List.nodup_nil, fun _ hp => by cases hp⟩

theorem Inv.oneOne {st : St} (hi : Inv st) : OneOne st.rel :=
  ⟨fun _ _ _ h1 h2 => congrArg Prod.snd (nodup_map_inj hi.keys h1 h2 rfl),
    fun _ _ _ h1 h2 => congrArg Prod.fst (nodup_map_inj hi.vals h1 h2 rfl)⟩

theorem OutWF.empty (P : Params) : OutWF P St.empty := ⟨Inv.empty, fun _ hn => (nomatch hn), fun _ => rfl⟩

theorem wf_set {out : Heap} (hw : out.WF) (d : Nat) (n : Node) (hn : ∀ t ∈ n.targets, t < out.length) :
    Heap.WF (out.set d n) := by
  intro n' hn' t ht
  rw [List.length_set]
  rcases List.mem_or_eq_of_mem_set hn' with hm | rfl
  · exact hw n' hm t ht
  · exact hn t ht

theorem wf_append_fresh {out : Heap} (hw : out.WF) (ns : List Node) (hns : ∀ n ∈ ns, n.targets = []) :
    Heap.WF (out ++ ns) := by
  intro n' hn' t ht
  rw [List.length_append]
  rcases List.mem_append.1 hn' with hm | hm
  · have := hw n' hm t ht
    omega
  · rw [hns n' hm] at ht
    cases ht

theorem all2_memo_lt {st : St} (hi : Inv st) {xs ys : List Nat} (a : All2 st.rel xs ys) :
    ∀ y ∈ ys, y < st.out.length := by
  intro y hy
  obtain ⟨x, _, hx⟩ := a.exists_left y hy
  exact hi.lt _ hx

/-- `out` is `out0` with slots in `[lo, hi)` overwritten -/
structure Patch (out0 : Heap) (lo hi : Nat) (out : Heap) : Prop where
  len : out.length = out0.length
  wf : out.WF
  same : ∀ i, i < lo ∨ hi ≤ i → out[i]? = out0[i]?

theorem Patch.refl {out0 : Heap} (hw : out0.WF) (lo hi : Nat) : Patch out0 lo hi out0 := ⟨rfl, hw, fun _ _ => rfl⟩

theorem Patch.set {out0 out : Heap} {lo hi : Nat} (hp : Patch out0 lo hi out) {j : Nat} (hlo : lo ≤ j) (hhi : j < hi)
    (n : Node) (hn : ∀ t ∈ n.targets, t < out0.length) : Patch out0 lo hi (out.set j n) := by
  refine ⟨by rw [List.length_set, hp.len], wf_set hp.wf j n (by rwa [hp.len]), fun i hi' => ?_⟩
  rw [List.getElem?_set_ne (by omega), hp.same i hi']

/-- The step of one node. `o` is registered in slot `d`, one of the slots `st1` allocates beyond `st`; its references
are copied from there (`st1` to `st2`, by calls that satisfy `Spec`); then the fresh slots, and no others, are filled
in, slot `d` with the converted node. The pairs registered meanwhile are finished and live beyond the fresh slots, so
filling these in does not disturb them. -/
theorem Step.close {P : Params} {h : Heap} {st st1 st2 : St} {o d : Nat} {n : Node} {rs : List Ref} {out3 : Heap}
    (prog3 : List Nat) (hn : h[o]? = some n) (hm1 : st1.memo = (o, d) :: st.memo)
    (h01 : ∀ i, i < st.out.length → st1.out[i]? = st.out[i]?) (hd : st.out.length ≤ d) (hd1 : d < st1.out.length)
    (w2 : OutWF P st2) (s12 : Step P h st1 st2) (a2 : All2 (RefRel st2.rel) n.refs rs)
    (hp : Patch st2.out st.out.length st1.out.length out3) (hd3 : out3[d]? = some ((P.conv n).withRefs rs)) :
    OutWF P ⟨st2.memo, out3, prog3, st2.hits⟩ ∧ Step P h st ⟨st2.memo, out3, prog3, st2.hits⟩ ∧ st2.rel o d := by
  have hod : st2.rel o d := s12.1.mem (by
    unfold St.rel
    rw [hm1]
    exact List.mem_cons_self)
  have hlen := s12.1.len
  refine ⟨⟨⟨w2.inv.keys, w2.inv.vals, fun p hp' => hp.len ▸ w2.inv.lt p hp'⟩, hp.wf, fun h1 => (w2.count h1).trans hp.len.symm⟩,
    ⟨⟨?_, ?_, ?_⟩, ?_⟩, hod⟩
  · obtain ⟨l, hl⟩ := s12.1.memo
    exact ⟨l ++ [(o, d)], by simp [hl, hm1]⟩
  · rw [hp.len]
    omega
  · intro i hi
    rw [hp.same i (Or.inl hi), s12.1.old i (by omega), h01 i hi]
  · intro a b hm hnm
    by_cases hab : (a, b) = (o, d)
    · cases hab
      exact ⟨⟨n, rs, hn, hd3, a2⟩, hd⟩
    · have hnm1 : ¬ st1.rel a b := by
        unfold St.rel
        rw [hm1, List.mem_cons]
        exact fun e => e.elim hab hnm
      obtain ⟨⟨n', rs', hn', ho', hr'⟩, ge⟩ := s12.2 a b hm hnm1
      exact ⟨⟨n', rs', hn', (hp.same b (Or.inr ge)).trans ho', hr'⟩, by omega⟩

theorem Step.hit {P : Params} {h : Heap} {st : St} (w : OutWF P st) {o f : Nat} (hlook : st.memo.lookup o = some f)
    (prog' : List Nat) (hits' : Nat) :
    OutWF P ⟨st.memo, st.out, prog', hits'⟩ ∧ Step P h st ⟨st.memo, st.out, prog', hits'⟩ ∧ st.rel o f :=
  ⟨⟨⟨w.inv.keys, w.inv.vals, w.inv.lt⟩, w.wf, w.count⟩, ⟨⟨⟨[], rfl⟩, Nat.le_refl _, fun _ _ => rfl⟩, fun _ _ hm hn => (hn hm).elim⟩,
    mem_of_lookup hlook⟩

/-! ## Totality: the measure and the traversals -/

/-- number of heap nodes not yet registered in the memo -/
def unreg (h : Heap) (st : St) : Nat :=
  ((List.range h.length).filter fun i => (st.memo.lookup i).isNone).length

theorem unreg_register {h : Heap} {st : St} {o : Nat} (ho : o < h.length) (hlook : st.memo.lookup o = none)
    (d : Nat) (out' : Heap) (prog' : List Nat) :
    unreg h { memo := (o, d) :: st.memo, out := out', prog := prog', hits := st.hits } < unreg h st := by
  unfold unreg
  apply filter_length_lt (x := o)
  · intro x hx
    simp only [List.lookup_cons] at hx
    split at hx
    · simp at hx
    · exact hx
  · exact List.mem_range.2 ho
  · simp [hlook]
  · simp

/-- below the bound `k` on the measure `m`, `f` returns on arguments in `A` and does not raise `m` -/
def Tot {α β : Type} (m : St → Nat) (k : Nat) (A : α → Prop) (f : α → St → Option (β × St)) : Prop :=
  ∀ a st, A a → m st < k → ∃ b st', f a st = some (b, st') ∧ m st' ≤ m st

theorem thread_tot {α β : Type} {m : St → Nat} {k : Nat} {A : α → Prop} {f : α → St → Option (β × St)}
    (hf : Tot m k A f) : Tot m k (fun as => ∀ a ∈ as, A a) (thread f) := by
  intro as
  induction as with
  | nil =>
    intro st _ _
    exact ⟨[], st, rfl, Nat.le_refl _⟩
  | cons a as ih =>
    intro st has hk
    obtain ⟨b, st1, h1, e1⟩ := hf a st (has a List.mem_cons_self) hk
    obtain ⟨bs, st2, h2, e2⟩ := ih st1 (fun a' ha' => has a' (List.mem_cons_of_mem _ ha')) (Nat.lt_of_le_of_lt e1 hk)
    exact ⟨b :: bs, st2, by simp only [thread, h1, h2], Nat.le_trans e2 e1⟩

theorem copyRef_tot {m : St → Nat} {k : Nat} {A : Nat → Prop} {rec : Rec} (hrec : Tot m k A rec) :
    Tot m k (fun r => ∀ t ∈ r.targets, A t) (copyRef rec) := by
  intro r st hr hk
  cases r with
  | none => exact ⟨_, _, rfl, Nat.le_refl _⟩
  | one t =>
    obtain ⟨d, st1, h1, e1⟩ := hrec t st (hr t List.mem_cons_self) hk
    exact ⟨.one d, st1, by simp only [copyRef, h1], e1⟩
  | many ts =>
    obtain ⟨ds, st1, h1, e1⟩ := thread_tot hrec ts st hr hk
    exact ⟨.many ds, st1, by simp only [copyRef, copyList_eq_thread, h1], e1⟩

/-! ## One call of `copyNode` -/

/-- One call, both ways, by one analysis of the body. A call that returns keeps the invariant (`Spec`); on a heap
without dangling references it does return while the fuel exceeds the number of unregistered nodes: each descent starts
below a fresh registration, with one unregistered node fewer (`Tot`). -/
theorem copyNode_run (P : Params) (h : Heap) : ∀ fuel o st,
    (∀ d st', copyNode P h fuel o st = some (d, st') →
      st.hits ≤ st'.hits ∧ (Sound P st' → OutWF P st → OutWF P st' ∧ Step P h st st' ∧ st'.rel o d)) ∧
    (h.WF → o < h.length → unreg h st < fuel →
      ∃ d st', copyNode P h fuel o st = some (d, st') ∧ unreg h st' ≤ unreg h st) := by
  intro fuel
  induction fuel with
  | zero =>
    intro o st
    refine ⟨fun _ _ hc => ?_, fun _ _ hk => ?_⟩
    · simp [copyNode] at hc
    · omega
  | succ fuel ih =>
    intro o st
    have hrefs' : Spec P h (fun R => All2 (RefRel R)) (thread (copyRef (copyNode P h fuel))) :=
      thread_spec (fun _ _ _ _ hRS => RefRel.mono hRS) (copyRef_spec fun o st => (ih o st).1)
    simp only [copyNode, copyRefs_eq_thread]
    cases hlook : st.memo.lookup o with
    | some f =>
      -- memo hit: the state is returned as it is, or with one more `hits` when `f` is in progress
      simp only
      refine ⟨fun d st' hc => ?_, fun _ _ _ => ?_⟩
      · split at hc
        · cases hc
          refine ⟨Nat.le_succ _, fun hs w => ?_⟩
          -- sound after a reference to a node in progress: the quirk is off
          have hq : P.quirk = false := by
            cases hq : P.quirk with
            | false => rfl
            | true => cases hs hq
          rw [hq]
          exact Step.hit w hlook _ _
        · cases hc
          exact ⟨Nat.le_refl _, fun _ w => Step.hit w hlook _ _⟩
      · split
        · exact ⟨_, _, rfl, Nat.le_refl _⟩
        · exact ⟨_, _, rfl, Nat.le_refl _⟩
    | none =>
      cases hn : h[o]? with
      | none =>
        -- dangling address: no result, and `o` is not an address of the heap
        simp only
        refine ⟨fun _ _ hc => (nomatch hc), fun _ ho _ => ?_⟩
        rw [List.getElem?_eq_getElem ho] at hn
        cases hn
      | some n =>
        simp only
        -- the descent through the references of `n`, from any state with `o` registered, returns
        have htot : h.WF → unreg h st < fuel + 1 → ∀ st1, unreg h st1 < unreg h st → ∃ rs st2,
            thread (copyRef (copyNode P h fuel)) n.refs st1 = some (rs, st2) ∧ unreg h st2 ≤ unreg h st := by
          intro hwf hk st1 h1
          obtain ⟨rs, st2, h2, e2⟩ := thread_tot (copyRef_tot fun o st => (ih o st).2 hwf) n.refs st1
            (fun r hr t ht => hwf _ (List.mem_of_getElem? hn) t (List.mem_flatMap.2 ⟨r, hr, ht⟩)) (by omega)
          exact ⟨rs, st2, h2, Nat.le_trans e2 (Nat.le_of_lt h1)⟩
        cases hint : P.inter n with
        | none =>
          -- one-phase node: registered in the fresh slot `st.out.length`, references copied, the slot filled in
          simp only
          refine ⟨fun d st' hc => ?_, fun hwf ho hk => ?_⟩
          · split at hc
            · cases hc
            · rename_i rs st2 hrefs
              cases hc
              obtain ⟨hle, p⟩ := hrefs' n.refs _ rs st2 hrefs
              refine ⟨hle, fun hs w => ?_⟩
              obtain ⟨w2, s12, a2⟩ := p hs ⟨w.inv.register hlook _ _ _ _ (Nat.le_refl _) (by simp) (by simp),
                wf_append_fresh w.wf _ (by simp), fun h1 => by simp [w.count h1]⟩
              have hlen2 : st.out.length + 1 ≤ st2.out.length := by simpa using s12.1.len
              -- the node written into the fresh slot points at allocated slots: its references are values of the memo
              exact Step.close _ hn rfl (fun i hi' => List.getElem?_append_left hi') (Nat.le_refl _) (by simp) w2 s12 a2
                ((Patch.refl w2.wf _ _).set (Nat.le_refl _) (by simp) _ (all2_memo_lt w2.inv (targets_rel a2)))
                (List.getElem?_set_self (by omega))
          · obtain ⟨rs, st2, h2, e2⟩ := htot hwf hk _
              (unreg_register ho hlook st.out.length (st.out ++ [(P.conv n).withRefs []]) st.prog)
            simp only [h2]
            exact ⟨_, _, rfl, e2⟩
        | some m =>
          -- two-phase node: the intermediate in the fresh slot `st.out.length`, the node registered in the next one and
          -- in progress during the descent; both slots filled in
          simp only
          refine ⟨fun d st' hc => ?_, fun hwf ho hk => ?_⟩
          · split at hc
            · cases hc
            · rename_i rs st2 hrefs
              cases hc
              obtain ⟨hle, p⟩ := hrefs' n.refs _ rs st2 hrefs
              refine ⟨hle, fun hs w => ?_⟩
              obtain ⟨w2, s12, a2⟩ := p hs ⟨w.inv.register hlook _ _ _ _ (by omega) (by simp) (by simp),
                wf_append_fresh w.wf _ (by simp), fun h1 => by rw [h1 n] at hint; cases hint⟩
              have hlen2 : st.out.length + 2 ≤ st2.out.length := by simpa using s12.1.len
              have htg := all2_memo_lt w2.inv (targets_rel a2)
              exact Step.close _ hn rfl (fun i hi' => List.getElem?_append_left hi') (by omega) (by simp) w2 s12 a2
                (((Patch.refl w2.wf _ _).set (Nat.le_refl _) (by simp) (m.withRefs rs) htg).set (by omega) (by simp) _ htg)
                (List.getElem?_set_self (by rw [List.length_set]; omega))
          · obtain ⟨rs, st2, h2, e2⟩ := htot hwf hk _
              (unreg_register ho hlook (st.out.length + 1) (st.out ++ [m.withRefs [], (P.conv n).withRefs []])
                ((st.out.length + 1) :: st.prog))
            simp only [h2]
            exact ⟨_, _, rfl, e2⟩

theorem copyNode_spec (P : Params) (h : Heap) (fuel : Nat) : Spec P h id (copyNode P h fuel) :=
  fun o st => (copyNode_run P h fuel o st).1

theorem copyNode_tot (P : Params) (h : Heap) (hwf : h.WF) (fuel : Nat) :
    Tot (unreg h) fuel (· < h.length) (copyNode P h fuel) :=
  fun o st => (copyNode_run P h fuel o st).2 hwf

/-! ## The run from the roots -/

theorem copyRoots_spec {P : Params} {h : Heap} {roots ds : List Nat} {st : St}
    (hrun : copyRoots P h roots = some (ds, st)) (hs : Sound P st) :
    OutWF P st ∧ Step P h St.empty st ∧ All2 st.rel roots ds := by
  rw [copyRoots, copyList_eq_thread] at hrun
  exact (thread_spec (V := id) (fun _ _ _ _ hRS => hRS _ _) (copyNode_spec P h _) roots St.empty ds st hrun).2 hs (OutWF.empty P)

theorem copyRoots_iso {P : Params} {h : Heap} {roots ds : List Nat} {st : St}
    (hrun : copyRoots P h roots = some (ds, st)) (hs : Sound P st) : IsoVia P.conv h roots st.out ds := by
  obtain ⟨w, s, a⟩ := copyRoots_spec hrun hs
  exact ⟨st.rel, a, w.inv.oneOne.fn, w.inv.oneOne.inj, fun x y hxy => (s.2 x y hxy (by simp [St.rel, St.empty])).1⟩

/-- The memoised depth-first copy with registration before the descent — the algorithm of both `to_dao` and
`from_dao` (without the quirk: the memo entry of a two-phase node is its final object) — yields, for EVERY finite heap and
every list of roots converted with one shared state, a graph isomorphic to the source, the memo being the
correspondence. `hrun` only says that the run did not stop for lack of fuel or on a dangling reference, which
`C04_copy_total` excludes for well-formed heaps. -/
theorem C04_copy_iso (P : Params) (hq : P.quirk = false) (h : Heap) (roots ds : List Nat) (st : St)
    (hrun : copyRoots P h roots = some (ds, st)) : IsoVia P.conv h roots st.out ds :=
  copyRoots_iso hrun (Sound.of_false hq st)

/-- `to_dao` (any number of roots, one shared `ToDAOState`): one DAO per distinct object however often it is
referenced, distinct DAOs for distinct objects, each DAO the conversion of its object (mapping applied first),
references corresponding position-wise. -/
theorem C04_to_dao_iso (h : Heap) (roots droots : List Nat) (st : St) (hrun : toDao h roots = some (droots, st)) :
    IsoVia daoMk h roots st.out droots :=
  C04_copy_iso toDaoParams rfl h roots droots st hrun

/-! ## The runs return -/

/-- On a heap without dangling references the copy, started with fuel = number of nodes + 1, never runs out of fuel:
`C04_copy_iso` speaks about every finite heap. -/
theorem C04_copy_total (P : Params) (h : Heap) (hwf : h.WF) (roots : List Nat) (hr : ∀ r ∈ roots, r < h.length) :
    ∃ ds st, copyRoots P h roots = some (ds, st) := by
  have hk : unreg h St.empty < h.length + 1 := by
    unfold unreg
    have := List.length_filter_le (fun i => (St.empty.memo.lookup i).isNone) (List.range h.length)
    simp only [List.length_range] at this
    omega
  obtain ⟨ds, st, hc, _⟩ := thread_tot (copyNode_tot P h hwf (h.length + 1)) roots St.empty hr hk
  exact ⟨ds, st, by
    rw [copyRoots, copyList_eq_thread]
    exact hc⟩

/-- On every object graph without dangling references and for all valid roots, the round
trip (`from_dao` with the quirk on or off) produces a result: the isomorphism theorems are never vacuous. -/
theorem C04_roundtrip_total (quirk : Bool) (unmap : Label → Option Label) (h : Heap) (hwf : h.WF)
    (roots : List Nat) (hr : ∀ r ∈ roots, r < h.length) :
    ∃ rs' st', roundTrip quirk unmap h roots = some (rs', st') := by
  obtain ⟨droots, st, hto⟩ := C04_copy_total toDaoParams h hwf roots hr
  obtain ⟨w, _, a⟩ := copyRoots_spec (P := toDaoParams) hto nofun
  obtain ⟨rs', st', hfrom⟩ := C04_copy_total (fromDaoParams quirk unmap) st.out w.wf droots (all2_memo_lt w.inv a)
  have hto' : toDao h roots = some (droots, st) := hto
  exact ⟨rs', st', by
    unfold roundTrip
    simp only [hto']
    exact hfrom⟩

/-! ## The round trip -/

/-- round-tripping mapping pairs (explicit hypothesis on the user-written `create_instance` / `create_from_dao`):
converting back the DAO of an object gives that object's class and scalars -/
def RoundTrips (unmap : Label → Option Label) (h : Heap) : Prop :=
  ∀ n ∈ h, (objMk unmap (daoMk n)).lab = n.lab

instance (unmap : Label → Option Label) (h : Heap) : Decidable (RoundTrips unmap h) := by
  unfold RoundTrips
  infer_instance

theorem roundTrip_iso {quirk : Bool} {unmap : Label → Option Label} {h : Heap} {roots rs' : List Nat} {st' : St}
    (hrt : RoundTrips unmap h) (hrun : roundTrip quirk unmap h roots = some (rs', st'))
    (hs : quirk = true → st'.hits = 0) : Iso h roots st'.out rs' := by
  unfold roundTrip at hrun
  split at hrun
  · cases hrun
  · rename_i droots st hto
    exact IsoVia.comp_iso (C04_to_dao_iso h roots droots st hto)
      (copyRoots_iso (P := fromDaoParams quirk unmap) hrun hs) fun n hn _ => hrt n hn

theorem hits_of_trigStale {unmap : Label → Option Label} {h : Heap} {roots rs' : List Nat} {st' : St}
    (hrun : roundTrip true unmap h roots = some (rs', st')) (hno : trigStale unmap h roots = false) : st'.hits = 0 := by
  unfold trigStale at hno
  rw [hrun] at hno
  simpa using hno

/-- For the `from_dao` that never memoises the intermediate mapping instance (quirk off), the round
trip `from_dao(to_dao(g))` is isomorphic to `g` for EVERY finite object graph and every list of roots. -/
theorem C04_full (unmap : Label → Option Label) (h : Heap) (roots rs' : List Nat) (st' : St)
    (hrt : RoundTrips unmap h) (hrun : roundTrip false unmap h roots = some (rs', st')) :
    Iso h roots st'.out rs' :=
  roundTrip_iso hrt hrun nofun

/-- `from_dao` before fix `9a6f576` (quirk on): the round trip is an isomorphism for every finite object
graph on which no reference to an alternatively mapped DAO is resolved while that DAO is in progress
(`trigStale = false`, i.e. no alternatively mapped object has a depth-first back edge into it). -/
theorem C04_roundtrip_partial (unmap : Label → Option Label) (h : Heap) (roots rs' : List Nat) (st' : St)
    (hrt : RoundTrips unmap h) (hrun : roundTrip true unmap h roots = some (rs', st'))
    (hno : trigStale unmap h roots = false) : Iso h roots st'.out rs' :=
  roundTrip_iso hrt hrun fun _ => hits_of_trigStale hrun hno

/-! ## The witness of finding F-C04-1 -/

/-- `back = Backreference({1: 1}, ref); ref = Reference(3, back)` — the dataset's cycle, rooted at `back` -/
def cexHeap : Heap := [
  { lab := ⟨"Backreference", "unmappable={i1:i1}"⟩, kind := .alt, view := ⟨"BackreferenceMapping", "values=[i1]"⟩,
    tabs := ["BackreferenceMappingDAO", "SymbolDAO"], fields := [⟨false, ""⟩], refs := [.one 1] },
  { lab := ⟨"Reference", "value=i3"⟩, kind := .plain, view := noView, tabs := ["ReferenceDAO", "SymbolDAO"],
    fields := [⟨false, ""⟩], refs := [.one 0] }]

def cexUnmap : Label → Option Label := fun l =>
  if l = ⟨"BackreferenceMapping", "values=[i1]"⟩ then some ⟨"Backreference", "unmappable={i1:i1}"⟩ else none

def cexOut : Heap := [
  { lab := ⟨"BackreferenceMapping", "values=[i1]"⟩, kind := .alt, view := noView,
    tabs := ["BackreferenceMappingDAO", "SymbolDAO"], fields := [⟨false, ""⟩], refs := [.one 2] },
  { lab := ⟨"Backreference", "unmappable={i1:i1}"⟩, kind := .alt, view := noView,
    tabs := ["BackreferenceMappingDAO", "SymbolDAO"], fields := [⟨false, ""⟩], refs := [.one 2] },
  { lab := ⟨"Reference", "value=i3"⟩, kind := .plain, view := noView, tabs := ["ReferenceDAO", "SymbolDAO"],
    fields := [⟨false, ""⟩], refs := [.one 0] }]

/-- With `from_dao` before fix `9a6f576` (quirk on), `to_dao(back).from_dao()` on the two-object cycle started
at the alternatively mapped object is NOT isomorphic to the input: `reference.backreference` is the intermediate
`BackreferenceMapping` instance (slot 0), not the returned `Backreference` (slot 1). The mapping pair round-trips and
the trigger holds, so the restriction in `C04_roundtrip_partial` is necessary. Started at `Reference` the same graph
round-trips. -/
theorem C04_cex_altmapped_cycle :
    RoundTrips cexUnmap cexHeap ∧ trigStale cexUnmap cexHeap [0] = true ∧
    (∃ st', roundTrip true cexUnmap cexHeap [0] = some ([1], st') ∧ st'.out = cexOut ∧
      ¬ Iso cexHeap [0] st'.out [1]) ∧
    trigStale cexUnmap cexHeap [1] = false := by
  refine ⟨by decide +kernel, by decide +kernel, ?_, by decide +kernel⟩
  refine ⟨⟨[(1, 2), (0, 1)], cexOut, [], 1⟩, by decide +kernel, rfl, ?_⟩
  rintro ⟨R, hroots, hfun, -, hnode⟩
  -- round the cycle: 0 ↦ 1 (roots); their references give 1 ↦ 2; those of 1 and of slot 2 give 0 ↦ 0, slot 0 being the
  -- intermediate: against 0 ↦ 1
  have h01 : R 0 1 := hroots.1
  obtain ⟨n, m, hn, hm, -, hr⟩ := hnode 0 1 h01
  have hn' : n = cexHeap[0] := by simpa [cexHeap] using hn.symm
  have hm' : m = cexOut[1] := by simpa [cexOut] using hm.symm
  subst hn' hm'
  have h12 : R 1 2 := hr.1
  obtain ⟨n, m, hn, hm, -, hr⟩ := hnode 1 2 h12
  have hn' : n = cexHeap[1] := by simpa [cexHeap] using hn.symm
  have hm' : m = cexOut[2] := by simpa [cexOut] using hm.symm
  subst hn' hm'
  have h00 : R 0 0 := hr.1
  have := hfun 0 1 0 h01 h00
  omega

/-! Non-vacuity: the hypotheses of the theorems above are met by non-trivial inputs. -/

/-- a shared sub-object, a cycle through a list, a duplicate in a list, `None` -/
def exHeap : Heap := [
  { lab := ⟨"Torso", "name=st"⟩, kind := .plain, view := noView, tabs := [], fields := [⟨false, "a"⟩],
    refs := [.many [1, 1, 0, 2]] },
  { lab := ⟨"KinematicChain", "name=sa"⟩, kind := .plain, view := noView, tabs := [], fields := [], refs := [] },
  { lab := ⟨"Torso", "name=sb"⟩, kind := .plain, view := noView, tabs := [], fields := [⟨false, "a"⟩],
    refs := [.many []] }]

example : exHeap.WF ∧ RoundTrips (fun _ => none) exHeap ∧ trigStale (fun _ => none) exHeap [0] = false ∧
    (roundTrip true (fun _ => none) exHeap [0]).isSome = true := by
  exact ⟨Heap.WF_of_wf (by decide +kernel), by decide +kernel, by decide +kernel, by decide +kernel⟩

/-- an alternatively mapped object on a cycle that is NOT entered at it: hypotheses of `C04_roundtrip_partial` hold -/
example : RoundTrips cexUnmap cexHeap ∧ trigStale cexUnmap cexHeap [1] = false ∧
    (roundTrip true cexUnmap cexHeap [1]).isSome = true := by decide +kernel

/-! ## The canonical text respects `Iso` -/

section canon
variable {R : Nat → Nat → Prop}

theorem OneOne.beq_eq (hR : OneOne R) {x x' a a' : Nat} (hx : R x x') (ha : R a a') : (x == a) = (x' == a') := by
  rw [Bool.eq_iff_iff, beq_iff_eq, beq_iff_eq]
  exact ⟨fun e => hR.fn x x' a' hx (e ▸ ha), fun e => hR.inj x a x' hx (e ▸ ha)⟩

theorem contains_rel (hR : OneOne R) {x x' : Nat} (hx : R x x') {acc acc' : List Nat} (h : All2 R acc acc') :
    acc.contains x = acc'.contains x' := by
  induction h using All2.ind with
  | nil => rfl
  | cons ha _ ih => rw [List.contains_cons, List.contains_cons, ih, hR.beq_eq hx ha]

theorem findIdx_rel (hR : OneOne R) {x x' : Nat} (hx : R x x') {acc acc' : List Nat} (h : All2 R acc acc') :
    acc.findIdx (· == x) = acc'.findIdx (· == x') := by
  induction h using All2.ind with
  | nil => rfl
  | cons ha _ ih => rw [List.findIdx_cons, List.findIdx_cons, ih, hR.beq_eq ha hx]

theorem numOf_rel (hR : OneOne R) {order order' : List Nat} (ho : All2 R order order') {x x' : Nat} (hx : R x x') :
    numOf order x = numOf order' x' := by
  unfold numOf
  simp only [findIdx_rel hR hx ho, All2.length_eq ho]

theorem showRef_rel (hR : OneOne R) {order order' : List Nat} (ho : All2 R order order') {r s : Ref}
    (h : RefRel R r s) : showRef order r = showRef order' s := by
  cases h using RefRel.ind with
  | none => rfl
  | one h => exact numOf_rel hR ho h
  | many h => simp only [showRef, All2.map_eq (fun _ _ hx => numOf_rel hR ho hx) h]

theorem showNode_rel (hR : OneOne R) {order order' : List Nat} (ho : All2 R order order') {n m : Node}
    (hl : m.lab = n.lab) (hr : All2 (RefRel R) n.refs m.refs) : showNode order n = showNode order' m := by
  simp only [showNode, hl, All2.map_eq (fun _ _ hx => showRef_rel hR ho hx) hr]

theorem tg_rel {h h' : Heap} (hn : NodesRel R h h') {a b : Nat} (hab : R a b) : All2 R (tg h a) (tg h' b) := by
  obtain ⟨n, m, e1, e2, _, hr⟩ := hn a b hab
  simp only [tg, e1, e2]
  exact targets_rel hr

theorem dfsOrder_zero (h : Heap) (work acc : List Nat) : dfsOrder h 0 work acc = acc := rfl

theorem dfsOrder_nil (h : Heap) (fuel : Nat) (acc : List Nat) : dfsOrder h fuel [] acc = acc := by
  cases fuel with
  | zero => rfl
  | succ fuel => rfl

theorem dfsOrder_seen {h : Heap} {fuel x : Nat} {work acc : List Nat} (hc : acc.contains x = true) :
    dfsOrder h (fuel + 1) (x :: work) acc = dfsOrder h fuel work acc := by
  simp only [dfsOrder, hc, if_true]

theorem dfsOrder_new {h : Heap} {fuel x : Nat} {work acc : List Nat} (hc : acc.contains x = false) :
    dfsOrder h (fuel + 1) (x :: work) acc = dfsOrder h fuel (tg h x ++ work) (acc ++ [x]) := by
  simp only [dfsOrder, hc]
  rfl

theorem dfsOrder_rel {h h' : Heap} (hR : OneOne R) (hs : ∀ a b, R a b → All2 R (tg h a) (tg h' b)) :
    ∀ (fuel : Nat) (work work' acc acc' : List Nat), All2 R work work' → All2 R acc acc' →
      All2 R (dfsOrder h fuel work acc) (dfsOrder h' fuel work' acc') := by
  intro fuel
  induction fuel with
  | zero =>
    intro work work' acc acc' _ ha
    exact ha
  | succ fuel ih =>
    intro work work' acc acc' hw ha
    cases hw using All2.ind with
    | nil => rwa [dfsOrder_nil, dfsOrder_nil]
    | cons hx hw _ =>
      cases hc : acc.contains _ with
      | true =>
        rw [dfsOrder_seen hc, dfsOrder_seen (contains_rel hR hx ha ▸ hc)]
        exact ih _ _ _ _ hw ha
      | false =>
        rw [dfsOrder_new hc, dfsOrder_new (contains_rel hR hx ha ▸ hc)]
        exact ih _ _ _ _ (All2.append (hs _ _ hx) hw) (All2.append ha ⟨hx, trivial⟩)

end canon

/-- Isomorphic rooted graphs have the same canonical form: what the theorems state as `Iso` is
what the driver (and the harness, on the real objects) compares as text. -/
theorem Iso_canon_eq {h h' : Heap} {rs rs' : List Nat} (hiso : Iso h rs h' rs') : canon h rs = canon h' rs' := by
  obtain ⟨R, hroots, hf, hi, hn⟩ := hiso
  have hR : OneOne R := ⟨hf, hi⟩
  have ho : All2 R (reachable h rs) (reachable h' rs') :=
    dfsOrder_rel hR (fun _ _ => tg_rel hn) canonFuel rs rs' [] [] hroots trivial
  unfold canon
  dsimp only
  -- no step below may close a goal by `rfl` between terms that mention `reachable`: the kernel would unfold
  -- `dfsOrder` along the literal `canonFuel`
  rw [All2.map_eq (fun _ _ hx => numOf_rel hR ho hx) hroots]
  congr 2
  refine All2.map_eq (fun x x' hx => ?_) ho
  obtain ⟨n, m, e1, e2, hl, hr⟩ := hn x x' hx
  simp only [e1, e2]
  exact showNode_rel hR ho hl hr

/-- What the driver prints: outside the trigger of F-C04-1 the canonical form of the model's
round trip (`model=`) IS the canonical form of the input (`spec=`), for every finite object graph. -/
theorem C04_canon_partial (unmap : Label → Option Label) (h : Heap) (roots rs' : List Nat) (st' : St)
    (hrt : RoundTrips unmap h) (hrun : roundTrip true unmap h roots = some (rs', st'))
    (hno : trigStale unmap h roots = false) : canon st'.out rs' = canon h roots :=
  (Iso_canon_eq (C04_roundtrip_partial unmap h roots rs' st' hrt hrun hno)).symm

/-! ## F-C04-2: id collisions of temporary parent DAOs (nondeterministic at run time) -/

theorem staleParent_nil (out : Heap) : staleParent out [] = out := rfl

/-- With at most one object below an alternatively mapped DAO in the result there is
no admissible collision: `from_dao` before fix `453154d` is deterministic and the trigger of F-C04-2 is off, so
`C04_roundtrip_partial` describes it exactly. -/
theorem C04_stale_parent_needs_two (out : Heap) (h : (subSlots out).length ≤ 1) :
    staleChoices out [] (subSlots out) = [[]] ∧ trigStaleParent out = false := by
  have hc : staleChoices out [] (subSlots out) = [[]] := by
    cases hs : subSlots out with
    | nil => rfl
    | cons j rest =>
      cases rest with
      | nil => simp [staleChoices]
      | cons k rest' =>
        rw [hs] at h
        simp at h
  exact ⟨hc, by simp [trigStaleParent, hc]⟩

/-- an `AuxCamera` DAO; `pf := (1, 2)`: its first scalar (`name`) and its first two reference fields (mount, tags) come
through the parent `AuxSensorMapping` -/
def camNode (scal : String) (refs : List Ref) : Node :=
  { lab := ⟨"AuxCamera", scal⟩, kind := .sub, view := noView,
    tabs := ["AuxCameraDAO", "AuxSensorMappingDAO"], fields := [⟨false, ""⟩, ⟨false, "l"⟩, ⟨false, ""⟩], refs := refs,
    pf := (1, 2) }

def leafNode (cls scal : String) : Node :=
  { lab := ⟨cls, scal⟩, kind := .plain, view := noView, tabs := [cls ++ "DAO"], fields := [], refs := [] }

/-- result heap of `AuxRig([a], main=b)`: two cameras with their own names, mounts and tags (the witness of finding
F-C04-2) -/
def cexRig : Heap := [
  { lab := ⟨"AuxRig", ""⟩, kind := .plain, view := noView, tabs := ["AuxRigDAO"], fields := [⟨false, "s"⟩, ⟨false, ""⟩],
    refs := [.many [1], .one 4] },
  camNode "name=sa,resolution=i1" [.one 2, .many [3], .none],
  leafNode "AuxFrame" "name=sf1", leafNode "AuxTag" "text=st1",
  camNode "name=sb,resolution=i2" [.one 5, .many [6, 7], .one 2],
  leafNode "AuxFrame" "name=sf2", leafNode "AuxTag" "text=st2", leafNode "AuxTag" "text=st3"]

/-- Before fix `453154d`: when the second camera's temporary parent DAO is allocated at the address of the first one's,
it comes back with the FIRST camera's mount and tags (slots 2, [3]) instead of its own (5, [6, 7]) and keeps its own
housing: not isomorphic to the input. (The label of the slot is not stated: string surgery is not kernel-evaluable.) -/
theorem C04_cex_stale_parent :
    trigStaleParent cexRig = true ∧ staleChoices cexRig [] (subSlots cexRig) = [[], [(4, 1)]] ∧
    ((staleParent cexRig [(4, 1)])[4]?).map (·.refs) = some [.one 2, .many [3], .one 2] ∧
    (cexRig[4]?).map (·.refs) = some [.one 5, .many [6, 7], .one 2] := by decide +kernel

/-! ## Mapping pairs, several roots, F-C04-3 -/

/-- A round-tripping `create_from_dao` (`unmap`) cannot factor through any projection
`π` of the mapping's columns that identifies the DAO labels of two alternatively mapped objects with different
class/scalars — e.g. a cache keyed by (module, function name) without the owning class for `FunctionMapping`. -/
theorem C04_roundtrips_separates (unmap : Label → Option Label) (h : Heap) (hrt : RoundTrips unmap h)
    {α : Type} (π : Label → α) (hπ : ∀ l l', π l = π l' → unmap l = unmap l')
    (n n' : Node) (hn : n ∈ h) (hn' : n' ∈ h) (ha : n.kind = .alt) (ha' : n'.kind = .alt)
    (hs : (unmap n.view).isSome = true) (hp : π n.view = π n'.view) : n.lab = n'.lab := by
  have e := hπ _ _ hp
  have h1 := hrt n hn
  have h2 := hrt n' hn'
  simp only [objMk, daoMk, ha, ha'] at h1 h2
  rw [← h1, ← h2, e]
  cases hu : unmap n'.view with
  | none =>
    rw [e, hu] at hs
    cases hs
  | some x => rfl

/-- two functions with the same module and `__name__` on different owners, as alternatively mapped leaves -/
def fnNode (q cls : String) : Node :=
  { lab := ⟨"function", q⟩, kind := .alt, view := ⟨"FunctionMapping", cls⟩, tabs := ["FunctionMappingDAO"],
    fields := [], refs := [] }

def jobHeap : Heap := [
  { lab := ⟨"AuxPipeline", ""⟩, kind := .plain, view := noView, tabs := ["AuxPipelineDAO"], fields := [⟨false, "j"⟩],
    refs := [.many [1, 3]] },
  { lab := ⟨"AuxJob", "name=sload"⟩, kind := .plain, view := noView, tabs := ["AuxJobDAO"], fields := [⟨false, ""⟩],
    refs := [.one 2] },
  fnNode "AuxLoader.run" "function_name=srun,class_name=sAuxLoader",
  { lab := ⟨"AuxJob", "name=ssave"⟩, kind := .plain, view := noView, tabs := ["AuxJobDAO"], fields := [⟨false, ""⟩],
    refs := [.one 4] },
  fnNode "AuxSaver.run" "function_name=srun,class_name=sAuxSaver"]

/-- the mapping keyed by all columns round-trips; the one keyed by the mapping class alone (`jobUnmapCached`) does
not -/
def jobUnmap : Label → Option Label := fun l =>
  if l = ⟨"FunctionMapping", "function_name=srun,class_name=sAuxLoader"⟩ then some ⟨"function", "AuxLoader.run"⟩
  else if l = ⟨"FunctionMapping", "function_name=srun,class_name=sAuxSaver"⟩ then some ⟨"function", "AuxSaver.run"⟩
  else none

def jobUnmapCached : Label → Option Label := fun l =>
  if l.cls = "FunctionMapping" then some ⟨"function", "AuxLoader.run"⟩ else none

example : RoundTrips jobUnmap jobHeap ∧ ¬ RoundTrips jobUnmapCached jobHeap ∧
    trigStale jobUnmap jobHeap [0] = false ∧ (roundTrip true jobUnmap jobHeap [0]).isSome = true := by decide +kernel

/-- In an isomorphic image of a multi-root graph two root positions hold the same object exactly when they did before:
converting the same DAO twice with one state gives one object, distinct roots stay distinct. With `C04_full` /
`C04_roundtrip_partial` (stated for any list of roots threaded through ONE state) this is the multi-root round-trip
property. -/
theorem C04_roots_sharing {h h' : Heap} {roots rs' : List Nat} (hiso : Iso h roots h' rs')
    (i j a a' b b' : Nat) (hi : roots[i]? = some a) (hj : roots[j]? = some a')
    (hi' : rs'[i]? = some b) (hj' : rs'[j]? = some b') : a = a' ↔ b = b' := by
  obtain ⟨R, hroots, hf, hinj, _⟩ := hiso
  have r1 := All2.getElem? hroots i a b hi hi'
  have r2 := All2.getElem? hroots j a' b' hj hj'
  constructor
  · intro e
    subst e
    exact hf a b b' r1 r2
  · intro e
    subst e
    exact hinj a a' b r1 r2

/-- F-C04-3 changes nothing unless some object lies two or more levels below an alternatively
mapped class whose mapping renames constructor arguments: with the trigger off, `from_dao` before the repair of
F-C04-3 is the modelled copy and `C04_roundtrip_partial` applies unchanged. -/
theorem C04_drop_deep_noop (out : Heap) (h : trigDeep out = false) : dropDeepParent out = out := by
  unfold dropDeepParent
  have : ∀ n ∈ out, dropParent n = n := by
    intro n hn
    unfold trigDeep at h
    have hn' : (n.deep && n.pf != (0, 0)) = false := by
      have := List.any_eq_false.1 h n hn
      simpa using this
    unfold dropParent
    simp [hn']
  calc out.map dropParent = out.map id := List.map_congr_left this
    _ = out := List.map_id out

/-! ## The code from `9a6f576` (F-C04-1) and `453154d` (F-C04-2) on

`from_dao` fixes every reference that was resolved to the intermediate mapping instance of an alternatively mapped DAO
in progress once the final object exists, and keeps every converted DAO (also the temporary parent DAOs) alive, so
the code is the copy with `quirk := false` and no collision choice: the driver's `model=` is `roundTrip false`.
`C04_roundtrip_partial`, `C04_cex_altmapped_cycle`, `C04_cex_stale_parent` and `C04_stale_parent_needs_two` are about
the code before these commits (their witnesses are in the corpus). -/

/-- The round trip `from_dao(to_dao(g))` — any number of roots, one state each way — is isomorphic
to `g` for EVERY finite object graph: no trigger, no restriction on cycles through alternatively mapped objects. The
only hypothesis is that the user-written mapping pairs round-trip. -/
theorem C04_roundtrip (unmap : Label → Option Label) (h : Heap) (roots rs' : List Nat) (st' : St)
    (hrt : RoundTrips unmap h) (hrun : roundTrip false unmap h roots = some (rs', st')) :
    Iso h roots st'.out rs' := C04_full unmap h roots rs' st' hrt hrun

/-- What the driver prints: `model=` IS `spec=` for every finite object graph. -/
theorem C04_canon (unmap : Label → Option Label) (h : Heap) (roots rs' : List Nat) (st' : St)
    (hrt : RoundTrips unmap h) (hrun : roundTrip false unmap h roots = some (rs', st')) :
    canon st'.out rs' = canon h roots :=
  (Iso_canon_eq (C04_roundtrip unmap h roots rs' st' hrt hrun)).symm

/-- the witness of F-C04-1 round-trips with the quirk off -/
example : ∃ rs' st', roundTrip false cexUnmap cexHeap [0] = some (rs', st') ∧ Iso cexHeap [0] st'.out rs' := by
  obtain ⟨rs', st', hrun⟩ := C04_roundtrip_total false cexUnmap cexHeap (Heap.WF_of_wf (by decide +kernel)) [0]
    (by decide +kernel)
  exact ⟨rs', st', hrun, C04_roundtrip cexUnmap cexHeap [0] rs' st' (by decide +kernel) hrun⟩

end KrroodVerif.Dao
