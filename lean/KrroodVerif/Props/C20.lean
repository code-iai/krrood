import KrroodVerif.Props.C13
import KrroodVerif.Lemmas.HeapReach
import KrroodVerif.Drive.SG
/-!
# C20 — krrood never extends the lifetime of user objects

Reachability in the model stands for reclamation (CPython's collector is assumed, see the manifest).
With the repaired `remove_node`, after a sweep every entry of every SymbolGraph structure belongs to a live instance (`Clean`),
for every history and allocator; once the expression table releases dropped query objects, nothing survives the user's
references. Witnesses of F-C20-1, of F-C20-2 and of the references between a role and its role taker.
-/
namespace KrroodVerif.SG

variable {σ : Type}

/-- "no bookkeeping entry left behind": every node belongs to a live instance, and every entry of every index to a node
(`edgesLive`: the ends of an edge are nodes) -/
structure Clean (h : Heap) (g : SG σ) : Prop where
  nodesLive : ∀ w ∈ g.nodes, h.isLive w.obj = true
  nodesLe : g.nodes.length ≤ h.live.length
  byClass : g.byClass = g.nodes
  instNodes : ∀ kw ∈ g.instIdx, kw.2 ∈ g.nodes
  instLe : g.instIdx.length ≤ g.nodes.length
  edgesLive : ∀ e ∈ g.edges, e.src ∈ g.nodes ∧ e.tgt ∈ g.nodes
  relEdges : ∀ r ∈ g.relIdx, ∃ e ∈ g.edges, r = (e.fld, e.src.idx, e.tgt.idx)

theorem length_le_of_map_nodup {α β : Type} {f : α → β} {l : List α} {l' : List β} (hnd : (l.map f).Nodup)
    (hsub : ∀ x ∈ l, f x ∈ l') : l.length ≤ l'.length := by
  have := hnd.length_le_of_subset (l₂ := l') fun y hy => by
    obtain ⟨x, hx, rfl⟩ := List.mem_map.1 hy
    exact hsub x hx
  simpa using this

/-- From the invariant `Inv`: with the repaired `remove_node` (`_relation_index` purged, `_instance_index` entry removed by
the stored id), after `remove_dead_instances` every SymbolGraph structure only holds entries of live instances; nodes,
class lists and instance index are no larger than the number of live instances, and every entry of the relation index
is the key of an edge between nodes. -/
theorem C20_registry_bounded (q : Quirks) (a : Alloc σ) (st : St σ) (hI : Inv q st)
    (h1 : q.keepDeadIndex = false) (h2 : q.staleRelIndex = false) :
    Clean st.h (sweep q a st.g st.h.isLive) := by
  have hI' : Inv q { st with g := SG.sweep q a st.g st.h.isLive } := hI.sweep
  have hlive : ∀ w ∈ (SG.sweep q a st.g st.h.isLive).nodes, st.h.isLive w.obj = true :=
    fun w hw => ((mem_sweep_nodes hI w).1 hw).2
  generalize SG.sweep q a st.g st.h.isLive = g at hI' hlive ⊢
  constructor
  · exact hlive
  · -- the nodes inject into the live instances through their labels
    have hnd : (g.nodes.map (·.obj)).Nodup := Nodup.map_on hI'.objInj hI'.nodesNodup
    have := length_le_of_map_nodup hnd (l' := st.h.live.map (·.obj)) fun w hw =>
      List.mem_map.2 ((isLive_iff _ _).1 (hlive w hw))
    simpa using this
  · exact hI'.byClassEq
  · intro kw hkw
    exact (hI'.instNode kw hkw (Or.inl h1)).1
  · -- the index entries inject into the nodes: the key of an entry is the id of its node
    have hnd : (g.instIdx.map (·.2)).Nodup := by
      refine Nodup.map_on ?_ hI'.instNodup
      intro k1 hk1 k2 hk2 he
      have e1 := (hI'.instNode k1 hk1 (Or.inl h1)).2
      have e2 := (hI'.instNode k2 hk2 (Or.inl h1)).2
      exact hI'.instKeys k1 hk1 k2 hk2 (by rw [e1, e2, he])
    exact length_le_of_map_nodup hnd fun kw hkw => (hI'.instNode kw hkw (Or.inl h1)).1
  · exact hI'.edgeNodes
  · exact hI'.relExact h2

/-- `C20_registry_bounded` after every history, under every valid allocator and every `id()` recycling. -/
theorem C20_registry_bounded_run (q : Quirks) (S : Schema) (a : Alloc σ) (ha : a.Valid) (ops : List Op)
    (h1 : q.keepDeadIndex = false) (h2 : q.staleRelIndex = false) :
    let st := run q S a ops
    Clean st.h (sweep q a st.g st.h.isLive) :=
  C20_registry_bounded q a _ (C13_inv_run q S a ha ops) h1 h2

/-- Once the expression table releases query objects the user dropped (quirk off),
a heap in which the user holds no instance and no query object has no live instance left after `gc.collect()`:
nothing in the model other than the user's references and the user's query objects is a root. -/
theorem C20_no_pins_no_survivors (q : Quirks) (h : Heap) (hq : q.exprTableLeak = false) (hheld : h.held = [])
    (hqv : ∀ v ∈ h.qvars, v.held = false) : (h.collect q).live = [] := by
  -- nothing is reachable from no root, so every live instance is garbage
  have hg : h.garbage q = h.live.map (·.obj) := by
    simp [Heap.garbage, roots_eq_nil hq hheld hqv, reach_from_nil, List.filter_eq_self.2]
  rw [Heap.collect, hg, Heap.kill, List.filter_eq_nil_iff]
  intro x hx
  simpa using ⟨x, hx, rfl⟩

/-- For krrood with F-C20-1 repaired (`Quirks.asIs`: the expression table releases dropped query objects): in every heap in
which the user holds no instance and no query object, nothing is alive after `gc.collect()`. -/
theorem C20_current_no_pins_no_survivors (h : Heap) (hheld : h.held = [])
    (hqv : ∀ v ∈ h.qvars, v.held = false) : (h.collect Quirks.asIs).live = [] :=
  C20_no_pins_no_survivors Quirks.asIs h rfl hheld hqv

/-- Finding F-C20-1 on a concrete witness: an instance is created, a query over its type is built, evaluated and dropped,
the instance is dropped. For krrood before the repair (`Quirks.leaky`) it is still alive (root: expression table →
Variable → cached domain), stays in the census, and the table has grown; for krrood with the repair (`Quirks.asIs`) it is
reclaimed and the table is back to its size. -/
theorem C20_cex_query_cache :
    let ops := [Op.new 0 0 0, .mkq 1 0 none, .evalq 1, .dropq 1, .drop 0, .sweep]
    ((run Quirks.leaky cexSchema lifo ops).h.isLive 0 = true ∧
     (run Quirks.leaky cexSchema lifo ops).g.nodes.length = 1 ∧
     (run Quirks.leaky cexSchema lifo ops).h.exprs = 1) ∧
    ((run Quirks.asIs cexSchema lifo ops).h.isLive 0 = false ∧
     (run Quirks.asIs cexSchema lifo ops).g.nodes.length = 0 ∧
     (run Quirks.asIs cexSchema lifo ops).h.exprs = 0) := by
  decide +kernel

/-- Finding F-C20-2 on a concrete witness: two instances are created, related, dropped, collected and swept. For krrood
before c18b52a (`Quirks.original`) `_instance_index` and `_relation_index` keep their entries; from c18b52a on
(`Quirks.asIs`) none is left. -/
theorem C20_cex_index_entries :
    let ops := [Op.new 0 0 0, .new 1 0 1, .rel 0 0 1, .drop 0, .drop 1, .sweep]
    ((run Quirks.original cexSchema lifo ops).g.nodes.length = 0 ∧
     (run Quirks.original cexSchema lifo ops).g.instIdx.length = 2 ∧
     (run Quirks.original cexSchema lifo ops).g.relIdx.length = 1) ∧
    ((run Quirks.asIs cexSchema lifo ops).g.instIdx.length = 0 ∧
     (run Quirks.asIs cexSchema lifo ops).g.relIdx.length = 0) := by
  decide +kernel

/-! Non-vacuity: a non-trivial state meeting the hypotheses of `C20_registry_bounded` (instances related, one of
them dead and not yet swept), and of `C20_no_pins_no_survivors`. -/
example :
    let st := run Quirks.none cexSchema lifo [.new 0 0 0, .new 1 0 1, .new 2 1 2, .rel 0 0 1, .rel 0 1 2, .drop 1]
    st.g.nodes.length = 3 ∧ st.h.live.length = 2 ∧ (sweep Quirks.none lifo st.g st.h.isLive).nodes.length = 2 ∧
    (sweep Quirks.none lifo st.g st.h.isLive).relIdx.length = 0 := by
  decide +kernel
example :
    let h := (run Quirks.none cexSchema lifo [.new 0 0 0, .mkq 1 0 none, .evalq 1, .dropq 1]).h
    h.live.length = 1 ∧ ({ h with held := [] } : Heap).qvars = [] := by
  decide +kernel

/-- why the repaired `remove_node` compares the index entry with the wrapper before deleting it (the general fact is
`Inv.removeNode`, proved for every `id()` assignment): instance 0 had id 7 and died; before the sweep a new
instance 1 got the recycled id 7 and overwrote the entry; the guarded removal keeps the entry of instance 1, popping
the stored id unconditionally would lose it (and the next `ensure_wrapped_instance` would wrap instance 1 twice).
Sampling cannot reach this: the harness cannot make CPython recycle an id at that moment. -/
example :
    let g1 := (addNode lifo (SG.empty lifo) 0 0 7).1
    let w0 := (addNode lifo (SG.empty lifo) 0 0 7).2
    let g2 := (addNode lifo g1 1 0 7).1
    lookup (removeNode Quirks.asIs lifo g2 w0) 7 = some ⟨1, 0, 1, 7⟩ ∧
    lookup ({ g2 with instIdx := g2.instIdx.filter (fun kw => kw.1 != w0.pid) } : SG (List Nat × Nat)) 7 = none := by
  decide +kernel

open KrroodVerif.Drive.SG in
/-- On the schema of the harness (the theorems above hold for every history, role classes and
`Op.newrole` included): a role holds its role taker strongly BY DESIGN (`Chair.emp`), and the field contents the
inference writes are references the user can see (`chair.manages = org`; `emp.employer = org` inferred through the role
taker) — the registry adds nothing to that: (1) while the user holds only the chair, the Emp and the Org live on;
(2) once the chair is dropped too, all three are reclaimed and after a sweep no SymbolGraph structure has an entry left;
(3) a chair that is dropped while the user keeps its role taker dies alone (the role taker does not pin its role). -/
theorem C20_role_witness :
    let ops : List Op := [.new 0 2 0, .new 1 1 1, .newrole 2 8 2 0, .set 7 2 1, .drop 0, .drop 1]
    (run Quirks.asIs schema lifo ops).h.live.map (·.obj) = [0, 1, 2] ∧
    (run Quirks.asIs schema lifo (ops ++ [.drop 2, .sweep])).h.live = [] ∧
    (run Quirks.asIs schema lifo (ops ++ [.drop 2, .sweep])).g.nodes = [] ∧
    (run Quirks.asIs schema lifo (ops ++ [.drop 2, .sweep])).g.instIdx = [] ∧
    (run Quirks.asIs schema lifo (ops ++ [.drop 2, .sweep])).g.relIdx = [] ∧
    (run Quirks.asIs schema lifo (ops ++ [.drop 2, .sweep])).g.edges = [] ∧
    (run Quirks.asIs schema lifo [.new 0 2 0, .newrole 2 8 2 0, .drop 2, .sweep]).h.live.map (·.obj) = [0] ∧
    (run Quirks.asIs schema lifo [.new 0 2 0, .newrole 2 8 2 0, .drop 2, .sweep]).g.nodes.map (·.obj) = [0] := by
  decide +kernel

end KrroodVerif.SG
