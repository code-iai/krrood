import KrroodVerif.Model.RuleHistory
/-!
C03, rule queries — "this includes rule queries that infer instances".

About `Model/RuleHistory.lean`: ONE rule query object under a history of `start | next | abandon | full | grow`.
Specification `RuleHist.spec`: every evaluation yields, result by result, what a freshly written query (the same
`with` blocks, never evaluated) yields when it is evaluated alone.

Which code: `HQuirks.today` is krrood before the commits f749997 (`_reset_evaluation_state_` also resets the
selectors' state, F-C03-4) and 97ba516 (tree surgery reads the graph parent, F-C03-6); `HQuirks.repaired` is krrood
with both, i.e. /repo at HEAD; `HQuirks.ideal` has evaluation-local node state in addition (F-C03-5; not in krrood).

`C03_rules_sequential` and `C03_rules_interleaved` are both `run_sim`, one simulation for every setting with the two
commits' behaviour. Not covered: a positive statement about `HQuirks.today` (the histories outside `trigAbandoned`,
`trigOverlap`, `trigStaleGrow`), and about `HQuirks.repaired` on histories with overlapping evaluations, where
`C03_cex_rule_suspended` shows a deviation.
-/
namespace KrroodVerif.RuleHist
open KrroodVerif.Rdr

/-! ### `pump` against `drain` -/

theorem drain_item (rc : KSt → List Nat) (x : Nat) (f : Bool) (s : KSt) (nxt : KSt → Gen) :
    (drain rc (.item x f s nxt)).1 =
      if f then (drain rc (nxt s)).1 else if (rc s).isEmpty then (drain rc (nxt s)).1
      else (rc s, x) :: (drain rc (nxt s)).1 := by
  rw [drain]
  split
  · rfl
  · split <;> rfl

theorem pump_item (rc : KSt → List Nat) (x : Nat) (f : Bool) (s : KSt) (nxt : KSt → Gen) :
    pump rc (.item x f s nxt) =
      if f then pump rc (nxt s) else if (rc s).isEmpty then pump rc (nxt s) else .emitted (rc s, x) s nxt := by
  rw [pump]

theorem drain_pump (rc : KSt → List Nat) (g : Gen) :
    (drain rc g).1 = match pump rc g with
      | .finished _ => []
      | .emitted row s nx => row :: (drain rc (nx s)).1 := by
  induction g with
  | done s0 => rfl
  | item x f s0 nxt ih =>
    rw [drain_item, pump_item]
    split
    · exact ih _
    · split
      · exact ih _
      · rfl

/-! ### the simulation -/

theorem growRun_graph (q : HQuirks) (hq : q.staleEvalParent = false) (ep : List (Option Nat)) :
    ∀ (ops : List Op) (b : BState), growRun q ep b ops = growRun HQuirks.ideal [] b ops := by
  intro ops
  induction ops with
  | nil =>
    intro b
    rfl
  | cons op ops ih =>
    intro b
    simp only [growRun, growStep, hq, HQuirks.ideal, Bool.not_false, if_true]
    cases b.step Quirks.today op with
    | none => rfl
    | some b' => exact ih b'

/-- what relates an iterator to its specification: resumed from the node state it will see (the shared one `st`, or
its own), it yields the rows the isolated run has left -/
inductive Rel (q : HQuirks) (st : KSt) : Iter → SIter → Prop
  | fresh : Rel q st .fresh .fresh
  | closed : Rel q st .closed .closed
  | susp {rc nx own rows k} (h : (drain rc (nx (if q.sharedState then st else own))).1 = rows.drop k) :
    Rel q st (.susp rc nx own) (.run rows k)

theorem Rel.of_local {q : HQuirks} (hq : q.sharedState = false) {st : KSt} (st' : KSt) {it : Iter} {sit : SIter}
    (h : Rel q st it sit) : Rel q st' it sit := by
  cases h with
  | fresh => exact .fresh
  | closed => exact .closed
  | susp h =>
    rw [hq] at h
    refine .susp ?_
    rw [hq]
    exact h

/-- the simulation invariant. With shared node state only the iterator advanced last (`cur`) is related: in a
sequential history the others are never advanced again -/
structure Sim (q : HQuirks) (cur : Option Nat) (m : Mach) (sm : SMach) : Prop where
  graph : m.b = sm.b
  iter : ∀ c, (q.sharedState = true → cur = some c) → Rel q m.st (m.its c) (sm.its c)

theorem Sim.set_iter {q : HQuirks} {cur cur' : Option Nat} {m : Mach} {sm : SMach} (h : Sim q cur m sm) (i : Nat)
    {it : Iter} {sit : SIter} (hr : Rel q m.st it sit)
    (hcur : q.sharedState = true → ∀ c, c ≠ i → cur' = some c → cur = some c) :
    Sim q cur' (m.set i it) (sm.set i sit) := by
  refine ⟨h.graph, fun c hc => ?_⟩
  simp only [Mach.set, SMach.set]
  by_cases hci : c = i
  · simp only [hci, if_true]
    exact hr
  · simp only [hci, if_false]
    exact h.iter c fun hsh => hcur hsh c hci (hc hsh)

/-- the end of an advance of `i` (`handleNext`, `full`): `m'` is `m`, or `m` after `beginEval` (`hb`, `hits`); `s'` is the
node state the generator stopped in, which becomes the shared one -/
theorem Sim.set_st {q : HQuirks} {cur cur' : Option Nat} {m m' : Mach} {sm : SMach} (h : Sim q cur m sm)
    (hb : m'.b = m.b) (hits : m'.its = m.its) (i : Nat) (s' : KSt) {it : Iter} {sit : SIter} (hr : Rel q s' it sit)
    (hcur : q.sharedState = true → ∀ c, cur' = some c → c = i) :
    Sim q cur' ((if q.sharedState then { m' with st := s' } else m').set i it) (sm.set i sit) := by
  cases hsh : q.sharedState
  · refine ⟨hb.trans h.graph, fun c _ => ?_⟩
    simp only [Bool.false_eq_true, if_false, Mach.set, SMach.set, hits]
    by_cases hci : c = i
    · simp only [hci, if_true]
      exact hr.of_local hsh _
    · simp only [hci, if_false]
      exact (h.iter c fun e => absurd (hsh ▸ e) Bool.false_ne_true).of_local hsh _
  · -- the shared node state becomes `s'`: only `i`, which is resumed from it, may be current
    refine ⟨hb.trans h.graph, fun c hc => ?_⟩
    cases hcur hsh c (hc hsh)
    simp only [if_true, Mach.set, SMach.set]
    exact hr

/-- `m'`: `m` with another node state; `g`: the generator that `i` resumes -/
theorem Sim.of_handleNext {q : HQuirks} {cur : Option Nat} {m m' : Mach} {sm : SMach} (h : Sim q cur m sm)
    (hb : m'.b = m.b) (hits : m'.its = m.its) (i : Nat) (hcur : q.sharedState = true → cur = some i)
    (rc : KSt → List Nat) (g : Gen) (rows : List Row) (k : Nat) (hg : (drain rc g).1 = rows.drop k) :
    (handleNext q m' i rc g).2 = (specNext sm i rows k).2 ∧
    Sim q cur (handleNext q m' i rc g).1 (specNext sm i rows k).1 := by
  -- the row `pump` stops at is the `k`-th of the isolated run; what the resumption yields are the rows after it
  have hk : rows[k]? = (rows.drop k).head? := (List.head?_drop ..).symm
  have hk1 : rows.drop (k + 1) = (rows.drop k).tail := (List.tail_drop ..).symm
  rw [← hg, drain_pump] at hk hk1
  have hcur' : q.sharedState = true → ∀ c, cur = some c → c = i := fun hsh c e => by
    rw [hcur hsh] at e
    exact (Option.some.inj e).symm
  unfold handleNext specNext
  cases hp : pump rc g with
  | finished s =>
    simp only [hp, List.head?_nil] at hk
    rw [hk]
    exact ⟨rfl, h.set_st hb hits i s .closed hcur'⟩
  | emitted row s nx =>
    simp only [hp, List.head?_cons, List.tail_cons] at hk hk1
    rw [hk]
    refine ⟨rfl, h.set_st hb hits i s (.susp ?_) hcur'⟩
    cases hsh : q.sharedState <;> simpa [hsh] using hk1.symm

theorem beginEval_fresh (pay : Payload) (dom : List Nat) (q : HQuirks) (hq : q.staleSelectorState = false) (m : Mach) :
    (beginEval pay dom q m = none ∧ freshRows pay dom m.b = none) ∨
    ∃ m' rc g, beginEval pay dom q m = some (m', rc, g) ∧ m'.b = m.b ∧ m'.its = m.its ∧
      freshRows pay dom m.b = some (drain rc g).1 := by
  unfold beginEval freshRows
  cases hmb : m.b with
  | none =>
    left
    exact ⟨rfl, rfl⟩
  | some b =>
    dsimp only
    cases hbt : b.tree with
    | none =>
      left
      exact ⟨rfl, rfl⟩
    | some t =>
      right
      dsimp only
      cases hsh : q.sharedState
      · exact ⟨_, _, _, rfl, rfl, rfl, rfl⟩
      · simp only [resetSt, hq, Bool.false_eq_true, ↓reduceIte]
        exact ⟨_, _, _, rfl, rfl, rfl, rfl⟩

theorem step_sim (pay : Payload) (dom : List Nat) (blk : Nat) (q : HQuirks) (hs : q.staleSelectorState = false)
    (hp : q.staleEvalParent = false) {cur : Option Nat} {m : Mach} {sm : SMach} (h : Sim q cur m sm) (op : HOp)
    (ops : List HOp) (hseq : q.sharedState = true → sequentialAux cur (op :: ops) = true) :
    ∃ cur', (step pay dom blk q m op).2 = (specStep pay dom blk sm op).2 ∧
      Sim q cur' (step pay dom blk q m op).1 (specStep pay dom blk sm op).1 ∧
      (q.sharedState = true → sequentialAux cur' ops = true) := by
  -- `cur'` is what `sequentialAux` goes on with: the only iterator a sequential history may still advance, hence the
  -- only one that has to stay related when the node state is shared
  cases op with
  | start i =>
    refine ⟨some i, rfl, h.set_iter i .fresh ?_, fun hsh => by simpa [sequentialAux] using hseq hsh⟩
    intro _ c hc e
    cases e
    exact absurd rfl hc
  | abandon i =>
    refine ⟨if cur == some i then none else cur, rfl, h.set_iter i .closed ?_, fun hsh => by
      simpa [sequentialAux] using hseq hsh⟩
    intro _ c hc e
    by_cases hci : cur = some i
    · simp [hci] at e
    · simpa [hci] using e
  | next i =>
    have hcur : q.sharedState = true → cur = some i ∧ sequentialAux cur ops = true := fun hsh => by
      simpa [sequentialAux] using hseq hsh
    have hri := h.iter i (fun hsh => (hcur hsh).1)
    generalize hm : m.its i = it at hri
    generalize hsi : sm.its i = sit at hri
    cases hri with
    | fresh =>
      rcases beginEval_fresh pay dom q hs m with ⟨h1, h2⟩ | ⟨m', rc, g, h1, hb', hits, h4⟩
      · simp only [step, specStep, Mach.get, SMach.get, hm, hsi, h1, ← h.graph, h2]
        exact ⟨cur, trivial, h.set_iter i .closed fun _ _ _ e => e, fun hsh => (hcur hsh).2⟩
      · simp only [step, specStep, Mach.get, SMach.get, hm, hsi, h1, ← h.graph, h4]
        obtain ⟨e1, e2⟩ := h.of_handleNext hb' hits i (fun hsh => (hcur hsh).1) rc g (drain rc g).1 0 (by simp)
        exact ⟨cur, e1, e2, fun hsh => (hcur hsh).2⟩
    | closed =>
      simp only [step, specStep, Mach.get, SMach.get, hm, hsi]
      exact ⟨cur, trivial, h, fun hsh => (hcur hsh).2⟩
    | @susp rc nx own rows k hg =>
      simp only [step, specStep, Mach.get, SMach.get, hm, hsi]
      obtain ⟨e1, e2⟩ := h.of_handleNext rfl rfl i (fun hsh => (hcur hsh).1) rc _ rows k hg
      exact ⟨cur, e1, e2, fun hsh => (hcur hsh).2⟩
  | full i =>
    have hseq' : q.sharedState = true → sequentialAux none ops = true := fun hsh => by
      simpa [sequentialAux] using hseq hsh
    rcases beginEval_fresh pay dom q hs m with ⟨h1, h2⟩ | ⟨m', rc, g, h1, hb', hits, h4⟩
    · simp only [step, specStep, h1, ← h.graph, h2]
      exact ⟨none, trivial, h.set_iter i .closed fun _ _ _ => nofun, hseq'⟩
    · simp only [step, specStep, h1, ← h.graph, h4]
      exact ⟨none, trivial, h.set_st hb' hits i _ .closed fun _ _ => nofun, hseq'⟩
  | grow items =>
    -- no iterator is current after a `grow`: with shared state nothing has to be related
    have hnone : ∀ c, (q.sharedState = true → none = some c) → q.sharedState = true → cur = some c :=
      fun c hc hsh => absurd (hc hsh) (Option.some_ne_none c).symm
    refine ⟨none, rfl, ⟨?_, fun c hc => h.iter c (hnone c hc)⟩, fun hsh => by
      simpa [sequentialAux] using hseq hsh⟩
    simp only [step, specStep]
    rw [h.graph]
    cases sm.b with
    | none => rfl
    | some b =>
      simp only [Option.bind]
      exact growRun_graph q hp _ _ _

theorem run_sim (pay : Payload) (dom : List Nat) (blk : Nat) (q : HQuirks) (hs : q.staleSelectorState = false)
    (hp : q.staleEvalParent = false) : ∀ (ops : List HOp) (m : Mach) (sm : SMach) (cur : Option Nat),
    Sim q cur m sm → (q.sharedState = true → sequentialAux cur ops = true) →
    run pay dom blk q m ops = specRun pay dom blk sm ops := by
  intro ops
  induction ops with
  | nil =>
    intros
    rfl
  | cons op ops ih =>
    intro m sm cur h hseq
    obtain ⟨cur', e, h', hseq'⟩ := step_sim pay dom blk q hs hp h op ops hseq
    simp only [run, specRun]
    rw [e, ih _ _ cur' h' hseq']

/-- with evaluation-local node state (`HQuirks.ideal`), under every history each step of each iterator yields what
the isolated run yields — whatever the interleaving, abandonment and growth of the tree. -/
theorem C03_rules_interleaved (pay : Payload) (dom : List Nat) (a : Authored) (ops : List HOp) :
    model HQuirks.ideal pay dom a ops = spec pay dom a ops :=
  run_sim pay dom a.blk HQuirks.ideal rfl rfl ops _ _ none ⟨rfl, fun _ _ => .closed⟩ nofun

/-- for krrood with f749997 and 97ba516 (`HQuirks.repaired`), under every history in which evaluations do not
overlap: whatever the rule program, the domain, the points at which iterators are abandoned (or just left), the number
of repetitions and the growth of the tree between evaluations, every step yields what the isolated run of a freshly
written query yields. -/
theorem C03_rules_sequential (pay : Payload) (dom : List Nat) (a : Authored) (ops : List HOp)
    (hseq : sequential ops = true) :
    model HQuirks.repaired pay dom a ops = spec pay dom a ops :=
  run_sim pay dom a.blk HQuirks.repaired rfl rfl ops _ _ none
    ⟨rfl, fun c hc => absurd (hc rfl) (Option.some_ne_none c).symm⟩ (fun _ => hseq)

/-! ### witnesses of the three findings -/

def cexA_pay : Payload := Payload.ofList [⟨[1], [0]⟩, ⟨[0], []⟩]
def cexA_prog : Authored := ⟨0, [.add, .kid .alt (.mk 1 .nil)]⟩
def cexA_ops : List HOp := [.start 0, .next 0, .abandon 0, .full 1]

/-- F-C03-4, krrood before f749997 (`HQuirks.today`). `x` over `[0, 1]`; rule `x ∈ {1}` concluding `K0`, with an
`alternative(x ∈ {0})` that concludes nothing. The first result (`K0` of 1) is read and the iterator closed: the
`Alternative` keeps `{K0}` in its `_conclusion_`. The next complete evaluation then also concludes `K0` for 0. With
the selector state reset (`staleSelectorState := false`) it does not. -/
theorem C03_cex_rule_abandoned :
    trigAbandoned cexA_ops = true ∧ sequential cexA_ops = true ∧
    spec cexA_pay [0, 1] cexA_prog cexA_ops = [.none, .row ([0], 1), .none, .rows [([0], 1)]] ∧
    model HQuirks.today cexA_pay [0, 1] cexA_prog cexA_ops = [.none, .row ([0], 1), .none, .rows [([0], 0), ([0], 1)]] ∧
    model { HQuirks.today with staleSelectorState := false } cexA_pay [0, 1] cexA_prog cexA_ops
      = spec cexA_pay [0, 1] cexA_prog cexA_ops := by
  decide +kernel

def cexB_pay : Payload := Payload.ofList [⟨[0, 1, 2], [0]⟩, ⟨[0, 1, 2], [1]⟩]
def cexB_prog : Authored := ⟨0, [.add, .kid .alt (.mk 1 .nil)]⟩
def cexB_ops : List HOp := [.start 0, .next 0, .full 1, .next 0]

/-- F-C03-5. `x` over `[0, 1, 2]`; rule `x ∈ {0,1,2}` concluding `K0` with an alternative. One result is read, the
query is evaluated completely by someone else (correct), then the first iterator yields nothing more: the complete
evaluation left everything "concluded before". This is so with and without the two commits (`HQuirks.repaired` and
`HQuirks.today` agree); with evaluation-local state (`HQuirks.ideal`) it is not. -/
theorem C03_cex_rule_suspended :
    trigOverlap cexB_ops = true ∧
    spec cexB_pay [0, 1, 2] cexB_prog cexB_ops
      = [.none, .row ([0], 0), .rows [([0], 0), ([0], 1), ([0], 2)], .row ([0], 1)] ∧
    model HQuirks.today cexB_pay [0, 1, 2] cexB_prog cexB_ops
      = [.none, .row ([0], 0), .rows [([0], 0), ([0], 1), ([0], 2)], .stop] ∧
    model HQuirks.repaired cexB_pay [0, 1, 2] cexB_prog cexB_ops
      = model HQuirks.today cexB_pay [0, 1, 2] cexB_prog cexB_ops ∧
    model HQuirks.ideal cexB_pay [0, 1, 2] cexB_prog cexB_ops = spec cexB_pay [0, 1, 2] cexB_prog cexB_ops := by
  decide +kernel

def cexC_pay : Payload := Payload.ofList [⟨[0, 1, 2, 3], [0]⟩, ⟨[1], [1]⟩, ⟨[2], [2]⟩]
def cexC_prog : Authored := ⟨0, [.add]⟩
def cexC_ops : List HOp := [.full 0, .grow [.kid .ref (.mk 1 .nil), .kid .ref (.mk 2 .nil)], .full 1]

/-- F-C03-6, krrood before 97ba516 (`HQuirks.today`). `x` over `[0,1,2,3]`; plain rule concluding `K0`, evaluated
once; then ONE `with query:` block adds `refinement(x ∈ {1})` concluding `K1` and `refinement(x ∈ {2})` concluding
`K2`. The second `refinement()` reads the condition's `_parent_`, gets the evaluation parent (the query descriptor)
instead of the first `ExceptIf`, and hangs its own `ExceptIf` directly under the descriptor: the first refinement is not
evaluated (`K0` for 1). When the surgery reads the graph parent (`staleEvalParent := false`) it is. -/
theorem C03_cex_rule_stale_parent :
    trigStaleGrow cexC_ops = true ∧ sequential cexC_ops = true ∧ trigAbandoned cexC_ops = false ∧
    spec cexC_pay [0, 1, 2, 3] cexC_prog cexC_ops
      = [.rows [([0], 0), ([0], 1), ([0], 2), ([0], 3)], .none, .rows [([0], 0), ([1], 1), ([2], 2), ([0], 3)]] ∧
    model HQuirks.today cexC_pay [0, 1, 2, 3] cexC_prog cexC_ops
      = [.rows [([0], 0), ([0], 1), ([0], 2), ([0], 3)], .none, .rows [([0], 0), ([0], 1), ([2], 2), ([0], 3)]] ∧
    model { HQuirks.today with staleEvalParent := false } cexC_pay [0, 1, 2, 3] cexC_prog cexC_ops
      = spec cexC_pay [0, 1, 2, 3] cexC_prog cexC_ops := by
  decide +kernel

/-- non-vacuity: a history with abandonment, repetition and growth that is sequential — and on which krrood before
f749997 (`HQuirks.today`) deviates -/
example : sequential (cexA_ops ++ cexC_ops) = true ∧
    model HQuirks.today cexA_pay [0, 1] cexA_prog cexA_ops ≠ spec cexA_pay [0, 1] cexA_prog cexA_ops := by
  obtain ⟨_, _, hs, hm, _⟩ := C03_cex_rule_abandoned
  rw [hs, hm]
  decide

end KrroodVerif.RuleHist
