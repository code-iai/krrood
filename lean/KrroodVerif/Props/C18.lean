import KrroodVerif.Props.C19
/-!
# C18 — JSON serialisation round-trips polymorphic objects

`toJson` / `fromJson` (Model/Json.lean) transcribe `to_json` / `from_json` of
`krrood/adapters/json_serializer.py`; `fromJson` resolves every type tag with `resolve`, the very function C19 is
about. `json.dumps`/`json.loads` is assumed to be the identity on `Json` trees (validated per case by the harness).

All theorems are unbounded: any nesting depth of lists and objects, any classes, any field names, any leaves,
every import environment, **every** quirk setting of the resolver (the escaping exceptions of C19 are never
reached from a serialised well-formed value).
-/
namespace KrroodVerif.Json

theorem resolvable_spec {env : Env} {c : Cls} {ser : Bool} (h : resolvable env c ser = true) :
    c.name.toList.contains '.' = false ∧ env.importModule c.module = .ok ∧
    ∃ reg impl, env.getattr c.module c.name = .cls c ser reg impl ∧
      (if ser then impl = true else reg = true ∧ env.payloadKey c ≠ tagKey) := by
  unfold resolvable at h
  simp only [Bool.and_eq_true, Bool.not_eq_true', beq_iff_eq] at h
  obtain ⟨⟨hdot, himp⟩, hattr⟩ := h
  refine ⟨hdot, himp, ?_⟩
  split at hattr
  · rename_i c' ser' reg' impl' hk
    simp only [Bool.and_eq_true, beq_iff_eq] at hattr
    obtain ⟨⟨rfl, rfl⟩, hr⟩ := hattr
    exact ⟨reg', impl', hk, by cases ser' <;> simpa using hr⟩
  · cases hattr

theorem resolve_resolvable (q : Quirks) (env : Env) (c : Cls) (ser : Bool)
    (h : resolvable env c ser = true) :
    resolve q env (some (.str c.fullName)) = .dispatch c (if ser then .fromJson else .registry) := by
  obtain ⟨hdot, himp, reg, impl, hattr, hx⟩ := resolvable_spec h
  refine (resolve_dispatch_iff ..).2 ⟨_, _, _, ser, reg, impl, rfl, rsplit_fullName c hdot, himp, hattr, ?_, rfl⟩
  cases ser
  · exact hx.1
  · exact hx

theorem wf_list {env : Env} {xs : List PyVal} (h : wf env (.list xs) = true) : wfList env xs = true := by
  simpa [wf] using h

theorem wf_ext {env : Env} {c : Cls} {p : String} (h : wf env (.ext c p) = true) : resolvable env c false = true := by
  simpa [wf] using h

theorem wf_obj {env : Env} {c : Cls} {fs : List (String × PyVal)} (h : wf env (.obj c fs) = true) :
    resolvable env c true = true ∧ wfFields env fs = true := by
  simpa [wf] using h

theorem wfList_cons {env : Env} {x : PyVal} {xs : List PyVal} (h : wfList env (x :: xs) = true) :
    wf env x = true ∧ wfList env xs = true := by
  simpa [wfList] using h

theorem wfFields_cons {env : Env} {k : String} {v : PyVal} {r : List (String × PyVal)}
    (h : wfFields env ((k, v) :: r) = true) : (k ≠ tagKey ∧ wf env v = true) ∧ wfFields env r = true := by
  simpa [wfFields] using h

mutual
/-- For every import environment, every quirk setting of the resolver and every well-formed
value — leaves, registered third-party instances, `SubclassJSONSerializer` instances of any class, lists, nested
to any depth — deserialising the serialised value gives back exactly the value: same structure, same leaves, and
every object an instance of exactly its original class (`Cls` equality includes the class identity). -/
theorem C18_roundtrip (q : Quirks) (env : Env) (v : PyVal) (h : wf env v = true) :
    fromJson q env (toJson env v) = .ok v :=
  match v, h with
  | .none, _ => rfl
  | .bool _, _ => rfl
  | .int _, _ => rfl
  | .float _, _ => rfl
  | .str _, _ => rfl
  | .ext c p, h => by
    have hr := wf_ext h
    -- the payload key is not the tag key (`hk`), so reading the payload passes the tag entry
    obtain ⟨_, _, _, _, _, _, hk⟩ := resolvable_spec hr
    simp only [toJson, fromJson, lookup, ↓reduceIte, resolve_resolvable q env c false hr]
    simp [Ne.symm hk]
  | .list xs, h => by simp [toJson, fromJson, roundtrip_list q env xs (wf_list h)]
  | .obj c fs, h => by
    have h' := wf_obj h
    simp only [toJson, fromJson, lookup, ↓reduceIte, resolve_resolvable q env c true h'.1]
    simp [fromJsonFields, roundtrip_fields q env fs h'.2]
theorem roundtrip_list (q : Quirks) (env : Env) :
    ∀ xs : List PyVal, wfList env xs = true → fromJsonList q env (toJsonList env xs) = .ok xs
  | [], _ => rfl
  | x :: xs, h => by
    have h' := wfList_cons h
    simp [toJsonList, fromJsonList, C18_roundtrip q env x h'.1, roundtrip_list q env xs h'.2]
theorem roundtrip_fields (q : Quirks) (env : Env) :
    ∀ fs : List (String × PyVal), wfFields env fs = true → fromJsonFields q env (toJsonFields env fs) = .ok fs
  | [], _ => rfl
  | (k, v) :: r, h => by
    have h' := wfFields_cons h
    simp [toJsonFields, fromJsonFields, h'.1.1, C18_roundtrip q env v h'.1.2, roundtrip_fields q env r h'.2]
end

mutual
theorem jsonTags_toJson (env : Env) : ∀ v : PyVal, jsonTags (toJson env v) = valueTags v
  | .none => rfl
  | .bool _ => rfl
  | .int _ => rfl
  | .float _ => rfl
  | .str _ => rfl
  | .ext c p => by simp [toJson, jsonTags, valueTags, lookup, jsonTagsFields]
  | .list xs => by simp [toJson, jsonTags, valueTags, jsonTagsList_toJsonList env xs]
  | .obj c fs => by simp [toJson, jsonTags, valueTags, lookup, jsonTagsFields, jsonTagsFields_toJsonFields env fs]
theorem jsonTagsList_toJsonList (env : Env) : ∀ xs : List PyVal, jsonTagsList (toJsonList env xs) = valueTagsList xs
  | [] => rfl
  | x :: xs => by
    simp [toJsonList, jsonTagsList, valueTagsList, jsonTags_toJson env x, jsonTagsList_toJsonList env xs]
theorem jsonTagsFields_toJsonFields (env : Env) :
    ∀ fs : List (String × PyVal), jsonTagsFields (toJsonFields env fs) = valueTagsFields fs
  | [] => rfl
  | (k, v) :: r => by
    simp [toJsonFields, jsonTagsFields, valueTagsFields, jsonTags_toJson env v, jsonTagsFields_toJsonFields env r]
end

theorem tags_list : ∀ xs : List PyVal, wfList env xs = true → jsonTagsList (toJsonList env xs) = valueTagsList xs :=
  fun xs _ => jsonTagsList_toJsonList env xs

theorem tags_fields : ∀ fs : List (String × PyVal), wfFields env fs = true →
    jsonTagsFields (toJsonFields env fs) = valueTagsFields fs :=
  fun fs _ => jsonTagsFields_toJsonFields env fs

/-- In the serialised form of a well-formed value every JSON object — at any depth — carries under
`__json_type__` the string `module + "." + name` of the class of the object it stands for, in document order;
no object lacks the key (`valueTags` never contains `none`), and at the top level the tag is the first entry. -/
theorem C18_tag (env : Env) (v : PyVal) (h : wf env v = true) :
    jsonTags (toJson env v) = valueTags v ∧
    (∀ c fs, v = .obj c fs → ∃ rest, toJson env v = .obj ((tagKey, .str (c.module ++ "." ++ c.name)) :: rest)) ∧
    (∀ c p, v = .ext c p → ∃ rest, toJson env v = .obj ((tagKey, .str (c.module ++ "." ++ c.name)) :: rest)) := by
  refine ⟨jsonTags_toJson env v, ?_, ?_⟩
  · intro c fs e
    subst e
    exact ⟨_, rfl⟩
  · intro c p e
    subst e
    exact ⟨_, rfl⟩

/-! Non-vacuity: a concrete environment and a nested well-formed value with two
classes, a registered type, an empty list and a list in a field; and a value that is *not* well-formed because
its class is not resolvable (so `wf` is not trivially true). -/
def exA : Cls := ⟨"k0", "m.sub", "A"⟩
def exB : Cls := ⟨"k1", "m.sub", "B"⟩
def exU : Cls := ⟨"k2", "uuid", "UUID"⟩
def exEnv : Env where
  importModule := fun m => if m = "m.sub" ∨ m = "uuid" then .ok else .notFound
  getattr := fun m n =>
    if m = "m.sub" ∧ n = "A" then .cls exA true false true
    else if m = "m.sub" ∧ n = "B" then .cls exB true false true
    else if m = "uuid" ∧ n = "UUID" then .cls exU false true true
    else .missing
def exVal : PyVal :=
  .obj exB [("x", .list [.obj exA [], .list [], .ext exU "p", .int 5]), ("y", .none)]

theorem exVal_wf : wf exEnv exVal = true := by decide

example : wf exEnv exVal = true ∧ fromJson .all exEnv (toJson exEnv exVal) = .ok exVal :=
  ⟨exVal_wf, C18_roundtrip _ _ _ exVal_wf⟩
example : valueTags exVal = [some (.str "m.sub.B"), some (.str "m.sub.A"), some (.str "uuid.UUID")] := by
  simp [valueTags, valueTagsFields, valueTagsList, exVal, exA, exB, exU, Cls.fullName]
example : wf exEnv (.obj ⟨"k9", "m.sub", "Local"⟩ []) = false := by decide
example : wf exEnv (.obj exA [(tagKey, .none)]) = false := by decide
/-- a serializer class that does not implement `_from_json` (abstract) is not well-formed -/
example : wf { exEnv with getattr := fun _ _ => .cls exA true false false } (.obj exA []) = false := by decide


/-! ### Shared sub-values: aliasing is irrelevant

A value in which one list object / one serialisable object is referenced from several places (`SVal`, a DAG) stands
for the tree `SVal.tree`; `toJson` is a function of that tree, so the round trip of a shared value is the round trip
of its tree. The statement is trivial in the model *because* the model serialises structure only — the correspondence
exercises aliased Python values (same `id()`) against it. -/

theorem C18_roundtrip_shared (q : Quirks) (env : Env) (s : SVal) (v : PyVal) (hs : s.tree = some v)
    (h : wf env v = true) : (s.tree.map fun t => fromJson q env (toJson env t)) = some (.ok v) := by
  rw [hs]
  simp [C18_roundtrip q env v h]

/-- `e = []; [e, e]` and `row = [0]; [[row, row], row]` expand to the trees they stand for; a reference before
its definition (a cycle) has no tree -/
example : (SVal.list [.defn 0 (.list []), .ref 0]).tree = some (.list [.list [], .list []]) ∧
    (SVal.list [.list [.defn 1 (.list [.leaf (.int 0)]), .ref 1], .ref 1]).tree
      = some (.list [.list [.list [.int 0], .list [.int 0]], .list [.int 0]]) ∧
    (SVal.defn 0 (.list [.ref 0])).tree = none := by
  refine ⟨?_, ?_, ?_⟩ <;> simp [SVal.tree, expand, expandList, lookupDef]

/-! ### Histories of registrations and round trips -/

mutual
theorem serializable_of_wf (env : Env) : ∀ v : PyVal, wf env v = true → serializable env v = true
  | .none, _ => rfl
  | .bool _, _ => rfl
  | .int _, _ => rfl
  | .float _, _ => rfl
  | .str _, _ => rfl
  | .ext c p, h => by
    obtain ⟨_, _, _, _, hattr, hx⟩ := resolvable_spec (wf_ext h)
    simp [serializable, hattr, hx.1]
  | .list xs, h => by simp [serializable, serializableList_of_wf env xs (wf_list h)]
  | .obj c fs, h => by simp [serializable, serializableFields_of_wf env fs (wf_obj h).2]
theorem serializableList_of_wf (env : Env) : ∀ xs : List PyVal, wfList env xs = true → serializableList env xs = true
  | [], _ => rfl
  | x :: xs, h => by
    have h' := wfList_cons h
    simp [serializableList, serializable_of_wf env x h'.1, serializableList_of_wf env xs h'.2]
theorem serializableFields_of_wf (env : Env) :
    ∀ fs : List (String × PyVal), wfFields env fs = true → serializableFields env fs = true
  | [], _ => rfl
  | (k, v) :: r, h => by
    have h' := wfFields_cons h
    simp [serializableFields, serializable_of_wf env v h'.1.2, serializableFields_of_wf env r h'.2]
end

theorem runOps_append (q : Quirks) (base : Env) (ops₂ : List HOp) :
    ∀ (ops₁ : List HOp) (R : RegState),
      runOps q base (ops₁ ++ ops₂) R =
        ((runOps q base ops₁ R).1 ++ (runOps q base ops₂ (runOps q base ops₁ R).2).1,
         (runOps q base ops₂ (runOps q base ops₁ R).2).2)
  | [], R => by simp [runOps]
  | op :: ops, R => by
    simp only [List.cons_append, runOps]
    rw [runOps_append q base ops₂ ops]

/-- After ANY history of operations (registrations, re-registrations, failed or successful
serialisations, deserialisations of stored documents) starting in any registry state, a round trip of a value that
is well-formed in the registry state *reached* gives back the value — whatever the earlier states were, in particular
if the same value could not be serialised earlier (type not yet registered) or was serialised under another
registration of the type. -/
theorem C18_history (q : Quirks) (base : Env) (ops : List HOp) (R₀ : RegState) (v : PyVal)
    (h : wf (envWith base (runOps q base ops R₀).2) v = true) :
    runOps q base (ops ++ [.rt v]) R₀ =
      ((runOps q base ops R₀).1 ++ [.result (.ok v)], (runOps q base ops R₀).2) := by
  rw [runOps_append]
  simp only [runOps, stepOp, serializable_of_wf _ v h, if_true, C18_roundtrip q _ v h]

/-- Registering a (de)serializer pair for a module-level plain class makes its instances
well-formed immediately, for every earlier state `R` (also one that holds an older registration of the same class
under another key: the newest pair is the one that counts). -/
theorem C18_registered_wf (base : Env) (R : RegState) (c : Cls) (key p : String) (reg impl : Bool)
    (hdot : c.name.toList.contains '.' = false) (himp : base.importModule c.module = .ok)
    (hattr : base.getattr c.module c.name = .cls c false reg impl) (hkey : key ≠ tagKey) :
    wf (envWith base (⟨c, key⟩ :: R)) (.ext c p) = true := by
  have hn : '.' ∉ c.name.toList := by simpa using hdot
  simp [wf, resolvable, envWith, hn, himp, hattr, RegState.byCls, hkey]

/-! Register on demand, and a replaced registration (the two scenarios of a stale registry cache), on a plain class
`m.sub.H` added to `exEnv`. -/
def hCls : Cls := ⟨"h0", "m.sub", "H"⟩
def hEnv : Env := { exEnv with getattr := fun m n => if m = "m.sub" ∧ n = "H" then .cls hCls false false true else exEnv.getattr m n }
example : (runOps .none hEnv [.rt (.ext hCls "p"), .register hCls "text", .rt (.list [.ext hCls "p"])] []).1.length = 3 ∧
    wf (envWith hEnv (runOps .none hEnv [.rt (.ext hCls "p"), .register hCls "text"] []).2) (.list [.ext hCls "p"]) = true ∧
    wf (envWith hEnv []) (.ext hCls "p") = false := by
  refine ⟨by simp [runOps, stepOp], by decide, by decide⟩
example : toJson (envWith hEnv [⟨hCls, "tuple"⟩, ⟨hCls, "text"⟩]) (.ext hCls "p")
    = .obj [(tagKey, .str "m.sub.H"), ("tuple", .str "p")] := by
  simp [toJson, envWith, RegState.byCls, hCls, Cls.fullName]

end KrroodVerif.Json
